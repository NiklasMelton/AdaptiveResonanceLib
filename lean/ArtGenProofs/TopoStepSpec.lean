/-
ArtGenProofs.TopoStepSpec — `TopoART.step_fit` (and `TopoART.update`), as translated from the Python source by
`harness/artv/ttrans2.py` (ArtGen/TopoStep.lean), computes the model's `topoStep` (ArtModel/Topo.lean: the two-winner
loop `topoSearch`, `topoStepSearch`, `applyTopo`) — for every state, sample, reset function, match-tracking mode and
epsilon, under the kernel contract `Contract` on the base module's methods; no bound on the number of categories.
The property theorems of `ArtProps/C14.lean` about one training step are transported to the generated code.
-/
import Mathlib.Order.Basic
import Mathlib.Order.Defs.LinearOrder
import ArtGen.TopoStep
import ArtProofs.Topo
import ArtProps.C14
import ArtGenProofs.GenSpec
import ArtGenProofs.ControlSpec
import ArtGenProofs.TopoSpec
import Mathlib.Algebra.Order.Field.Rat

namespace Art.GenSpec.TopoStep

open Art Art.Imp

set_option linter.unusedSectionVars false

/-! ### The translated `while any(~isnan(T))` loop against the model's `topoSearch` -/

section Loop
variable {P α μ θ : Type} [LinearOrder α]

/-- the best winner found so far (if any) is no longer a candidate of `T` (`T[resonant_c] = nan`) -/
def Struck (T : List (Option α)) (best : Option Nat) : Prop :=
  ∀ b, best = some b → ∀ v, T[b]? ≠ some (some v)

theorem Struck.ne {T : List (Option α)} {best : Option Nat} {c : Nat} (h : Struck T best)
    (hc : nanargmax T = some c) : ∀ b, best = some b → b ≠ c := by
  intro b hb e
  obtain ⟨v, hv⟩ := nanargmax_isSome_at hc
  exact h b hb v (e ▸ hv)

theorem Struck.set {T : List (Option α)} {best : Option Nat} (h : Struck T best) (c : Nat) :
    Struck (T.set c none) best := by
  intro b hb v hv
  exact h b hb v (live_of_live_set hv).1

theorem Struck.set_self (T : List (Option α)) (c : Nat) : Struck (T.set c none) (some c) := by
  intro b hb v hv
  cases hb
  exact (live_of_live_set hv).2 rfl

theorem any_blank (T : List (Option α)) : (T.map (fun _ => (none : Option α))).any Option.isSome = false :=
  List.any_eq_false.mpr fun _ ht => by
    obtain ⟨_, _, rfl⟩ := List.mem_map.mp ht
    exact Bool.false_ne_true

/-- what one iteration of the translated loop body does, in the model's vocabulary (`pack p T best` is the tuple of
loop-carried variables when the base module's params are `p`, the activation vector is `T` and `resonant_c` encodes
`best`; `res b c` is what the body returns when `c` resonates after `b`) -/
structure BodySpec {R S : Type} (cfg : SearchCfg μ θ) (M : Nat → μ) (veto : Nat → Bool) (th : P → θ) (Good : P → Prop)
    (pack : P → List (Option α) → Option Nat → S) (res : Nat → Nat → R) (body : S → Flow R S) (L : Nat) : Prop where
  step : ∀ (p : P) (T : List (Option α)) (best : Option Nat) (c : Nat), T.length = L → nanargmax T = some c → Good p →
    (∀ b, best = some b → b ≠ c) →
    if cfg.passes (th p) (M c) then
      if veto c then
        ∃ p1, Good p1 ∧ th p1 = cfg.track (th p) (M c) ∧
          body (pack p T best) =
            .next (pack p1 (if cfg.keep then T.set c none else (T.set c none).map (fun _ => none)) best)
      else
        match best with
        | none => body (pack p T none) = .next (pack p (T.set c none) (some c))
        | some b => body (pack p T (some b)) = .ret (res b c)
    else body (pack p T best) = .next (pack p (T.set c none) best)

/-- **the translated two-winner loop follows the model's `topoSearch`**: it returns from inside the loop exactly when
the model finds a second winner (with the value the body computes for that pair), and otherwise falls through with
`resonant_c` = the model's `best` — for every fuel, every params state, every activation vector and every `best` handed
in (struck from `T`). -/
theorem loop_follows_topoSearch {R S : Type} (cfg : SearchCfg μ θ) (M : Nat → μ) (veto : Nat → Bool) (th : P → θ)
    (Good : P → Prop) (pack : P → List (Option α) → Option Nat → S) (res : Nat → Nat → R)
    (cond : S → Bool) (body : S → Flow R S)
    (hcond : ∀ p T b, cond (pack p T b) = T.any Option.isSome)
    (L : Nat) (hbody : BodySpec cfg M veto th Good pack res body L) :
    ∀ (fuel : Nat) (p : P) (T : List (Option α)) (best : Option Nat), T.length = L → Good p → Struck T best →
      match (topoSearch cfg M veto fuel T (th p) best).second with
      | some c => ∃ b, (topoSearch cfg M veto fuel T (th p) best).best = some b ∧
          whileFuel cond body fuel (pack p T best) = .ret (res b c)
      | none => ∃ p' T', whileFuel cond body fuel (pack p T best) =
          .next (pack p' T' (topoSearch cfg M veto fuel T (th p) best).best) := by
  intro fuel
  induction fuel with
  | zero => exact fun p T _ _ _ _ => ⟨p, T, rfl⟩
  | succ n ih =>
    intro p T best hL hg hst
    rw [topoSearch]
    cases hn : nanargmax T with
    | none =>
      refine ⟨p, T, whileFuel_stop _ ?_⟩
      rw [hcond, Bool.eq_false_iff]
      exact fun h => nomatch hn.symm.trans ((Control.any_isSome_iff T).mp h).choose_spec
    | some c =>
      have hany : cond (pack p T best) = true := (hcond p T best).trans ((Control.any_isSome_iff T).mpr ⟨c, hn⟩)
      have hL' : (T.set c none).length = L := (List.length_set ..).trans hL
      have hs := hbody.step p T best c hL hn hg (hst.ne hn)
      dsimp only
      cases hm : cfg.passes (th p) (M c) with
      | false =>
        rw [hm] at hs
        rw [whileFuel_next n hany hs]
        exact ih p (T.set c none) best hL' hg (hst.set c)
      | true =>
        rw [hm] at hs
        cases hv : veto c with
        | true =>
          rw [hv] at hs
          obtain ⟨p1, hg1, hp1, hb⟩ := hs
          rw [whileFuel_next n hany hb]
          cases hk : cfg.keep with
          | true => exact hp1 ▸ ih p1 (T.set c none) best hL' hg1 (hst.set c)
          | false => exact ⟨p1, _, whileFuel_stop n ((hcond ..).trans (any_blank _))⟩
        | false =>
          rw [hv] at hs
          cases best with
          | none =>
            rw [whileFuel_next n hany hs]
            exact ih p (T.set c none) (some c) hL' hg (Struck.set_self T c)
          | some b => exact ⟨b, rfl, whileFuel_ret n hany hs⟩

end Loop

/-! ### The kernel contract, `update`, and the loop body -/

section Step
variable {X Wt P C α μ θ : Type} [LinearOrder α]

/-- The kernel contract: how the base module's methods called by `TopoART.step_fit` (fields of `E`) relate to the
model's kernel `K` and search configuration `cfg`.  `th` reads the vigilance state out of a `params` dictionary;
`Good p` says that `p` is the base module's configured dictionary up to what match tracking may have done to it (so
that `update` with it learns at the configured `beta`); `own` is the wrapper's own dictionary (the one holding
`beta_lower`), `p0` the base module's dictionary when the step starts. -/
structure Contract (K : TopoKernel X Wt α μ) (cfg : SearchCfg μ θ) (E : ImpTopoStep.Ext X Wt P C α) (th : P → θ)
    (Good : P → Prop) (W : List Wt) (x : X) (own p0 : P) (is_none : Bool) (reset : X → Wt → Nat → P → C → Bool)
    (veto : Nat → Bool) (mt : MT) (eps : α) : Prop where
  good0 : Good p0
  /-- match tracking only moves the vigilance -/
  good_track : ∀ c p, Good p → Good (E.match_tracking c eps p mt).2
  /-- activations are computed with the configured parameters -/
  choice : ∀ w, (E.category_choice W x w p0).1 = K.choice W x w
  /-- the binary match test depends on `params` only through the vigilance state -/
  passes : ∀ w p c, (E.match_criterion_bin x w p c (E.operator mt)).1 = cfg.passes (th p) (K.matchv x w)
  /-- `_match_tracking` reads the match value from the cache `match_criterion_bin` returned -/
  track : ∀ w p c, th (E.match_tracking (E.match_criterion_bin x w p c (E.operator mt)).2 eps p mt).2
            = cfg.track (th p) (K.matchv x w)
  keep : ∀ c p, (E.match_tracking c eps p mt).1 = cfg.keep
  /-- with the base module's own dictionary `update` learns at the configured rate … -/
  update : ∀ w p c, Good p → E.update x w p c = K.update x w
  /-- … and with `dict(params, beta=self.params["beta_lower"])` at the lower rate -/
  updateLower : ∀ w p c, Good p →
    E.update x w (E.dict_with p "beta" (E.param own "beta_lower")) c = K.updateLower x w
  /-- `new_weight` is called with the wrapper's own dictionary -/
  newW : E.new_weight x own = K.newW x
  /-- the two integer keys written into the cache handed to `update` are read back -/
  cache_res : ∀ c r k, E.cache_int (E.cache_with (E.cache_with (E.cache_or_empty c) "resonant_c" r) "current_c" k)
    "resonant_c" = some r
  cache_cur : ∀ c r k, E.cache_int (E.cache_with (E.cache_with (E.cache_or_empty c) "resonant_c" r) "current_c" k)
    "current_c" = some k
  veto_none : is_none = true → ∀ c, veto c = false
  /-- the reset function's answer for category `c` does not depend on `params` / `cache` -/
  veto_some : is_none = false → ∀ c w p ch, W[c]? = some w → reset x w c p ch = !veto c

/-- the model state of a generated `self` -/
def toState (s : ImpTopoStep.Self Wt P) : TopoState Wt :=
  { W := s.W, cnt := s.cnt, adj := s.adj, perm := s.perm, labels := s.labels, n := s.n }

/-- a generated `self` whose model-visible attributes are replaced by those of `t` (both `params` dicts stay) -/
def withState (s : ImpTopoStep.Self Wt P) (t : TopoState Wt) : ImpTopoStep.Self Wt P :=
  { s with W := t.W, cnt := t.cnt, adj := t.adj, perm := t.perm, labels := t.labels, n := t.n }

theorem toState_withState (s : ImpTopoStep.Self Wt P) (t : TopoState Wt) : toState (withState s t) = t := rfl

/-- weights while the loop runs: the best winner (if found) has already learnt -/
def bestW (K : TopoKernel X Wt α μ) (x : X) (W0 : List Wt) : Option Nat → List Wt
  | none => W0
  | some b => W0.modify b (K.update x)

/-- counters while the loop runs -/
def bestCnt (cnt0 : List Nat) : Option Nat → List Nat
  | none => cnt0
  | some b => cnt0.modify b (· + 1)

/-- `resonant_c` -/
def bestInt : Option Nat → Int
  | none => -1
  | some b => (b : Int)

variable [Inhabited Wt] [Inhabited C]

/-- what `TopoART.update` does to the adjacency matrix, given the cache it is handed -/
def updAdj (E : ImpTopoStep.Ext X Wt P C α) (c : C) (adj : List (List Nat)) : List (List Nat) :=
  if 0 ≤ (E.cache_int c "resonant_c").getD (-1) then
    incAdj ((E.cache_int c "resonant_c").get!).toNat ((E.cache_int c "current_c").get!).toNat adj
  else adj

/-- **`TopoART.update` as a whole**: when the cache names a first winner (`resonant_c >= 0`) the edge
`(resonant_c, current_c)` of the adjacency matrix is incremented — the model's `incAdj` —, nothing else of the
estimator changes, and the new weight is the base module's `update` -/
theorem update_spec (E : ImpTopoStep.Ext X Wt P C α) (self : ImpTopoStep.Self Wt P) (i : X) (w : Wt) (p : P) (c : C) :
    Art.Gen.TopoARTStep.update E self i w p c = ({ self with adj := updAdj E c self.adj }, E.update i w p c) := by
  unfold Art.Gen.TopoARTStep.update updAdj
  simp only [Topo.npAddAt2_eq_incAdj, ge_iff_le, decide_eq_true_eq]

/-- **One iteration of the translated loop body**, on any loop state whose weight `W'[c]!` of the visited category
`c = nanargmax T` is still the one of `W0` (the weights the step started with). -/
theorem body_eval (K : TopoKernel X Wt α μ) (cfg : SearchCfg μ θ) (E : ImpTopoStep.Ext X Wt P C α) (th : P → θ)
    (Good : P → Prop) (s : ImpTopoStep.Self Wt P) (W0 : List Wt) (x : X) (is_none : Bool)
    (reset : X → Wt → Nat → P → C → Bool) (veto : Nat → Bool) (mt : MT) (eps : α) (Tc : List C) (p0 : P)
    (hC : Contract K cfg E th Good W0 x s.params p0 is_none reset veto mt eps)
    (W' : List Wt) (cnt' : List Nat) (rc : Int) (p : P) (T : List (Option α)) (c : Nat)
    (hn : nanargmax T = some c) (hg : Good p) (hc : W0[c]? = some W'[c]!) :
    Art.Gen.TopoARTStep.step_fit_loop1_body E x mt eps p0 (E.operator mt) Tc is_none reset
        (W', cnt', s.adj, s.perm, s.labels, s.n, s.params, p, rc, T) =
      if cfg.passes (th p) (topoMatchAt K W0 x c) && !veto c then
        if rc < 0 then
          .next (W'.modify c (K.update x), cnt'.modify c (· + 1), s.adj, s.perm, s.labels, s.n, s.params, p,
            (c : Int), T.set c none)
        else
          .ret ({ s with W := W'.modify c (K.updateLower x), cnt := cnt'.modify c (· + 1),
                         adj := incAdj rc.toNat c s.adj, bparams := p0 }, rc)
      else
        .next (W', cnt', s.adj, s.perm, s.labels, s.n, s.params,
          if cfg.passes (th p) (topoMatchAt K W0 x c) && veto c then
            (E.match_tracking (E.match_criterion_bin x W'[c]! p Tc[c]! (E.operator mt)).2 eps p mt).2
          else p,
          rc,
          if cfg.passes (th p) (topoMatchAt K W0 x c) && veto c then
            if !cfg.keep then (T.set c none).map fun _ => none else T.set c none
          else T.set c none) := by
  have hM : topoMatchAt K W0 x c = K.matchv x W'[c]! := by rw [topoMatchAt, hc]
  have hok : ∀ (pp : P) (ch : C), (is_none || reset x W'[c]! c pp ch) = !veto c := by
    intro pp ch
    cases hn' : is_none with
    | true => rw [hC.veto_none hn' c]; rfl
    | false => exact hC.veto_some hn' c _ pp ch hc
  rw [hM]
  simp only [Art.Gen.TopoARTStep.step_fit_loop1_body, hn, Option.getD_some, update_spec, updAdj, hC.passes, hok,
    hC.keep, hC.cache_res, hC.cache_cur, Option.get!_some, Int.toNat_natCast, Int.ofNat_eq_natCast,
    Topo.set_getElem!_eq_modify cnt' c (· + 1), decide_eq_true_eq, apply_ite Prod.fst, apply_ite Prod.snd,
    Bool.not_not]
  -- the learning rate and the edge depend on whether there is a `resonant_c` already
  by_cases hrc : rc < 0
  · simp only [hrc, if_true, Int.not_le.mpr hrc, if_false, hC.update _ _ _ hg,
      Topo.set_getElem!_eq_modify W' c (K.update x)]
  · simp only [hrc, if_false, Int.not_lt.mp hrc, if_true, hC.updateLower _ _ _ hg,
      Topo.set_getElem!_eq_modify W' c (K.updateLower x)]

theorem getElem!_modify_ne (l : List Wt) (f : Wt → Wt) (b c : Nat) (h : b ≠ c) : (l.modify b f)[c]! = l[c]! := by
  simp [List.getElem!_eq_getElem?_getD, h]

/-- one iteration of the translated loop body, in the model's vocabulary -/
theorem body_spec (K : TopoKernel X Wt α μ) (cfg : SearchCfg μ θ) (E : ImpTopoStep.Ext X Wt P C α) (th : P → θ)
    (Good : P → Prop) (s : ImpTopoStep.Self Wt P) (W0 : List Wt) (x : X) (is_none : Bool)
    (reset : X → Wt → Nat → P → C → Bool) (veto : Nat → Bool) (mt : MT) (eps : α) (Tc : List C) (p0 : P)
    (hW0 : s.W = W0)
    (hC : Contract K cfg E th Good W0 x s.params p0 is_none reset veto mt eps) :
    BodySpec cfg (topoMatchAt K W0 x) veto th Good
      (fun p T best => (bestW K x W0 best, bestCnt s.cnt best, s.adj, s.perm, s.labels, s.n, s.params, p,
                        bestInt best, T))
      (fun b c => (({ s with W := (W0.modify b (K.update x)).modify c (K.updateLower x),
                             cnt := (s.cnt.modify b (· + 1)).modify c (· + 1),
                             adj := incAdj b c s.adj, bparams := p0 } : ImpTopoStep.Self Wt P), (b : Int)))
      (Art.Gen.TopoARTStep.step_fit_loop1_body E x mt eps p0 (E.operator mt) Tc is_none reset) W0.length := by
  constructor
  intro p T best c hL hn hg hne
  have hc : c < W0.length := hL ▸ nanargmax_lt_length hn
  -- the best winner has learnt already, but it is not `c`
  have hWc : W0[c]? = some (bestW K x W0 best)[c]! := by
    cases best with
    | none => simp [bestW, hc]
    | some b => rw [bestW, getElem!_modify_ne W0 _ b c (hne b rfl)]; simp [hc]
  have h := body_eval K cfg E th Good s W0 x is_none reset veto mt eps Tc p0 hC _ (bestCnt s.cnt best)
    (bestInt best) p T c hn hg hWc
  cases hm : cfg.passes (th p) (topoMatchAt K W0 x c) with
  | false => rw [hm] at h; exact h
  | true =>
    rw [hm] at h
    cases hv : veto c with
    | true =>
      rw [hv] at h
      refine ⟨_, hC.good_track _ p hg, (hC.track (bestW K x W0 best)[c]! p Tc[c]!).trans ?_, h.trans ?_⟩
      · rw [topoMatchAt, hWc]
      · cases cfg.keep <;> rfl
    | false =>
      rw [hv] at h
      cases best with
      | none => exact h
      | some b =>
        have hb : ¬ ((b : Int) < 0) := Int.not_lt.mpr (Int.natCast_nonneg b)
        refine h.trans ?_
        rw [if_pos (show (true && !false) = true from rfl), bestInt, if_neg hb, Int.toNat_natCast]
        rfl

omit [Inhabited Wt] [Inhabited C] in
/-- the activation vector computed before the loop is the model's -/
theorem activations_spec (K : TopoKernel X Wt α μ) (cfg : SearchCfg μ θ) (E : ImpTopoStep.Ext X Wt P C α) (th : P → θ)
    (Good : P → Prop) (W : List Wt) (own p0 : P) (x : X) (is_none : Bool) (reset : X → Wt → Nat → P → C → Bool)
    (veto : Nat → Bool) (mt : MT) (eps : α) (hC : Contract K cfg E th Good W x own p0 is_none reset veto mt eps) :
    (W.map (fun w => E.category_choice W x w p0)).map Prod.fst = topoActivations K W x := by
  simp only [topoActivations, List.map_map]
  apply List.map_congr_left
  intro w _
  exact hC.choice w

/-- the first sample of an empty model: category 0, a 1×1 zero adjacency matrix, a non-permanent flag, label 0 —
whatever `adjacency` and `_permanent_mask` held before -/
theorem step_fit_first_sample (K : TopoKernel X Wt α μ) (cfg : SearchCfg μ θ) (E : ImpTopoStep.Ext X Wt P C α)
    (th : P → θ) (Good : P → Prop) (self : ImpTopoStep.Self Wt P) (x : X) (is_none : Bool)
    (reset : X → Wt → Nat → P → C → Bool) (veto : Nat → Bool) (mt : MT) (eps : α) (fuel : Nat)
    (hW : self.W = [])
    (hC : Contract K cfg E th Good self.W x self.params self.bparams is_none reset veto mt eps) :
    Art.Gen.TopoARTStep.step_fit E fuel self x is_none reset mt eps =
      (withState self (topoStep K cfg (th self.bparams) veto (toState self) x).1,
       ((topoStep K cfg (th self.bparams) veto (toState self) x).2 : Int)) := by
  unfold Art.Gen.TopoARTStep.step_fit topoStep
  simp [hW, toState, withState, hC.newW, ImpTopo.npZeros2]

/-- **The translated `TopoART.step_fit` computes the model's `topoStep`** — weights and counters of both winners, the
edge count, the padded adjacency matrix and mask of a new category, the sample counter, the returned label — and
leaves both `params` dictionaries exactly as it found them, for every state, sample, reset function, mode and epsilon
that satisfy the kernel contract.  `fuel = len(W)` iterations suffice. -/
theorem step_fit_spec (K : TopoKernel X Wt α μ) (cfg : SearchCfg μ θ) (E : ImpTopoStep.Ext X Wt P C α)
    (th : P → θ) (Good : P → Prop) (self : ImpTopoStep.Self Wt P) (x : X) (is_none : Bool)
    (reset : X → Wt → Nat → P → C → Bool) (veto : Nat → Bool) (mt : MT) (eps : α)
    (hC : Contract K cfg E th Good self.W x self.params self.bparams is_none reset veto mt eps) :
    Art.Gen.TopoARTStep.step_fit E self.W.length self x is_none reset mt eps =
      (withState self (topoStep K cfg (th self.bparams) veto (toState self) x).1,
       ((topoStep K cfg (th self.bparams) veto (toState self) x).2 : Int)) := by
  by_cases hW : self.W = []
  · exact step_fit_first_sample K cfg E th Good self x is_none reset veto mt eps _ hW hC
  · have hlen0 : (self.W.length == 0) = false := beq_false_of_ne fun h => hW (List.length_eq_zero_iff.mp h)
    have hTlen := topoActivations_length K self.W x
    have hloop := loop_follows_topoSearch cfg _ veto th Good _ _ (Art.Gen.TopoARTStep.step_fit_loop1_cond E) _
      (fun _ _ _ => rfl) _
      (body_spec K cfg E th Good { self with n := self.n + 1 } self.W x is_none reset veto mt eps
        ((self.W.map fun w => E.category_choice self.W x w self.bparams).map Prod.snd) self.bparams rfl hC)
      self.W.length self.bparams (topoActivations K self.W x) none hTlen hC.good0 (fun _ hb => nomatch hb)
    -- the model's side first, so that the translated program is only unfolded against `applyTopo … best second`
    rw [topoStep_of_ne K cfg _ veto _ x (show (toState self).W ≠ [] from hW), topoStepSearch,
      show (toState self).W = self.W from rfl, hTlen]
    generalize topoSearch cfg (topoMatchAt K self.W x) veto self.W.length (topoActivations K self.W x)
      (th self.bparams) none = r at hloop ⊢
    obtain ⟨best, second, _, _⟩ := r
    rw [Art.Gen.TopoARTStep.step_fit]
    simp only [hlen0, Bool.false_eq_true, if_false,
      activations_spec K cfg E th Good self.W self.params self.bparams x is_none reset veto mt eps hC]
    cases second with
    | some c =>
      obtain ⟨b, hb, h⟩ := hloop
      erw [h]
      rw [show best = some b from hb]
      rfl
    | none =>
      obtain ⟨p', T', h⟩ := hloop
      erw [h]
      cases best with
      | none =>
        simp only [bestInt, bestW, bestCnt, hlen0, hC.newW, Topo.npPad2_eq_padAdj, ImpTopo.npPad1]
        rfl
      | some b =>
        have hb : ¬ ((b : Int) < 0) := Int.not_lt.mpr (Int.natCast_nonneg b)
        simp only [bestInt, hb, decide_false, Bool.false_eq_true, if_false]
        rfl

/-- **The hyper-parameters are restored**: whatever match tracking did to the base module's `rho` during the search,
the translated `step_fit` hands the base module back with the dictionary it had (`_set_params(base_params)` on every
path out of the loop), and never touches the wrapper's own dictionary or `labels_`. -/
theorem step_fit_restores_params (K : TopoKernel X Wt α μ) (cfg : SearchCfg μ θ) (E : ImpTopoStep.Ext X Wt P C α)
    (th : P → θ) (Good : P → Prop) (self : ImpTopoStep.Self Wt P) (x : X) (is_none : Bool)
    (reset : X → Wt → Nat → P → C → Bool) (veto : Nat → Bool) (mt : MT) (eps : α)
    (hC : Contract K cfg E th Good self.W x self.params self.bparams is_none reset veto mt eps) :
    (Art.Gen.TopoARTStep.step_fit E self.W.length self x is_none reset mt eps).1.bparams = self.bparams ∧
    (Art.Gen.TopoARTStep.step_fit E self.W.length self x is_none reset mt eps).1.params = self.params ∧
    (Art.Gen.TopoARTStep.step_fit E self.W.length self x is_none reset mt eps).1.labels = self.labels := by
  rw [step_fit_spec K cfg E th Good self x is_none reset veto mt eps hC]
  exact ⟨rfl, rfl, topoStep_labels K cfg (th self.bparams) veto (toState self) x⟩

/-! ### Property theorems of C14, transported to the generated code -/

/-- **C14 (`topo_step_spec`) on the generated code: the two-winner training step.**  On a non-empty model with the
shape invariant the translated `step_fit` returns the best winner of the search, or the index of a newly appended
category when nothing resonated:
* nothing resonated: one weight `new_weight x` is appended with count 1, the adjacency matrix gets a zero row and
  column, the mask a `False`;
* only a best `b`: `W[b] := update x W[b]` (rate `beta`), its counter + 1, nothing else changes;
* best `b` and second `c` (`b ≠ c`): additionally `W[c] := updateLower x W[c]` (rate `beta_lower`), its counter + 1, and
  exactly the cell `adjacency[b, c]` grows by one.
The sample counter grows by one; `labels_` and both `params` dictionaries are as before. -/
theorem gen_two_winner (K : TopoKernel X Wt α μ) (cfg : SearchCfg μ θ) (E : ImpTopoStep.Ext X Wt P C α)
    (th : P → θ) (Good : P → Prop) (self : ImpTopoStep.Self Wt P) (x : X) (is_none : Bool)
    (reset : X → Wt → Nat → P → C → Bool) (veto : Nat → Bool) (mt : MT) (eps : α)
    (hs : ShapeInv (toState self)) (hne : self.W ≠ [])
    (hC : Contract K cfg E th Good self.W x self.params self.bparams is_none reset veto mt eps) :
    let out := Art.Gen.TopoARTStep.step_fit E self.W.length self x is_none reset mt eps
    let r := topoStepSearch K cfg (th self.bparams) veto self.W x
    out.1.n = self.n + 1 ∧ out.1.labels = self.labels ∧ out.1.params = self.params ∧ out.1.bparams = self.bparams ∧
    (r.best = none →
      out.2 = (self.W.length : Int) ∧ out.1.W = self.W ++ [K.newW x] ∧ out.1.cnt = self.cnt ++ [1] ∧
      out.1.perm = self.perm ++ [false] ∧ out.1.adj.length = self.adj.length + 1 ∧
      ∀ i j, adjAt out.1.adj i j = adjAt self.adj i j) ∧
    (∀ b, r.best = some b → r.second = none →
      out.2 = (b : Int) ∧ b < self.W.length ∧ out.1.W = self.W.modify b (K.update x) ∧
      out.1.cnt = self.cnt.modify b (· + 1) ∧ out.1.adj = self.adj ∧ out.1.perm = self.perm) ∧
    (∀ b c, r.best = some b → r.second = some c →
      out.2 = (b : Int) ∧ b < self.W.length ∧ c < self.W.length ∧ b ≠ c ∧
      out.1.W = (self.W.modify b (K.update x)).modify c (K.updateLower x) ∧
      (∀ k w, self.W[k]? = some w → out.1.W[k]? =
        some (if k = b then K.update x w else if k = c then K.updateLower x w else w)) ∧
      out.1.cnt = (self.cnt.modify b (· + 1)).modify c (· + 1) ∧ out.1.perm = self.perm ∧
      ∀ i j, adjAt out.1.adj i j = adjAt self.adj i j + if i = b ∧ j = c then 1 else 0) := by
  intro out r
  have ho : out = _ := step_fit_spec K cfg E th Good self x is_none reset veto mt eps hC
  obtain ⟨h1, h2, h3, h4, h5⟩ := C14.topo_step_spec K cfg (th self.bparams) veto (toState self) x hs hne
  rw [ho]
  -- the label is returned as an `int`; everything else is read off the state
  exact ⟨h1, h2, rfl, rfl, fun hb => (h3 hb).imp (congrArg Int.ofNat) id,
    fun b hb hc => (h4 b hb hc).imp (congrArg Int.ofNat) id,
    fun b c hb hc => (h5 b c hb hc).imp (congrArg Int.ofNat) id⟩

/-- **C14 (`topo_step_first`) on the generated code**: the first sample of an empty model creates category 0 with
count 1, a 1×1 zero adjacency matrix and a non-permanent flag, and is labelled 0. -/
theorem gen_first_sample (K : TopoKernel X Wt α μ) (cfg : SearchCfg μ θ) (E : ImpTopoStep.Ext X Wt P C α)
    (th : P → θ) (Good : P → Prop) (self : ImpTopoStep.Self Wt P) (x : X) (is_none : Bool)
    (reset : X → Wt → Nat → P → C → Bool) (veto : Nat → Bool) (mt : MT) (eps : α)
    (hW : self.W = []) (hc : self.cnt = [])
    (hC : Contract K cfg E th Good self.W x self.params self.bparams is_none reset veto mt eps) :
    Art.Gen.TopoARTStep.step_fit E self.W.length self x is_none reset mt eps =
      ({ self with W := [K.newW x], cnt := [1], adj := [[0]], perm := [false], n := self.n + 1 }, 0) := by
  rw [step_fit_spec K cfg E th Good self x is_none reset veto mt eps hC,
    C14.topo_step_first K cfg (th self.bparams) veto (toState self) x hW hc]
  rfl

/-- **C14 (`topo_step_new_iff`) on the generated code: a category is appended iff nothing resonated.** -/
theorem gen_new_iff (K : TopoKernel X Wt α μ) (cfg : SearchCfg μ θ) (E : ImpTopoStep.Ext X Wt P C α)
    (th : P → θ) (Good : P → Prop) (self : ImpTopoStep.Self Wt P) (x : X) (is_none : Bool)
    (reset : X → Wt → Nat → P → C → Bool) (veto : Nat → Bool) (mt : MT) (eps : α) (hne : self.W ≠ [])
    (hC : Contract K cfg E th Good self.W x self.params self.bparams is_none reset veto mt eps) :
    (Art.Gen.TopoARTStep.step_fit E self.W.length self x is_none reset mt eps).1.W.length = self.W.length + 1 ↔
      resonantCs (topoStepSearch K cfg (th self.bparams) veto self.W x) = [] := by
  rw [step_fit_spec K cfg E th Good self x is_none reset veto mt eps hC]
  exact C14.topo_step_new_iff K cfg (th self.bparams) veto (toState self) x hne

/-- **C14 (`topo_shape_inv_transitions`) on the generated code**: from any state whose counters match the weights
(and which satisfies the full shape invariant when non-empty) the translated `step_fit` ends in a state where
adjacency, counters, mask and weights have one row / entry per category and the adjacency diagonal is zero. -/
theorem gen_shape (K : TopoKernel X Wt α μ) (cfg : SearchCfg μ θ) (E : ImpTopoStep.Ext X Wt P C α)
    (th : P → θ) (Good : P → Prop) (self : ImpTopoStep.Self Wt P) (x : X) (is_none : Bool)
    (reset : X → Wt → Nat → P → C → Bool) (veto : Nat → Bool) (mt : MT) (eps : α) (hw : WeakInv (toState self))
    (hC : Contract K cfg E th Good self.W x self.params self.bparams is_none reset veto mt eps) :
    ShapeInv (toState (Art.Gen.TopoARTStep.step_fit E self.W.length self x is_none reset mt eps).1) := by
  rw [step_fit_spec K cfg E th Good self x is_none reset veto mt eps hC]
  exact (toState_withState self _).symm ▸ topoStep_shape K cfg (th self.bparams) veto (toState self) x hw

end Step

/-! ### The contract is met by every base module with a scalar, non-inverted vigilance and a `beta`-indexed update
rule — with the decision tables taken from the GENERATED `TopoART._match_tracking`, `_match_tracking_operator` and
`match_criterion_bin` (ArtGen/Kernels.lean) -/

section Scalar
variable {X Wt β : Type} [Field β] [LinearOrder β] [IsStrictOrderedRing β]

/-- externals of a wrapped elementary module: the numeric kernel `K` (choice, match value, new weight), its update
rule `upd` as a function of the learning rate, and for the decisions the generated tables.  A `params` dictionary is
abstracted to the pair `(rho, beta)` (the wrapper's own dictionary additionally answers `beta_lower = bl`), a cache to
the match value it carries and the two integer keys `resonant_c`, `current_c` (`none` = absent). -/
def scalarExt (K : Kernel X Wt β β) (upd : β → X → Wt → Wt) (inf bl : β) :
    ImpTopoStep.Ext X Wt (β × β) (β × Option Int × Option Int) β where
  category_choice := fun W x w _ => (K.choice W x w, (K.matchv x w, none, none))
  match_criterion_bin := fun x w p _ strict =>
    (Gen.BaseART.match_bin (fun a b => if strict then decide (b < a) else decide (b ≤ a)) (K.matchv x w) p.1,
     (K.matchv x w, none, none))
  update := fun x w p _ => upd p.2 x w
  new_weight := fun x _ => K.newW x
  match_tracking := fun c eps p mt =>
    ((Gen.TopoART.match_tracking inf mt c.1 eps p.1).2, ((Gen.TopoART.match_tracking inf mt c.1 eps p.1).1, p.2))
  operator := Gen.BaseART.strict
  noneC := (0, none, none)
  cache_int := fun c key => if key = "resonant_c" then c.2.1 else if key = "current_c" then c.2.2 else none
  dict_with := fun p key v => if key = "beta" then (p.1, v) else if key = "rho" then (v, p.2) else p
  param := fun p key => if key = "beta_lower" then bl else if key = "beta" then p.2 else p.1
  cache_with := fun c key v =>
    if key = "resonant_c" then (c.1, some v, c.2.2) else if key = "current_c" then (c.1, c.2.1, some v) else c
  cache_or_empty := id

/-- the model kernel of such a module wrapped by a TopoART with rates `beta ≥ beta_lower` -/
def scalarKernel (K : Kernel X Wt β β) (upd : β → X → Wt → Wt) (beta bl : β) : TopoKernel X Wt β β :=
  { choice := K.choice, matchv := K.matchv, update := upd beta, updateLower := upd bl, newW := K.newW }

theorem scalar_contract (K : Kernel X Wt β β) (upd : β → X → Wt → Wt) (W : List Wt) (inf bl beta rho eps : β) (own : β × β)
    (x : X) (mt : MT) (is_none : Bool) (veto : Nat → Bool) (hv : is_none = true → ∀ c, veto c = false) :
    Contract (scalarKernel K upd beta bl) (scalarCfg mt false (· + eps) (· - eps) inf) (scalarExt K upd inf bl) Prod.fst
      (fun p => p.2 = beta) W x own (rho, beta) is_none (fun _ _ c _ _ => !veto c) veto mt eps where
  good0 := rfl
  good_track := fun _ _ h => h
  choice := fun _ => rfl
  passes := fun w p _ => base_match_bin mt (K.matchv x w) p.1
  track := fun w p _ => congrArg Prod.fst
    ((topo_match_tracking inf mt (K.matchv x w) eps p.1).trans (base_match_tracking inf mt (K.matchv x w) eps p.1))
  keep := fun c p => congrArg Prod.snd
    ((topo_match_tracking inf mt c.1 eps p.1).trans (base_match_tracking inf mt c.1 eps p.1))
  update := fun w _ _ h => congrArg (fun b => upd b x w) h
  updateLower := fun _ _ _ _ => rfl
  newW := rfl
  cache_res := fun _ _ _ => rfl
  cache_cur := fun _ _ _ => rfl
  veto_none := hv
  veto_some := fun _ _ _ _ _ _ => rfl

/-- **`TopoART.step_fit`, as translated from the source and with the decision tables as translated from the source,
is the model's `topoStep` under the scalar configuration** — for every wrapped module with a scalar, non-inverted
vigilance, every state, sample, veto pattern, mode and epsilon. -/
theorem scalar_step_fit [Inhabited Wt] (K : Kernel X Wt β β) (upd : β → X → Wt → Wt) (inf bl beta eps : β)
    (self : ImpTopoStep.Self Wt (β × β)) (x : X) (mt : MT) (is_none : Bool) (veto : Nat → Bool)
    (hv : is_none = true → ∀ c, veto c = false) (hbeta : self.bparams.2 = beta) :
    letI : Inhabited β := ⟨0⟩
    Art.Gen.TopoARTStep.step_fit (scalarExt K upd inf bl) self.W.length self x is_none (fun _ _ c _ _ => !veto c) mt eps =
      (withState self (topoStep (scalarKernel K upd beta bl) (scalarCfg mt false (· + eps) (· - eps) inf)
          self.bparams.1 veto (toState self) x).1,
       ((topoStep (scalarKernel K upd beta bl) (scalarCfg mt false (· + eps) (· - eps) inf)
          self.bparams.1 veto (toState self) x).2 : Int)) := by
  let _ : Inhabited β := ⟨0⟩
  have hp : self.bparams = (self.bparams.1, beta) := by rw [← hbeta]
  have hC := scalar_contract K upd self.W inf bl beta self.bparams.1 eps self.params x mt is_none veto hv
  rw [← hp] at hC
  exact step_fit_spec _ _ (scalarExt K upd inf bl) Prod.fst _ self x is_none _ veto mt eps hC

end Scalar

/-! ### Non-vacuity: the generated code run on concrete data (a 1-d module over ℚ: activation and match value
`−|x − w|`, update `w + beta·(x − w)`, `beta = 1`, `beta_lower = 1/2`, vigilance "distance ≤ 2") -/

section Examples

private def exK : Kernel ℚ ℚ ℚ ℚ :=
  { choice := fun _ x w => some (if x ≤ w then x - w else w - x)
    matchv := fun x w => if x ≤ w then x - w else w - x
    update := fun x _ => x
    newW := fun x => x }

private def exUpd (b x w : ℚ) : ℚ := w + b * (x - w)

private def exE : ImpTopoStep.Ext ℚ ℚ (ℚ × ℚ) (ℚ × Option Int × Option Int) ℚ := scalarExt exK exUpd 1000 (1/2)

/-- two categories at 20 and 23; `rho = -2`, `beta = 1` in both dictionaries -/
private def exSelf : ImpTopoStep.Self ℚ (ℚ × ℚ) :=
  { W := [20, 23], cnt := [2, 1], adj := [[0, 0], [0, 0]], perm := [true, false], labels := [0, 0, 1], n := 3,
    params := (-2, 1), bparams := (-2, 1) }

/-- sample 21, no reset function, MT+: both categories pass; best 0 learns at the full rate (20 → 21), second 1 at the
lower rate (23 → 22), both counters grow, the edge (0, 1) is counted, label 0, `rho` untouched -/
example :
    letI : Inhabited ℚ := ⟨0⟩
    let r := Art.Gen.TopoARTStep.step_fit exE 2 exSelf 21 true (fun _ _ _ _ _ => true) MT.plus 0
    r.2 = 0 ∧ r.1.W = [21, 22] ∧ r.1.cnt = [3, 2] ∧ r.1.adj = [[0, 1], [0, 0]] ∧ r.1.perm = [true, false] ∧ r.1.n = 4 ∧
      r.1.bparams = (-2, 1) := by
  decide +kernel

/-- a reset function that vetoes category 0, MT+ with `epsilon = 1/1000`: category 0 passes and is refused, the
threshold tracks to −1 + 1/1000, category 1 (match value −2) now fails, a new category 2 is appended (padded
adjacency and mask), label 2 — and `rho` is back at −2 -/
example :
    letI : Inhabited ℚ := ⟨0⟩
    let r := Art.Gen.TopoARTStep.step_fit exE 2 exSelf 21 false (fun _ _ c _ _ => !(c == 0)) MT.plus (1/1000)
    r.2 = 2 ∧ r.1.W = [20, 23, 21] ∧ r.1.cnt = [2, 1, 1] ∧ r.1.adj = [[0, 0, 0], [0, 0, 0], [0, 0, 0]] ∧
      r.1.perm = [true, false, false] ∧ r.1.n = 4 ∧ r.1.bparams = (-2, 1) := by
  decide +kernel

/-- a reset function that vetoes category 1 only: 0 is the best, there is no second, no edge is counted -/
example :
    letI : Inhabited ℚ := ⟨0⟩
    let r := Art.Gen.TopoARTStep.step_fit exE 2 exSelf 21 false (fun _ _ c _ _ => !(c == 1)) MT.plus (1/1000)
    r.2 = 0 ∧ r.1.W = [21, 23] ∧ r.1.cnt = [3, 1] ∧ r.1.adj = [[0, 0], [0, 0]] ∧ r.1.bparams = (-2, 1) := by
  decide +kernel

/-- the first sample of an empty model (stale adjacency and mask are overwritten) -/
example :
    letI : Inhabited ℚ := ⟨0⟩
    let r := Art.Gen.TopoARTStep.step_fit exE 0 { exSelf with W := [], cnt := [] } 7 true (fun _ _ _ _ _ => true) MT.plus 0
    r.2 = 0 ∧ r.1.W = [7] ∧ r.1.cnt = [1] ∧ r.1.adj = [[0]] ∧ r.1.perm = [false] ∧ r.1.n = 4 := by
  decide +kernel

/-- and the contract holds there (so `scalar_step_fit` / `step_fit_spec` apply) -/
example : Contract (scalarKernel exK exUpd 1 (1/2)) (scalarCfg MT.plus false (· + 1/1000) (· - 1/1000) 1000) exE Prod.fst
    (fun p => p.2 = 1) exSelf.W 21 exSelf.params (-2, 1) false (fun _ _ c _ _ => !(c == 0)) (fun c => c == 0)
    MT.plus (1/1000) :=
  scalar_contract _ _ _ _ _ _ _ _ _ _ _ _ _ (by simp)

end Examples

end Art.GenSpec.TopoStep
