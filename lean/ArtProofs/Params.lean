/-
ArtProofs.Params — lemmas about the parameter store, `set_params` loop,
`validate`, attribute mirror and the `Own | View` ownership model of
`ArtModel.Params`.
-/
import ArtModel.Params

namespace Art.Params

/-! ### stores -/

theorem get?_isSome_iff {p : Store} {k : String} : (get? p k).isSome ↔ k ∈ keys p := by
  induction p with
  | nil => exact ⟨nofun, nofun⟩
  | cons kv r ih =>
    rw [get?, keys, List.map_cons, List.mem_cons]
    split
    · next h => exact ⟨fun _ => .inl h.symm, fun _ => rfl⟩
    · next h => exact ih.trans ⟨.inr, fun h' => h'.resolve_left (Ne.symm h)⟩

theorem get?_eq_none_iff {p : Store} {k : String} : get? p k = none ↔ k ∉ keys p := by
  rw [← get?_isSome_iff, Option.not_isSome_iff_eq_none]

theorem keys_assign (p : Store) (k : String) (v : Val) : keys (assign p k v) = keys p := by
  induction p with
  | nil => rfl
  | cons kv r ih =>
    rw [assign]
    split
    · rfl
    · exact congrArg (kv.1 :: ·) ih

theorem get?_assign_same {p : Store} {k : String} (v : Val) (h : k ∈ keys p) :
    get? (assign p k v) k = some v := by
  induction p with
  | nil => cases h
  | cons kv r ih =>
    rw [assign]
    split
    · next hk => rw [get?, if_pos hk]
    · next hk => rw [get?, if_neg hk]; exact ih ((List.mem_cons.mp h).resolve_left (Ne.symm hk))

theorem get?_assign_other {p : Store} {k k' : String} (v : Val) (h : k' ≠ k) :
    get? (assign p k v) k' = get? p k' := by
  induction p with
  | nil => rfl
  | cons kv r ih =>
    rw [assign]
    split
    · next hk => rw [get?, get?, if_neg (hk ▸ h.symm), if_neg (hk ▸ h.symm)]
    · rw [get?, get?, ih]

theorem assign_of_get {p : Store} {k : String} {v : Val} (h : get? p k = some v) :
    assign p k v = p := by
  induction p with
  | nil => rfl
  | cons kv r ih =>
    rw [get?] at h
    rw [assign]
    split at h
    · next hk => cases h; rw [if_pos hk]
    · next hk => rw [if_neg hk, ih h]

theorem mem_assign {p : Store} {k : String} {v : Val} {kv : String × Val} (h : kv ∈ assign p k v) :
    kv ∈ p ∨ kv = (k, v) := by
  induction p with
  | nil => cases h
  | cons x r ih =>
    rw [assign] at h
    split at h
    · next hk => exact (List.mem_cons.mp h).elim (fun e => .inr (hk ▸ e)) (fun m => .inl (List.mem_cons_of_mem _ m))
    · exact (List.mem_cons.mp h).elim (fun e => .inl (e ▸ List.mem_cons_self))
        (fun m => (ih m).imp_left (List.mem_cons_of_mem _))

theorem upsert_of_mem {p : Store} {k : String} (v : Val) (h : k ∈ keys p) :
    upsert p k v = assign p k v := if_pos (get?_isSome_iff.mpr h)

theorem upsert_of_get {p : Store} {k : String} {v : Val} (h : get? p k = some v) : upsert p k v = p := by
  rw [upsert, if_pos (by rw [h]; rfl), assign_of_get h]

theorem mem_upsert {p : Store} {k : String} {v : Val} {kv : String × Val} (h : kv ∈ upsert p k v) :
    kv ∈ p ∨ kv = (k, v) := by
  rw [upsert] at h
  split at h
  · exact mem_assign h
  · exact (List.mem_append.mp h).imp_right List.eq_of_mem_singleton

theorem get?_append (p q : Store) (k : String) : get? (p ++ q) k = (get? p k).or (get? q k) := by
  induction p with
  | nil => rfl
  | cons kv r ih =>
    rw [List.cons_append, get?, get?]
    split
    · rfl
    · exact ih

theorem get?_upsert_other {p : Store} {k k' : String} (v : Val) (h : k' ≠ k) :
    get? (upsert p k v) k' = get? p k' := by
  rw [upsert]
  split
  · exact get?_assign_other v h
  · rw [get?_append, get?, if_neg h.symm]; exact Option.or_none

theorem get?_upsert_same (p : Store) (k : String) (v : Val) : get? (upsert p k v) k = some v := by
  rw [upsert]
  split
  · next h => exact get?_assign_same v (get?_isSome_iff.mp h)
  · next h => rw [get?_append, Option.not_isSome_iff_eq_none.mp h, get?, if_pos rfl]; rfl

theorem mem_keys_upsert {p : Store} {k k' : String} {v : Val} (h : k' ∈ keys (upsert p k v)) :
    k' ∈ keys p ∨ k' = k := by
  by_cases hk : k' = k
  · exact .inr hk
  · rw [← get?_isSome_iff, get?_upsert_other v hk, get?_isSome_iff] at h
    exact .inl h

theorem mem_of_get? {p : Store} {k : String} {v : Val} (h : get? p k = some v) : (k, v) ∈ p := by
  induction p with
  | nil => cases h
  | cons kv r ih =>
    rw [get?] at h
    split at h
    · next hk => cases h; cases hk; exact List.mem_cons_self
    · exact List.mem_cons_of_mem _ (ih h)

theorem get?_of_mem_nodup {p : Store} {k : String} {v : Val} (hn : (keys p).Nodup)
    (hm : (k, v) ∈ p) : get? p k = some v := by
  induction p with
  | nil => cases hm
  | cons kv r ih =>
    rw [keys, List.map_cons, List.nodup_cons] at hn
    rw [get?]
    rcases List.mem_cons.mp hm with rfl | hm
    · exact if_pos rfl
    · rw [if_neg, ih hn.2 hm]
      rintro rfl
      exact hn.1 (List.mem_map_of_mem (f := (·.1)) hm)

/-- two dicts with the same key order and the same values are the same dict -/
theorem store_ext {p q : Store} (hk : keys p = keys q) (hn : (keys p).Nodup)
    (hv : ∀ k, get? p k = get? q k) : p = q := by
  induction p generalizing q with
  | nil => cases q with
    | nil => rfl
    | cons b s => cases hk
  | cons a r ih =>
    cases q with
    | nil => cases hk
    | cons b s =>
      obtain ⟨ka, va⟩ := a
      obtain ⟨kb, vb⟩ := b
      obtain ⟨rfl, (hrest : keys r = keys s)⟩ := List.cons.inj hk
      rw [keys, List.map_cons, List.nodup_cons] at hn
      have h0 := hv ka
      rw [get?, get?, if_pos rfl, if_pos rfl] at h0
      cases h0
      congr 1
      refine ih hrest hn.2 fun k => ?_
      by_cases hka : ka = k
      · subst hka
        rw [get?_eq_none_iff.mpr hn.1, get?_eq_none_iff.mpr (hrest ▸ hn.1)]
      · have := hv k
        rwa [get?, get?, if_neg hka, if_neg hka] at this

/-! ### `str.partition("__")` -/

theorem partitionChars_none (l : List Char) (h : (partitionChars l).2 = none) : (partitionChars l).1 = l := by
  fun_induction partitionChars l with
  | case1 rest => cases h
  | case2 c rest hne r ih => exact congrArg (c :: ·) (ih h)
  | case3 => rfl

/-- `before + "__" + after == s` (without the separator when there is none) -/
theorem partitionChars_recon (l : List Char) :
    l = (partitionChars l).1 ++
      (match (partitionChars l).2 with
        | some r => '_' :: '_' :: r
        | none => []) := by
  fun_induction partitionChars l with
  | case1 rest => rfl
  | case2 c rest hne r ih => exact congrArg (c :: ·) ih
  | case3 => rfl

theorem partitionChars_sep (a b : List Char) : (partitionChars (a ++ '_' :: '_' :: b)).2.isSome := by
  induction a with
  | nil => rfl
  | cons c a ih =>
    rw [List.cons_append]
    unfold partitionChars
    split
    · rfl
    · next heq => cases heq; exact ih
    · next heq => cases heq

theorem partitionKey_sep (head sub : String) : (partitionKey ((head ++ "__") ++ sub)).2.isSome := by
  have h := partitionChars_sep head.toList sub.toList
  simp only [partitionKey, String.toList_append, List.append_assoc, Option.isSome_map]
  exact h

theorem plain_of_partitionKey_none {k : String} (h : (partitionKey k).2 = none) : Plain k := by
  have hc : (partitionChars k.toList).2 = none := by simpa [partitionKey] using h
  simp only [Plain, partitionKey, partitionChars_none _ hc, hc, String.ofList_toList, Option.map_none]

/-! ### sequential assignment -/

/-- the effect of the plain-name branch of the loop on a store -/
def applyAll (p : Store) (kvs : List (String × Val)) : Store :=
  kvs.foldl (fun p kv => assign p kv.1 kv.2) p

theorem applyAll_cons (p : Store) (kv : String × Val) (r : List (String × Val)) :
    applyAll p (kv :: r) = applyAll (assign p kv.1 kv.2) r := rfl

theorem keys_applyAll (p : Store) (kvs : List (String × Val)) : keys (applyAll p kvs) = keys p := by
  induction kvs generalizing p with
  | nil => rfl
  | cons kv r ih => rw [applyAll_cons, ih, keys_assign]

theorem applyAll_get_other {p : Store} {kvs : List (String × Val)} {k : String}
    (h : k ∉ keys kvs) : get? (applyAll p kvs) k = get? p k := by
  induction kvs generalizing p with
  | nil => rfl
  | cons kv r ih =>
    rw [keys, List.map_cons, List.mem_cons, not_or] at h
    rw [applyAll_cons, ih h.2, get?_assign_other _ h.1]

theorem applyAll_get_of_mem {p : Store} {kvs : List (String × Val)} {k : String} {v : Val}
    (hn : (keys kvs).Nodup) (hm : (k, v) ∈ kvs) (hk : k ∈ keys p) :
    get? (applyAll p kvs) k = some v := by
  induction kvs generalizing p with
  | nil => cases hm
  | cons kv r ih =>
    rw [keys, List.map_cons, List.nodup_cons] at hn
    rw [applyAll_cons]
    rcases List.mem_cons.mp hm with rfl | hm
    · rw [applyAll_get_other hn.1]; exact get?_assign_same v hk
    · exact ih hn.2 hm (by rw [keys_assign]; exact hk)

theorem applyAll_id {p : Store} {kvs : List (String × Val)}
    (h : ∀ kv ∈ kvs, get? p kv.1 = some kv.2) : applyAll p kvs = p := by
  induction kvs with
  | nil => rfl
  | cons kv r ih =>
    rw [applyAll_cons, assign_of_get (h kv List.mem_cons_self)]
    exact ih (fun kv' hm => h kv' (List.mem_cons_of_mem _ hm))

/-! ### the `set_params` loop -/

theorem setAttr_param {e : Est} {k : String} (v : Val) (h : k ∈ keys e.params) :
    setAttr e k v = { e with params := assign e.params k v } := if_pos (get?_isSome_iff.mpr h)

/-- all names plain and known: the loop collects them in order, `local_params` gets them
assigned one after the other, nothing is raised -/
theorem setLoop_plain (p : Store) (st : LoopSt) (kvs : List (String × Val)) (hloc : keys st.loc = keys p)
    (h : ∀ kv ∈ kvs, Plain kv.1 ∧ kv.1 ∈ keys p) :
    setLoop p st kvs = (⟨applyAll st.loc kvs, st.plain ++ kvs, st.nested⟩, none) := by
  induction kvs generalizing st with
  | nil => rw [setLoop, List.append_nil]; rfl
  | cons kv r ih =>
    obtain ⟨key, v⟩ := kv
    obtain ⟨hplain, hknown⟩ := h (key, v) List.mem_cons_self
    simp only [setLoop, show partitionKey key = (key, none) from hplain, get?_isSome_iff.mpr hknown, if_true]
    rw [upsert_of_mem v (hloc ▸ hknown), ih _ ((keys_assign ..).trans hloc) fun kv' hm => h kv' (List.mem_cons_of_mem _ hm)]
    simp only [applyAll_cons, List.append_assoc, List.singleton_append]

theorem setLoop_known (p : Store) (st : LoopSt) (kvs : List (String × Val)) :
    (∀ kv ∈ (setLoop p st kvs).1.plain, kv ∈ st.plain ∨ kv.1 ∈ keys p) ∧
    (∀ t ∈ (setLoop p st kvs).1.nested, t ∈ st.nested ∨ t.1 ∈ keys p) := by
  induction kvs generalizing st with
  | nil => exact ⟨fun _ => .inl, fun _ => .inl⟩
  | cons kv r ih =>
    obtain ⟨key, v⟩ := kv
    simp only [setLoop]
    cases hknown : (get? p (partitionKey key).1).isSome with
    | false => exact ⟨fun _ => .inl, fun _ => .inl⟩
    | true =>
      have hk := get?_isSome_iff.mp hknown
      cases (partitionKey key).2 with
      | some sub =>
        obtain ⟨h1, h2⟩ := ih { st with nested := st.nested ++ [((partitionKey key).1, sub, v)] }
        refine ⟨h1, fun t ht => (h2 t ht).elim (fun h => ?_) .inr⟩
        exact (List.mem_append.mp h).imp_right fun h => by rw [List.eq_of_mem_singleton h]; exact hk
      | none =>
        obtain ⟨h1, h2⟩ := ih { st with plain := st.plain ++ [((partitionKey key).1, v)],
                                        loc := upsert st.loc (partitionKey key).1 v }
        refine ⟨fun kv hkv => (h1 kv hkv).elim (fun h => ?_) .inr, h2⟩
        exact (List.mem_append.mp h).imp_right fun h => by rw [List.eq_of_mem_singleton h]; exact hk

theorem setLoop_known_nil (p loc : Store) (kvs : List (String × Val)) :
    (∀ kv ∈ (setLoop p ⟨loc, [], []⟩ kvs).1.plain, kv.1 ∈ keys p) ∧
    (∀ t ∈ (setLoop p ⟨loc, [], []⟩ kvs).1.nested, t.1 ∈ keys p) :=
  ⟨fun kv h => ((setLoop_known p _ kvs).1 kv h).resolve_left List.not_mem_nil,
    fun t h => ((setLoop_known p _ kvs).2 t h).resolve_left List.not_mem_nil⟩

/-- an unknown name anywhere in the call raises `ValueError` -/
theorem setLoop_unknown (p : Store) (st : LoopSt) (kvs : List (String × Val))
    (h : ∃ kv ∈ kvs, (partitionKey kv.1).1 ∉ keys p) :
    (setLoop p st kvs).2 = some .value := by
  induction kvs generalizing st with
  | nil => obtain ⟨_, hm, _⟩ := h; cases hm
  | cons kv r ih =>
    obtain ⟨key, v⟩ := kv
    simp only [setLoop]
    cases hknown : (get? p (partitionKey key).1).isSome with
    | false => rfl
    | true =>
      have hrest : ∃ kv ∈ r, (partitionKey kv.1).1 ∉ keys p := by
        obtain ⟨kv', hm, hu⟩ := h
        rcases List.mem_cons.mp hm with rfl | hm
        · exact absurd (get?_isSome_iff.mp hknown) hu
        · exact ⟨kv', hm, hu⟩
      cases (partitionKey key).2 <;> exact ih _ hrest

/-- the loop raises nothing but `ValueError` -/
theorem setLoop_err (p : Store) (st : LoopSt) (kvs : List (String × Val)) :
    (setLoop p st kvs).2 = none ∨ (setLoop p st kvs).2 = some .value := by
  induction kvs generalizing st with
  | nil => left; rfl
  | cons kv r ih =>
    obtain ⟨key, v⟩ := kv
    simp only [setLoop]
    cases (get? p (partitionKey key).1).isSome with
    | false => right; rfl
    | true => cases (partitionKey key).2 <;> exact ih _

/-- the nested routing raises nothing but `AttributeError` -/
theorem runNested_err (p : Store) (n : List (String × String × Val)) :
    (runNested p n).2 = none ∨ (runNested p n).2 = some .attr := by
  rw [runNested]
  generalize eraseDupKeys (n.map (·.1)) = gs
  induction gs with
  | nil => left; rfl
  | cons g gs ih =>
    rw [runNested.go]
    split
    · exact ih
    · right; rfl

/-- assigning known names one after the other only rewrites `params` -/
theorem assignAll_known (e : Est) (kvs : List (String × Val)) (h : ∀ kv ∈ kvs, kv.1 ∈ keys e.params) :
    assignAll e kvs = { e with params := applyAll e.params kvs } := by
  induction kvs generalizing e with
  | nil => rfl
  | cons kv r ih =>
    rw [assignAll, List.foldl_cons, setAttr_param kv.2 (h kv List.mem_cons_self)]
    exact ih _ fun kv' hm => (keys_assign ..).symm ▸ h kv' (List.mem_cons_of_mem _ hm)

/-- `set_params` either leaves the object alone and delegates nothing (the empty call, an unknown name, a rejection
by `validate_params`), or the names were collected, the would-be store passed validation, the plain names were assigned
and the nested ones routed -/
theorem setParams_cases (checks : List Check) (e : Est) (kvs : List (String × Val)) :
    ((setParams checks e kvs).est = e ∧ (setParams checks e kvs).delegated = []) ∨
    ∃ st, setLoop e.params ⟨e.params, [], []⟩ kvs = (st, none) ∧ validate checks st.loc = none ∧
      setParams checks e kvs = ⟨assignAll e st.plain, (runNested (assignAll e st.plain).params st.nested).2,
        (runNested (assignAll e st.plain).params st.nested).1⟩ := by
  unfold setParams
  split
  · exact .inl ⟨rfl, rfl⟩
  · rcases setLoop e.params ⟨e.params, [], []⟩ kvs with ⟨st, _ | x⟩
    · dsimp only
      cases hv : validate checks st.loc with
      | some x => exact .inl ⟨rfl, rfl⟩
      | none => exact .inr ⟨st, rfl, hv, rfl⟩
    · exact .inl ⟨rfl, rfl⟩

/-- `set_params` with plain, known names: validation of the would-be store first; the object is
replaced only when it passes -/
theorem setParams_plain (checks : List Check) (e : Est) (kvs : List (String × Val)) (hne : kvs ≠ [])
    (h : ∀ kv ∈ kvs, Plain kv.1 ∧ kv.1 ∈ keys e.params) :
    setParams checks e kvs =
      match validate checks (applyAll e.params kvs) with
      | some err => ⟨e, some err, []⟩
      | none => ⟨{ e with params := applyAll e.params kvs }, none, []⟩ := by
  rw [setParams, if_neg (by simpa using hne), setLoop_plain e.params ⟨e.params, [], []⟩ kvs rfl h]
  dsimp only
  cases validate checks (applyAll e.params kvs) with
  | some err => rfl
  | none => rw [List.nil_append, assignAll_known e kvs fun kv hm => (h kv hm).2]; rfl

/-- a call that raises anything but the `AttributeError` of the nested routing — that is:
`ValueError` for an unknown name, or whatever `validate_params` raises — changed nothing -/
theorem setParams_rejected_unchanged (checks : List Check) (e : Est) (kvs : List (String × Val))
    (x : Err) (hx : (setParams checks e kvs).err = some x) (hna : x ≠ .attr) :
    (setParams checks e kvs).est = e ∧ (setParams checks e kvs).delegated = [] := by
  rcases setParams_cases checks e kvs with h | ⟨st, _, _, h⟩
  · exact h
  · rw [h] at hx
    rcases runNested_err (assignAll e st.plain).params st.nested with h1 | h1
    · rw [h1] at hx; cases hx
    · rw [h1] at hx; cases hx; exact absurd rfl hna

/-! ### validation -/

theorem validate_ne_none_of_mem {checks : List Check} {p : Store} {c : Check}
    (hm : c ∈ checks) (hf : evalCheck p c ≠ none) : validate checks p ≠ none := by
  induction checks with
  | nil => simp at hm
  | cons c' cs ih =>
    simp only [validate]
    cases h : evalCheck p c' with
    | some e => simp
    | none =>
      simp only
      simp only [List.mem_cons] at hm
      rcases hm with hm | hm
      · subst hm; exact absurd h hf
      · exact ih hm

theorem evalCheck_none_of_validate {checks : List Check} {p : Store} {c : Check}
    (hv : validate checks p = none) (hm : c ∈ checks) : evalCheck p c = none := by
  cases h : evalCheck p c with
  | none => rfl
  | some e => exact absurd hv (validate_ne_none_of_mem hm (by simp [h]))

/-- the parameter an assert line reads -/
def Check.key : Check → String
  | .has k | .range k _ _ | .isFloat k | .isArr k => k

theorem evalCheck_assign_other {p : Store} {c : Check} {k : String} (v : Val) (h : c.key ≠ k) :
    evalCheck (assign p k v) c = evalCheck p c := by
  cases c with
  | has k' | range k' _ _ | isFloat k' | isArr k' =>
    simp only [evalCheck, get?_assign_other v (show k' ≠ k from h)]

/-- overwriting one parameter of an accepted store by a float can only produce an
`AssertionError` (no `TypeError`/`KeyError`/`ValueError` appears) -/
theorem evalCheck_assign_flt {p : Store} {c : Check} {k : String} (q : Rat) (hk : k ∈ keys p)
    (h : evalCheck p c = none) :
    evalCheck (assign p k (.flt q)) c = none ∨ evalCheck (assign p k (.flt q)) c = some .assert := by
  by_cases hkk : c.key = k
  · cases c with
    | has k' =>
      obtain rfl : k' = k := hkk
      exact .inl (by rw [evalCheck, get?_assign_same _ hk]; rfl)
    | range k' lo hi =>
      obtain rfl : k' = k := hkk
      simp only [evalCheck, get?_assign_same _ hk, Val.numView]
      cases inRange lo hi q
      · exact .inr rfl
      · exact .inl rfl
    | isFloat k' =>
      obtain rfl : k' = k := hkk
      exact .inl (by rw [evalCheck, get?_assign_same _ hk])
    | isArr k' =>
      obtain rfl : k' = k := hkk
      exact .inr (by rw [evalCheck, get?_assign_same _ hk])
  · rw [evalCheck_assign_other _ hkk]; exact .inl h

theorem validate_assign_flt {checks : List Check} {p : Store} {k : String} (q : Rat) (hk : k ∈ keys p)
    (h : validate checks p = none) :
    validate checks (assign p k (.flt q)) = none ∨ validate checks (assign p k (.flt q)) = some .assert := by
  induction checks with
  | nil => left; rfl
  | cons c cs ih =>
    simp only [validate] at h ⊢
    cases hc : evalCheck p c with
    | some e => simp [hc] at h
    | none =>
      simp only [hc] at h
      rcases evalCheck_assign_flt q hk hc with h1 | h1
      · simp only [h1]; exact ih h
      · simp only [h1]; right; trivial

/-! ### construction -/

theorem bindList_spec {kw defaults : Store} {args : List String} {s : Store}
    (h : bindList kw defaults args = some s) :
    keys s = args ∧ ∀ a v, get? kw a = some v → a ∈ args → args.Nodup → get? s a = some v := by
  induction args generalizing s with
  | nil => cases h; exact ⟨rfl, fun _ _ _ hm => nomatch hm⟩
  | cons a as ih =>
    rw [bindList] at h
    split at h
    · cases h
    · next v hv =>
      obtain ⟨s', hb, rfl⟩ := Option.map_eq_some_iff.mp h
      obtain ⟨ih1, ih2⟩ := ih hb
      refine ⟨congrArg (a :: ·) ih1, fun a' v' hg hm hn => ?_⟩
      rw [get?]
      split
      · next haa => subst haa; rw [hg] at hv; exact hv.symm
      · next haa => exact ih2 a' v' hg ((List.mem_cons.mp hm).resolve_left (Ne.symm haa)) (List.nodup_cons.mp hn).2

theorem construct_ok {c : ClassSpec} {kw : Store} {e : Est} (h : construct c kw = .ok e) :
    ∃ s, bindArgs c kw = some s ∧ validate c.checks s = none ∧ e = ⟨c.name, s, initAttrs⟩ := by
  rw [construct] at h
  split at h
  · cases h
  · next s hs =>
    split at h
    · cases h
    · next hv => exact ⟨s, hs, hv, (Except.ok.inj h).symm⟩

theorem bindArgs_spec {c : ClassSpec} {kw s : Store} (h : bindArgs c kw = some s) :
    keys s = c.args ∧ (∀ k ∈ keys kw, k ∈ c.args) ∧
    ∀ a v, get? kw a = some v → a ∈ c.args → c.args.Nodup → get? s a = some v := by
  rw [bindArgs] at h
  split at h
  · next hall =>
    exact ⟨(bindList_spec h).1, fun k hk => List.contains_iff_mem.mp (List.all_eq_true.mp hall k hk),
      (bindList_spec h).2⟩
  · cases h

/-- constructing with `p'` = constructing with `p`, then `set_params(**p')`, for any class
description whose argument names are distinct and free of `__` -/
theorem setParams_eq_construct_generic (c : ClassSpec) (hnd : c.args.Nodup) (hpl : ∀ a ∈ c.args, Plain a)
    (p p' : Store) (e e' : Est) (h : construct c p = .ok e) (h' : construct c p' = .ok e')
    (hn' : (keys p').Nodup) (htot : ∀ a ∈ c.args, (get? p' a).isSome) :
    setParams c.checks e p' = ⟨e', none, []⟩ := by
  obtain ⟨s, hs, _, rfl⟩ := construct_ok h
  obtain ⟨s', hs', hv', rfl⟩ := construct_ok h'
  obtain ⟨hks, _, _⟩ := bindArgs_spec hs
  obtain ⟨hks', hsub', hval'⟩ := bindArgs_spec hs'
  -- the store after assigning all of `p'` is the store the constructor binds from `p'`
  have hstore : applyAll s p' = s' := by
    refine store_ext (by rw [keys_applyAll, hks, hks']) (by rw [keys_applyAll, hks]; exact hnd) fun k => ?_
    by_cases hk : k ∈ c.args
    · obtain ⟨v, hg⟩ := Option.isSome_iff_exists.mp (htot k hk)
      rw [hval' k v hg hk hnd]
      exact applyAll_get_of_mem hn' (mem_of_get? hg) (hks ▸ hk)
    · rw [get?_eq_none_iff.mpr (by rwa [keys_applyAll, hks]), get?_eq_none_iff.mpr (by rwa [hks'])]
  cases p' with
  | nil =>
    rw [← hstore]; rfl
  | cons kv r =>
    have hpk : ∀ kv' ∈ kv :: r, Plain kv'.1 ∧ kv'.1 ∈ keys s := fun kv' hm =>
      have hk := hsub' kv'.1 (List.mem_map_of_mem (f := (·.1)) hm)
      ⟨hpl kv'.1 hk, hks ▸ hk⟩
    rw [setParams_plain c.checks _ _ (List.cons_ne_nil _ _) hpk]
    simp only [hstore, hv']

/-! ### attributes -/

/-- well-formed object: `params` is a dict (no duplicate keys), its names contain no `__`,
and no `__dict__` entry shadows a parameter name -/
structure Est.WF (e : Est) : Prop where
  nodup : (keys e.params).Nodup
  plain : ∀ k ∈ keys e.params, Plain k
  disjoint : ∀ k ∈ keys e.params, get? e.attrs k = none

theorem setAttr_WF {e : Est} (h : e.WF) (k : String) (v : Val) : (setAttr e k v).WF := by
  rw [setAttr]
  split
  · exact ⟨(keys_assign ..).symm ▸ h.nodup, (keys_assign ..).symm ▸ h.plain, (keys_assign ..).symm ▸ h.disjoint⟩
  · next hk =>
    refine ⟨h.nodup, h.plain, fun k' hk' => ?_⟩
    have hne : k' ≠ k := fun e' => hk (e' ▸ get?_isSome_iff.mpr hk')
    exact (get?_upsert_other v hne).trans (h.disjoint k' hk')

theorem assignAll_inv (e : Est) (kvs : List (String × Val)) (h : ∀ kv ∈ kvs, kv.1 ∈ keys e.params) :
    keys (assignAll e kvs).params = keys e.params ∧ (assignAll e kvs).attrs = e.attrs ∧
    (assignAll e kvs).cls = e.cls := by
  rw [assignAll_known e kvs h]
  exact ⟨keys_applyAll _ _, rfl, rfl⟩

theorem setParams_inv (checks : List Check) (e : Est) (kvs : List (String × Val)) :
    keys (setParams checks e kvs).est.params = keys e.params ∧
    (setParams checks e kvs).est.attrs = e.attrs ∧ (setParams checks e kvs).est.cls = e.cls := by
  rcases setParams_cases checks e kvs with h | ⟨st, hl, _, h⟩
  · rw [h.1]; exact ⟨rfl, rfl, rfl⟩
  · rw [h]
    have hk := (setLoop_known_nil e.params e.params kvs).1
    rw [hl] at hk
    exact assignAll_inv e st.plain hk

/-! ### ownership -/

theorem read_own_mutate (h : Heap) (a i : Nat) (r : List Rat) {w : Wt} (hw : w.isOwn = true) :
    w.read (h.mutateRow a i r) = w.read h := by
  cases w with
  | own v => rfl
  | view a' i' => simp [Wt.isOwn] at hw

theorem commitRows_copy_own (h : Heap) (a n : Nat) : ∀ w ∈ commitRows true h a n, w.isOwn = true := by
  intro w hw
  simp only [commitRows, if_true, List.mem_filterMap, Option.map_eq_some_iff] at hw
  obtain ⟨i, _, v, _, hv⟩ := hw
  subst hv
  rfl

end Art.Params
