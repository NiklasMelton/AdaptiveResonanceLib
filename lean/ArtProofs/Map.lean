/-
ArtProofs.Map — SimpleARTMAP / ARTMAP: the category→class map is functional,
total on the A-side categories, never overwritten, and consistent with every
training label; for every kernel, mode, epsilon and stream.  ARTMAP on top of it: batches
compose, and `labels_` stays the B-side module's labels.  The file starts with the few facts about
`Forall₂`, the `Option` monad and folds that the files importing this one share.
-/
import ArtProofs.Fit
import ArtModel.ARTMAP

namespace Art

set_option linter.unusedSectionVars false

variable {X Wt α μ θ : Type} [LinearOrder α]

/-- The SimpleARTMAP invariant. -/
structure MapInv (s : SMapState Wt) : Prop where
  map_len : s.map.length = s.a.W.length
  total : ∀ c, c < s.a.W.length → ∃ y, mapGet s.map c = some y
  /-- mapping the stored A-side labels reproduces the supplied targets -/
  agree : List.Forall₂ (fun ca y => mapGet s.map ca = some y) s.a.labels s.labelsB

theorem mapInv_empty : MapInv ({} : SMapState Wt) where
  map_len := rfl
  total := fun _ h => absurd h (Nat.not_lt_zero _)
  agree := List.Forall₂.nil

theorem forall2_map_eq {β γ : Type} {f : β → Option γ} {la : List β} {lb : List γ}
    (h : List.Forall₂ (fun a b => f a = some b) la lb) : la.map f = lb.map some := by
  induction h with
  | nil => rfl
  | cons hab _ ih => rw [List.map_cons, List.map_cons, hab, ih]

theorem bind_of_eq_some {β γ : Type} {o : Option β} {a : β} (f : β → Option γ) (ho : o = some a) :
    (o >>= f) = f a := by
  subst ho; rfl

theorem bind_of_eq_none {β γ : Type} {o : Option β} (f : β → Option γ) (ho : o = none) : (o >>= f) = none := by
  subst ho; rfl

theorem mapM_some {β γ : Type} (f : β → γ) (l : List β) : l.mapM (fun a => some (f a)) = some (l.map f) := by
  induction l with
  | nil => rfl
  | cons a l ih => rw [List.mapM_cons, ih]; rfl

theorem mapM_eq_some_iff_map {β γ : Type} (g : β → Option γ) (l : List β) (r : List γ) :
    l.mapM g = some r ↔ l.map g = r.map some := by
  induction l generalizing r with
  | nil =>
    cases r with
    | nil => exact ⟨fun _ => rfl, fun _ => rfl⟩
    | cons c r => exact ⟨nofun, nofun⟩
  | cons a l ih =>
    rw [List.mapM_cons, List.map_cons]
    constructor
    · intro h
      obtain ⟨b, hb, h⟩ := Option.bind_eq_some_iff.mp h
      obtain ⟨bs, hbs, h⟩ := Option.bind_eq_some_iff.mp h
      cases h
      rw [hb, (ih bs).mp hbs]; rfl
    · intro h
      cases r with
      | nil => cases h
      | cons c r =>
        obtain ⟨h1, h2⟩ := List.cons.inj h
        rw [h1, (ih r).mpr h2]; rfl

theorem mapGet_eq_some {m : List (Option Nat)} {c y : Nat} : mapGet m c = some y ↔ m[c]? = some (some y) :=
  Option.join_eq_some_iff

theorem mapGet_lt {m : List (Option Nat)} {c y : Nat} (h : mapGet m c = some y) : c < m.length :=
  (List.getElem?_eq_some_iff.mp (mapGet_eq_some.mp h)).1

theorem mapGet_append_left {m : List (Option Nat)} {c : Nat} (h : c < m.length) (t : List (Option Nat)) :
    mapGet (m ++ t) c = mapGet m c := by
  unfold mapGet; rw [List.getElem?_append_left h]

theorem mapGet_append_length (m : List (Option Nat)) (y : Nat) : mapGet (m ++ [some y]) m.length = some y := by
  unfold mapGet; rw [List.getElem?_append_right (Nat.le_refl _), Nat.sub_self]; rfl

/-- storing under a key that is present changes nothing (the code asserts equality instead) -/
theorem mapSet_of_mapped {m : List (Option Nat)} {c y' : Nat} (y : Nat) (h : mapGet m c = some y') :
    mapSet m c y = m := by
  unfold mapSet
  rw [if_pos (mapGet_lt h), mapGet_eq_some.mp h]

theorem mapSet_length (m : List (Option Nat)) (y : Nat) : mapSet m m.length y = m ++ [some y] := by
  unfold mapSet
  rw [if_neg (Nat.lt_irrefl _), Nat.sub_self, List.replicate_zero, List.append_nil]

/-- a mapped category is vetoed for every class but its own -/
theorem mapVeto_eq_false_iff {m : List (Option Nat)} {c y y' : Nat} (h : mapGet m c = some y') :
    mapVeto m y c = false ↔ y' = y := by
  rw [mapVeto, h]
  exact bne_eq_false_iff_eq

theorem stepFit_not_vetoed (K : Kernel X Wt α μ) (cfg : SearchCfg μ θ) (th0 : θ) (veto : Nat → Bool)
    (s : ArtState Wt) (x : X) (h : (stepFit K cfg th0 veto s x).2 < s.W.length) :
    veto (stepFit K cfg th0 veto s x).2 = false := by
  unfold stepFit at h ⊢
  by_cases he : s.W.isEmpty
  · rw [if_pos he] at h; exact absurd h (Nat.lt_irrefl _)
  · rw [if_neg he] at h ⊢
    cases hw : (stepSearch K cfg th0 veto s.W x).winner with
    | none => rw [hw] at h; exact absurd h (Nat.lt_irrefl _)
    | some c =>
      have e : (applyWinner K s x (some c)).2 = c := by simp only [applyWinner]; split <;> rfl
      rw [e]; exact stepSearch_winner_not_vetoed K cfg th0 veto s.W x c hw

/-- One supervised step preserves the invariant and never overwrites the map. -/
theorem smapStep_inv (K : Kernel X Wt α μ) (cfg : SearchCfg μ θ) (th0 : θ)
    (s : SMapState Wt) (xy : X × Nat) (h : MapInv s) :
    MapInv (smapStep K cfg th0 s xy) ∧
    (∀ c y, mapGet s.map c = some y → mapGet (smapStep K cfg th0 s xy).map c = some y) ∧
    (∃ c, (smapStep K cfg th0 s xy).a.labels = s.a.labels ++ [c] ∧
      mapGet (smapStep K cfg th0 s xy).map c = some xy.2) := by
  obtain ⟨x, y⟩ := xy
  obtain ⟨_, hl, hcase⟩ := stepFit_frame K cfg th0 (mapVeto s.map y) s.a x
  have hveto := stepFit_not_vetoed K cfg th0 (mapVeto s.map y) s.a x
  unfold smapStep
  generalize stepFit K cfg th0 (mapVeto s.map y) s.a x = r at hl hcase hveto
  obtain ⟨a', c⟩ := r
  dsimp only at hl hcase hveto ⊢
  rw [hl]
  rcases hcase with ⟨hlt, w, _, hW, _⟩ | ⟨rfl, hW, _⟩
  · -- resonance: `c` is mapped already, and to `y` since it was not vetoed; the map is unchanged
    obtain ⟨y', hy'⟩ := h.total c hlt
    obtain rfl : y' = y := (mapVeto_eq_false_iff hy').mp (hveto hlt)
    rw [mapSet_of_mapped y' hy']
    refine ⟨⟨?_, fun k hk => h.total k ?_, List.rel_append h.agree (.cons hy' .nil)⟩,
      fun _ _ hh => hh, c, rfl, hy'⟩
    · rw [hW, List.length_set]; exact h.map_len
    · rwa [hW, List.length_set] at hk
  · -- a new category `|W|`: the map grows by the entry `|W| ↦ y`
    rw [← h.map_len, mapSet_length]
    have hnew := mapGet_append_length s.map y
    have hmono : ∀ c y', mapGet s.map c = some y' → mapGet (s.map ++ [some y]) c = some y' :=
      fun c y' hc => (mapGet_append_left (mapGet_lt hc) _).trans hc
    refine ⟨⟨?_, fun k hk => ?_, List.rel_append (h.agree.imp hmono) (.cons hnew .nil)⟩,
      hmono, _, rfl, hnew⟩
    · rw [hW, List.length_append, List.length_append, h.map_len]; rfl
    · rw [hW, List.length_append, List.length_singleton, ← h.map_len] at hk
      rcases Nat.lt_succ_iff_lt_or_eq.mp hk with hk | rfl
      · obtain ⟨y', hy'⟩ := h.total k (h.map_len ▸ hk)
        exact ⟨y', hmono k y' hy'⟩
      · exact ⟨y, hnew⟩

theorem foldl_inv {σ β : Type} (P : σ → Prop) (f : σ → β → σ) (l : List β) (s : σ)
    (h : ∀ s, ∀ b ∈ l, P s → P (f s b)) (hs : P s) : P (l.foldl f s) := by
  induction l generalizing s with
  | nil => exact hs
  | cons b l ih =>
    exact ih (f s b) (fun s' b' hb' => h s' b' (List.mem_cons_of_mem _ hb')) (h s b List.mem_cons_self hs)

theorem foldl_labels_append {σ β : Type} (step : σ → β → σ) (lab : σ → List Nat)
    (h : ∀ s b, ∃ c, lab (step s b) = lab s ++ [c]) (bs : List β) (s : σ) :
    ∃ t, lab (bs.foldl step s) = lab s ++ t ∧ t.length = bs.length := by
  induction bs generalizing s with
  | nil => exact ⟨[], (List.append_nil _).symm, rfl⟩
  | cons b bs ih =>
    obtain ⟨c, hc⟩ := h s b
    obtain ⟨t, ht, hl⟩ := ih (step s b)
    exact ⟨c :: t, by rw [List.foldl_cons, ht, hc, List.append_assoc]; rfl, congrArg (· + 1) hl⟩

theorem trainStep_labels (K : Kernel X Wt α μ) (cfg : SearchCfg μ θ) (th0 : θ)
    (veto : ArtState Wt → X → Nat → Bool) (s : ArtState Wt) (x : X) :
    (trainStep K cfg th0 veto s x).labels = s.labels ++ [(stepFit K cfg th0 (veto s x) s x).2] :=
  congrArg (· ++ _) (stepFit_frame K cfg th0 (veto s x) s x).2.1

/-- `labels_` of a bare module only grows, by one per presented sample -/
theorem partialFit_labels_append (K : Kernel X Wt α μ) (cfg : SearchCfg μ θ) (th0 : θ)
    (veto : ArtState Wt → X → Nat → Bool) (s : ArtState Wt) (xs : List X) :
    ∃ t, (partialFit K cfg th0 veto s xs).labels = s.labels ++ t ∧ t.length = xs.length :=
  foldl_labels_append _ (·.labels) (fun s x => ⟨_, trainStep_labels K cfg th0 veto s x⟩) xs s

theorem partialFit_newLabels_append (K : Kernel X Wt α μ) (cfg : SearchCfg μ θ) (th0 : θ)
    (veto : ArtState Wt → X → Nat → Bool) (s : ArtState Wt) (xs ys : List X) :
    (partialFit K cfg th0 veto s (xs ++ ys)).labels.drop s.labels.length =
      (partialFit K cfg th0 veto s xs).labels.drop s.labels.length ++
        (partialFit K cfg th0 veto (partialFit K cfg th0 veto s xs) ys).labels.drop
          (partialFit K cfg th0 veto s xs).labels.length := by
  obtain ⟨t₁, ht₁, -⟩ := partialFit_labels_append K cfg th0 veto s xs
  obtain ⟨t₂, ht₂, -⟩ := partialFit_labels_append K cfg th0 veto (partialFit K cfg th0 veto s xs) ys
  rw [partialFit_append, ht₂, ht₁, List.drop_left, List.drop_left, List.append_assoc, List.drop_left]

theorem partialFit_newLabels_length (K : Kernel X Wt α μ) (cfg : SearchCfg μ θ) (th0 : θ)
    (veto : ArtState Wt → X → Nat → Bool) (s : ArtState Wt) (xs : List X) :
    ((partialFit K cfg th0 veto s xs).labels.drop s.labels.length).length = xs.length := by
  rw [List.length_drop, partialFit_labels_length, Nat.add_sub_cancel_left]

theorem smapStep_labelsA (K : Kernel X Wt α μ) (cfg : SearchCfg μ θ) (th0 : θ) (s : SMapState Wt) (xy : X × Nat) :
    (smapStep K cfg th0 s xy).a.labels = s.a.labels ++ [(stepFit K cfg th0 (mapVeto s.map xy.2) s.a xy.1).2] :=
  congrArg (· ++ _) (stepFit_frame K cfg th0 (mapVeto s.map xy.2) s.a xy.1).2.1

/-- the A-side labels of a SimpleARTMAP only grow, by one per presented sample -/
theorem smapPartialFit_labelsA (K : Kernel X Wt α μ) (cfg : SearchCfg μ θ) (th0 : θ)
    (s : SMapState Wt) (xys : List (X × Nat)) :
    ∃ t, (smapPartialFit K cfg th0 s xys).a.labels = s.a.labels ++ t ∧ t.length = xys.length :=
  foldl_labels_append _ (·.a.labels) (fun s xy => ⟨_, smapStep_labelsA K cfg th0 s xy⟩) xys s

/-- `labelsB` is exactly the stream of supplied targets. -/
theorem smapPartialFit_labelsB (K : Kernel X Wt α μ) (cfg : SearchCfg μ θ) (th0 : θ)
    (s : SMapState Wt) (xys : List (X × Nat)) :
    (smapPartialFit K cfg th0 s xys).labelsB = s.labelsB ++ xys.map (·.2) := by
  unfold smapPartialFit
  induction xys generalizing s with
  | nil => exact (List.append_nil _).symm
  | cons xy xys ih =>
    rw [List.foldl_cons, ih, List.map_cons]
    exact List.append_assoc _ [xy.2] _

theorem smapFit_labelsB (K : Kernel X Wt α μ) (cfg : SearchCfg μ θ) (th0 : θ)
    (s : SMapState Wt) (xys : List (X × Nat)) : (smapFit K cfg th0 s xys).labelsB = xys.map (·.2) :=
  (smapPartialFit_labelsB K cfg th0 {} xys).trans (List.nil_append _)

theorem smapPartialFit_append (K : Kernel X Wt α μ) (cfg : SearchCfg μ θ) (th0 : θ)
    (s : SMapState Wt) (a b : List (X × Nat)) :
    smapPartialFit K cfg th0 (smapPartialFit K cfg th0 s a) b = smapPartialFit K cfg th0 s (a ++ b) :=
  (List.foldl_append ..).symm

theorem smapPartialFit_inv (K : Kernel X Wt α μ) (cfg : SearchCfg μ θ) (th0 : θ)
    (s : SMapState Wt) (xys : List (X × Nat)) (h : MapInv s) :
    MapInv (smapPartialFit K cfg th0 s xys) ∧
    (∀ c y, mapGet s.map c = some y → mapGet (smapPartialFit K cfg th0 s xys).map c = some y) := by
  refine foldl_inv (fun s' => MapInv s' ∧ ∀ c y, mapGet s.map c = some y → mapGet s'.map c = some y) _
    xys s ?_ ⟨h, fun _ _ hh => hh⟩
  intro s' xy _ ⟨h', hm⟩
  obtain ⟨h1, hm1, _⟩ := smapStep_inv K cfg th0 s' xy h'
  exact ⟨h1, fun c y hh => hm1 c y (hm c y hh)⟩

theorem smapFit_inv (K : Kernel X Wt α μ) (cfg : SearchCfg μ θ) (th0 : θ)
    (s : SMapState Wt) (xys : List (X × Nat)) : MapInv (smapFit K cfg th0 s xys) :=
  (smapPartialFit_inv K cfg th0 {} xys mapInv_empty).1

/-- forgetting the per-sample labels (what the start of a new epoch does) keeps the invariant -/
theorem mapInv_clear_labels {s : SMapState Wt} (h : MapInv s) :
    MapInv { s with a := { s.a with labels := [] }, labelsB := [] } where
  map_len := h.map_len
  total := h.total
  agree := List.Forall₂.nil

/-- **Any number of epochs**: after `fit(X, y, max_iter = k)` the map is total on the A-side
categories, was never overwritten, and maps the stored A-side labels (those of the last epoch) to
the targets. -/
theorem smapFitEpochs_inv (K : Kernel X Wt α μ) (cfg : SearchCfg μ θ) (th0 : θ) (epochs : Nat)
    (xys : List (X × Nat)) : MapInv (smapFitEpochs K cfg th0 epochs xys) :=
  foldl_inv MapInv _ _ _ (fun _ _ _ hs => (smapPartialFit_inv K cfg th0 _ xys (mapInv_clear_labels hs)).1)
    mapInv_empty

/-- `map_a2b(labels_a) = labels_b`, as lists of options. -/
theorem mapInv_mapA2B {s : SMapState Wt} (h : MapInv s) :
    mapA2B s.map s.a.labels = s.labelsB.map some :=
  forall2_map_eq h.agree

theorem artmapPartialFit_b {XA XB WtA WtB : Type} (KA : Kernel XA WtA α μ) (KB : Kernel XB WtB α μ)
    (cfgA cfgB : SearchCfg μ θ) (thA thB : θ) (st : ArtmapState WtA WtB) (xs : List XA) (ys : List XB) :
    (artmapPartialFit KA KB cfgA cfgB thA thB st xs ys).b = partialFit KB cfgB thB noVeto st.b ys := rfl

theorem artmapPartialFit_s {XA XB WtA WtB : Type} (KA : Kernel XA WtA α μ) (KB : Kernel XB WtB α μ)
    (cfgA cfgB : SearchCfg μ θ) (thA thB : θ) (st : ArtmapState WtA WtB) (xs : List XA) (ys : List XB) :
    (artmapPartialFit KA KB cfgA cfgB thA thB st xs ys).s =
      smapPartialFit KA cfgA thA st.s
        (xs.zip ((partialFit KB cfgB thB noVeto st.b ys).labels.drop st.b.labels.length)) := rfl

/-- ARTMAP: two `partial_fit` batches equal one (the B-side never reads the A-side, and the A-side is
supervised by the B-labels of its own batch). -/
theorem artmapPartialFit_append {XA XB WtA WtB : Type} (KA : Kernel XA WtA α μ) (KB : Kernel XB WtB α μ)
    (cfgA cfgB : SearchCfg μ θ) (thA thB : θ) (st : ArtmapState WtA WtB)
    (xs₁ xs₂ : List XA) (ys₁ ys₂ : List XB) (h₁ : xs₁.length = ys₁.length) :
    artmapPartialFit KA KB cfgA cfgB thA thB
      (artmapPartialFit KA KB cfgA cfgB thA thB st xs₁ ys₁) xs₂ ys₂ =
    artmapPartialFit KA KB cfgA cfgB thA thB st (xs₁ ++ xs₂) (ys₁ ++ ys₂) := by
  unfold artmapPartialFit
  dsimp only
  rw [partialFit_newLabels_append, ← partialFit_append, smapPartialFit_append,
    List.zip_append (h₁.trans (partialFit_newLabels_length KB cfgB thB noVeto st.b ys₁).symm)]

theorem artmapPartialFit_labelsB {XA XB WtA WtB : Type} (KA : Kernel XA WtA α μ) (KB : Kernel XB WtB α μ)
    (cfgA cfgB : SearchCfg μ θ) (thA thB : θ) (st : ArtmapState WtA WtB) (xs : List XA) (ys : List XB)
    (h : st.s.labelsB = st.b.labels) (hxy : xs.length = ys.length) :
    (artmapPartialFit KA KB cfgA cfgB thA thB st xs ys).s.labelsB =
      (artmapPartialFit KA KB cfgA cfgB thA thB st xs ys).b.labels := by
  obtain ⟨t, ht, hn⟩ := partialFit_labels_append KB cfgB thB noVeto st.b ys
  rw [artmapPartialFit_s, artmapPartialFit_b, smapPartialFit_labelsB, h, ht, List.drop_left,
    List.map_snd_zip (Nat.le_of_eq (hn.trans hxy.symm))]

end Art
