/-
ArtProofs.Search — lemmas about the generic resonance search, for every linear
order of activations, every match/threshold type, every configuration.
-/
import ArtProofs.Order
import ArtModel.Search

namespace Art

set_option linter.unusedSectionVars false

variable {α μ θ : Type}

/-- number of non-NaN activations -/
def liveCount (T : List (Option α)) : Nat := (T.filter (·.isSome)).length

theorem liveCount_set_none {T : List (Option α)} {c : Nat} {v : α}
    (h : T[c]? = some (some v)) : liveCount (T.set c none) + 1 = liveCount T := by
  induction T generalizing c with
  | nil => cases h
  | cons t ts ih =>
    cases c with
    | zero => cases h; rfl
    | succ c =>
      cases t with
      | none => exact ih h
      | some a => exact congrArg (· + 1) (ih h)

theorem liveCount_le_length (T : List (Option α)) : liveCount T ≤ T.length :=
  List.length_filter_le _ _

variable [LinearOrder α]

theorem liveCount_eq_zero {T : List (Option α)} (h : liveCount T = 0) : nanargmax T = none := by
  rw [nanargmax_eq_none_iff]
  intro t ht
  have := List.filter_eq_nil_iff.mp (List.length_eq_zero_iff.mp h) t ht
  cases t with
  | none => rfl
  | some a => exact absurd rfl this

theorem search_succ (cfg : SearchCfg μ θ) (M : Nat → μ) (veto : Nat → Bool)
    (fuel : Nat) (T : List (Option α)) (th : θ) :
    search cfg M veto (fuel + 1) T th =
      match nanargmax T with
      | none => ⟨none, th, []⟩
      | some c =>
        if cfg.passes th (M c) && (cfg.tilde || !veto c) then
          ⟨some c, th, [⟨c, th, cfg.passes th (M c), cfg.tilde || !veto c⟩]⟩
        else if cfg.passes th (M c) && !(cfg.tilde || !veto c) then
          if cfg.keep then
            (search cfg M veto fuel (T.set c none) (cfg.track th (M c))).cons
              ⟨c, th, cfg.passes th (M c), cfg.tilde || !veto c⟩
          else ⟨none, cfg.track th (M c), [⟨c, th, cfg.passes th (M c), cfg.tilde || !veto c⟩]⟩
        else
          (search cfg M veto fuel (T.set c none) th).cons
            ⟨c, th, cfg.passes th (M c), cfg.tilde || !veto c⟩ := by
  rw [search]
  cases nanargmax T <;> rfl

theorem search_of_liveCount_eq_zero (cfg : SearchCfg μ θ) (M : Nat → μ) (veto : Nat → Bool)
    (fuel : Nat) {T : List (Option α)} (th : θ) (h : liveCount T = 0) :
    search cfg M veto fuel T th = ⟨none, th, []⟩ := by
  cases fuel with
  | zero => rfl
  | succ fuel => rw [search_succ, liveCount_eq_zero h]

/-- Termination: any fuel ≥ the number of live candidates gives the same result
(each iteration strikes one candidate). -/
theorem search_fuel_irrelevant (cfg : SearchCfg μ θ) (M : Nat → μ) (veto : Nat → Bool)
    (f₁ f₂ : Nat) (T : List (Option α)) (th : θ)
    (h₁ : liveCount T ≤ f₁) (h₂ : liveCount T ≤ f₂) :
    search cfg M veto f₁ T th = search cfg M veto f₂ T th := by
  induction f₁ generalizing f₂ T th with
  | zero =>
    have h0 := Nat.le_zero.mp h₁
    rw [search_of_liveCount_eq_zero _ _ _ 0 _ h0, search_of_liveCount_eq_zero _ _ _ f₂ _ h0]
  | succ f₁ ih =>
    cases f₂ with
    | zero =>
      have h0 := Nat.le_zero.mp h₂
      rw [search_of_liveCount_eq_zero _ _ _ _ _ h0, search_of_liveCount_eq_zero _ _ _ 0 _ h0]
    | succ f₂ =>
      rw [search_succ, search_succ]
      cases hc : nanargmax T with
      | none => rfl
      | some c =>
        obtain ⟨v, hv⟩ := nanargmax_isSome_at hc
        -- striking the visited candidate leaves one live candidate fewer
        have hl := liveCount_set_none hv
        have e := fun th' => ih f₂ (T.set c none) th' (Nat.le_of_succ_le_succ (hl.trans_le h₁))
          (Nat.le_of_succ_le_succ (hl.trans_le h₂))
        simp only [e]

section
variable (cfg : SearchCfg μ θ) (M : Nat → μ) (veto : Nat → Bool)

@[simp] theorem SearchResult.cons_winner (v : Visit θ) (r : SearchResult θ) :
    (r.cons v).winner = r.winner := rfl
@[simp] theorem SearchResult.cons_visits (v : Visit θ) (r : SearchResult θ) :
    (r.cons v).visits = v :: r.visits := rfl
@[simp] theorem SearchResult.cons_th (v : Visit θ) (r : SearchResult θ) :
    (r.cons v).th = r.th := rfl

def nextTh (v : Visit θ) : θ :=
  if v.m && !v.ok then cfg.track v.th (M v.c) else v.th

theorem search_induction (P : List (Option α) → θ → SearchResult θ → Prop)
    (hnone : ∀ T th, nanargmax T = none → P T th ⟨none, th, []⟩)
    (hwin : ∀ T th c, nanargmax T = some c → cfg.passes th (M c) = true →
      (cfg.tilde || !veto c) = true → P T th ⟨some c, th, [⟨c, th, true, true⟩]⟩)
    (habandon : ∀ T th c, nanargmax T = some c → cfg.passes th (M c) = true →
      (cfg.tilde || !veto c) = false → cfg.keep = false →
      P T th ⟨none, cfg.track th (M c), [⟨c, th, true, false⟩]⟩)
    (hcont : ∀ T th c m ok r, nanargmax T = some c → m = cfg.passes th (M c) →
      ok = (cfg.tilde || !veto c) → (m && ok) = false →
      P (T.set c none) (nextTh cfg M ⟨c, th, m, ok⟩) r → P T th (r.cons ⟨c, th, m, ok⟩))
    (fuel : Nat) (T : List (Option α)) (th : θ) (hf : liveCount T ≤ fuel) :
    P T th (search cfg M veto fuel T th) := by
  induction fuel generalizing T th with
  | zero => exact hnone T th (liveCount_eq_zero (Nat.le_zero.mp hf))
  | succ fuel ih =>
    cases hc : nanargmax T with
    | none => rw [search_succ, hc]; exact hnone T th hc
    | some c =>
      rw [search_succ, hc]
      dsimp only
      obtain ⟨v, hv⟩ := nanargmax_isSome_at hc
      have hl := liveCount_set_none hv
      have hrec := fun th' => ih (T.set c none) th' (Nat.le_of_succ_le_succ (hl.trans_le hf))
      cases hm : cfg.passes th (M c) <;> cases hok : (cfg.tilde || !veto c)
      · exact hcont T th c false false _ hc hm.symm hok.symm rfl (hrec th)
      · exact hcont T th c false true _ hc hm.symm hok.symm rfl (hrec th)
      · cases hk : cfg.keep
        · exact habandon T th c hc hm hok hk
        · exact hcont T th c true false _ hc hm.symm hok.symm rfl (hrec _)
      · exact hwin T th c hc hm hok

theorem live_of_live_set {T : List (Option α)} {c j : Nat} {u : α}
    (h : (T.set c none)[j]? = some (some u)) : T[j]? = some (some u) ∧ j ≠ c := by
  rw [List.getElem?_set] at h
  split at h
  · split at h <;> cases h
  · rename_i hne
    exact ⟨h, fun e => hne e.symm⟩

theorem live_set_of_live {T : List (Option α)} {c j : Nat} {u : α}
    (h : T[j]? = some (some u)) (hne : j ≠ c) : (T.set c none)[j]? = some (some u) := by
  rw [List.getElem?_set_ne hne.symm, h]

/-- **Winner soundness.**  A returned winner is a live candidate, passed the
vigilance test against the threshold in force when it was visited, and was not
vetoed; it is the last visit. -/
theorem search_winner_sound (fuel : Nat) (T : List (Option α)) (th : θ)
    (hf : liveCount T ≤ fuel) (c : Nat)
    (h : (search cfg M veto fuel T th).winner = some c) :
    (∃ v, T[c]? = some (some v)) ∧
    ∃ th', (search cfg M veto fuel T th).visits.getLast? = some ⟨c, th', true, true⟩ ∧
      cfg.passes th' (M c) = true ∧ (cfg.tilde || !veto c) = true := by
  revert c
  refine search_induction cfg M veto
    (fun T _ r => ∀ c, r.winner = some c → (∃ v, T[c]? = some (some v)) ∧
      ∃ th', r.visits.getLast? = some ⟨c, th', true, true⟩ ∧
        cfg.passes th' (M c) = true ∧ (cfg.tilde || !veto c) = true)
    ?_ ?_ ?_ ?_ fuel T th hf
  · intro T th _ c h; cases h
  · intro T th c hc hm hok c' h
    cases h
    exact ⟨nanargmax_isSome_at hc, th, rfl, hm, hok⟩
  · intro T th c _ _ _ _ c' h; cases h
  · intro T th c m ok r _ _ _ _ ih c' h
    obtain ⟨⟨v, hv⟩, th', hl, hp⟩ := ih c' h
    refine ⟨⟨v, (live_of_live_set hv).1⟩, th', ?_, hp⟩
    rw [SearchResult.cons_visits, List.getLast?_cons, hl]
    rfl

/-- Every visit records exactly the test results for its category; a visit
that passed and was allowed is the winner. -/
theorem search_visits_faithful (fuel : Nat) (T : List (Option α)) (th : θ)
    (hf : liveCount T ≤ fuel) :
    ∀ v ∈ (search cfg M veto fuel T th).visits,
      v.m = cfg.passes v.th (M v.c) ∧ v.ok = (cfg.tilde || !veto v.c) ∧
      ((v.m && v.ok) = true → (search cfg M veto fuel T th).winner = some v.c) := by
  refine search_induction cfg M veto
    (fun _ _ r => ∀ v ∈ r.visits, v.m = cfg.passes v.th (M v.c) ∧
      v.ok = (cfg.tilde || !veto v.c) ∧ ((v.m && v.ok) = true → r.winner = some v.c))
    ?_ ?_ ?_ ?_ fuel T th hf
  · intro T th _ v hv; cases hv
  · intro T th c _ hm hok v hv
    cases List.mem_singleton.mp hv
    exact ⟨hm.symm, hok.symm, fun _ => rfl⟩
  · intro T th c _ hm hok _ v hv
    cases List.mem_singleton.mp hv
    exact ⟨hm.symm, hok.symm, fun h => nomatch h⟩
  · intro T th c m ok r _ hm hok hrej ih v hv
    rcases List.mem_cons.mp hv with rfl | hv
    · exact ⟨hm, hok, fun h => absurd (hrej ▸ h) Bool.false_ne_true⟩
    · exact ih v hv

/-- the visits `vs` thread the threshold from `th` to `thEnd`: each sees the threshold its predecessor
handed on (`nextTh`) -/
def ThreadsFrom : θ → List (Visit θ) → θ → Prop
  | th, [], thEnd => thEnd = th
  | th, v :: vs, thEnd => v.th = th ∧ ThreadsFrom (nextTh cfg M v) vs thEnd

/-- **Threshold trace.**  The first visit sees the configured threshold; the
threshold changes only after a visit that *passed and was vetoed*, and then to
exactly `track th (M c)`. -/
theorem search_threshold_trace (fuel : Nat) (T : List (Option α)) (th : θ)
    (hf : liveCount T ≤ fuel) :
    ThreadsFrom cfg M th (search cfg M veto fuel T th).visits
      (search cfg M veto fuel T th).th := by
  refine search_induction cfg M veto
    (fun _ th r => ThreadsFrom cfg M th r.visits r.th) ?_ ?_ ?_ ?_ fuel T th hf
  · intro T th _; exact rfl
  · intro T th c _ _ _; exact ⟨rfl, rfl⟩
  · intro T th c _ _ _ _; exact ⟨rfl, rfl⟩
  · intro T th c m ok r _ _ _ _ ih; exact ⟨rfl, ih⟩

/-- Any invariant of the threshold that survives tracking holds at every visit. -/
theorem search_threshold_inv (Q : θ → Prop)
    (hQ : ∀ th m, Q th → cfg.passes th m = true → Q (cfg.track th m))
    (fuel : Nat) (T : List (Option α)) (th : θ) (hf : liveCount T ≤ fuel) (h0 : Q th) :
    ∀ v ∈ (search cfg M veto fuel T th).visits, Q v.th := by
  revert h0
  refine search_induction cfg M veto
    (fun _ th r => Q th → ∀ v ∈ r.visits, Q v.th) ?_ ?_ ?_ ?_ fuel T th hf
  · intro T th _ _ v hv; cases hv
  · intro T th c _ _ _ h0 v hv; cases List.mem_singleton.mp hv; exact h0
  · intro T th c _ _ _ _ h0 v hv; cases List.mem_singleton.mp hv; exact h0
  · intro T th c m ok r _ hm _ _ ih h0 v hv
    rcases List.mem_cons.mp hv with rfl | hv
    · exact h0
    · refine ih ?_ v hv
      -- the threshold moved only if the visit matched
      unfold nextTh
      split
      · rename_i h
        exact hQ _ _ h0 (hm ▸ (Bool.and_eq_true_iff.mp h).1)
      · exact h0

/-- `i` is visited before `j`: larger activation, or equal activation and
smaller index. -/
def Before (T : List (Option α)) (i j : Nat) : Prop :=
  ∃ a b, T[i]? = some (some a) ∧ T[j]? = some (some b) ∧ (b < a ∨ (a = b ∧ i < j))

theorem IsFirstMax.before {T : List (Option α)} {c j : Nat} {a b : α} (ha : IsFirstMax T c a)
    (hb : T[j]? = some (some b)) (hne : j ≠ c) : Before T c j := by
  refine ⟨a, b, ha.at_k, hb, ?_⟩
  rcases lt_or_eq_of_le (ha.ge_all _ _ hb) with hlt | heq
  · exact Or.inl hlt
  · refine Or.inr ⟨heq.symm, Nat.lt_of_le_of_ne (Nat.le_of_not_lt fun h => ?_) (Ne.symm hne)⟩
    exact absurd (ha.gt_before _ _ h hb) (heq ▸ lt_irrefl _)

/-- **Visiting order.**  Categories are visited by decreasing activation, ties by
increasing index (oldest first); only live candidates are visited, each once. -/
theorem search_visit_order (fuel : Nat) (T : List (Option α)) (th : θ)
    (hf : liveCount T ≤ fuel) :
    ((search cfg M veto fuel T th).visits.map (·.c)).Pairwise (Before T) ∧
    ∀ v ∈ (search cfg M veto fuel T th).visits, ∃ a, T[v.c]? = some (some a) := by
  refine search_induction cfg M veto
    (fun T _ r => ((r.visits.map (·.c)).Pairwise (Before T)) ∧
      ∀ v ∈ r.visits, ∃ a, T[v.c]? = some (some a)) ?_ ?_ ?_ ?_ fuel T th hf
  · intro T th _; exact ⟨.nil, fun v hv => nomatch hv⟩
  · intro T th c hc _ _
    exact ⟨List.pairwise_singleton _ _, fun v hv => List.mem_singleton.mp hv ▸ nanargmax_isSome_at hc⟩
  · intro T th c hc _ _ _
    exact ⟨List.pairwise_singleton _ _, fun v hv => List.mem_singleton.mp hv ▸ nanargmax_isSome_at hc⟩
  · -- `c` is the first maximum of `T`, the later visits are live in `T` without `c`
    intro T th c m ok r hc _ _ _ ⟨ih1, ih2⟩
    obtain ⟨a, ha⟩ := nanargmax_eq_some_iff.mp hc
    constructor
    · refine List.pairwise_cons.mpr ⟨?_, ih1.imp ?_⟩
      · intro j hj
        obtain ⟨v, hv, rfl⟩ := List.mem_map.mp hj
        obtain ⟨b, hb⟩ := ih2 v hv
        obtain ⟨hb', hne⟩ := live_of_live_set hb
        exact ha.before hb' hne
      · rintro i j ⟨p, q, hp, hq, hpq⟩
        exact ⟨p, q, (live_of_live_set hp).1, (live_of_live_set hq).1, hpq⟩
    · intro v hv
      rcases List.mem_cons.mp hv with rfl | hv
      · exact ⟨a, ha.at_k⟩
      · exact (ih2 v hv).imp fun b hb => (live_of_live_set hb).1

/-- **Exhaustion.**  If the search ends without a winner and was not abandoned
(MT1), every live candidate was visited. -/
theorem search_exhaustive (hkeep : cfg.keep = true) (fuel : Nat) (T : List (Option α)) (th : θ)
    (hf : liveCount T ≤ fuel) (hnone : (search cfg M veto fuel T th).winner = none) :
    ∀ c a, T[c]? = some (some a) → c ∈ (search cfg M veto fuel T th).visits.map (·.c) := by
  revert hnone
  refine search_induction cfg M veto
    (fun T _ r => r.winner = none → ∀ c a, T[c]? = some (some a) → c ∈ r.visits.map (·.c))
    ?_ ?_ ?_ ?_ fuel T th hf
  · intro T th hn _ c a hc
    exact nomatch nanargmax_eq_none_iff.mp hn _ (List.mem_of_getElem? hc)
  · intro T th c _ _ _ h; cases h
  · intro T th c _ _ _ hk; exact absurd (hkeep ▸ hk) Bool.noConfusion
  · intro T th c m ok r _ _ _ _ ih h c' a hc'
    by_cases e : c' = c
    · exact e ▸ List.mem_cons_self
    · exact List.mem_cons_of_mem _ (ih h c' a (live_set_of_live hc' e))

/-- Candidates that qualify against a fixed threshold. -/
def qualifying (th : θ) (T : List (Option α)) : List (Option α) :=
  (List.zipIdx T).map (fun ti => if cfg.passes th (M ti.2) then ti.1 else none)

theorem qualifying_getElem? (th : θ) (T : List (Option α)) (j : Nat) :
    (qualifying cfg M th T)[j]? =
      (T[j]?).map (fun t => if cfg.passes th (M j) then t else none) := by
  rw [qualifying, List.getElem?_map, List.getElem?_zipIdx, Option.map_map]
  cases T[j]? with
  | none => rfl
  | some t => simp only [Option.map_some, Function.comp_apply, Nat.zero_add]

theorem qualifying_live {th : θ} {T : List (Option α)} {j : Nat} {u : α} :
    (qualifying cfg M th T)[j]? = some (some u) ↔ T[j]? = some (some u) ∧ cfg.passes th (M j) = true := by
  rw [qualifying_getElem?]
  cases T[j]? with
  | none => exact ⟨fun h => (nomatch h), fun h => (nomatch h.1)⟩
  | some t =>
    cases cfg.passes th (M j) with
    | false => exact ⟨fun h => (nomatch h), fun h => (nomatch h.2)⟩
    | true => exact ⟨fun h => ⟨h, rfl⟩, fun h => h.1⟩

/-- **No reset function: the best vigilance-passing category wins, else new.**
Without vetoes the result is exactly the first index of maximal activation
among the candidates whose match value passes the configured threshold, and
`none` iff there is no such candidate. -/
theorem search_no_veto (fuel : Nat) (T : List (Option α)) (th : θ)
    (hf : liveCount T ≤ fuel) :
    (search cfg M (fun _ => false) fuel T th).winner = nanargmax (qualifying cfg M th T) := by
  refine search_induction cfg M (fun _ => false)
    (fun T th r => r.winner = nanargmax (qualifying cfg M th T)) ?_ ?_ ?_ ?_ fuel T th hf
  · -- nothing live in `T`, so nothing live among the qualifying
    intro T th hn
    refine (nanargmax_eq_none_iff.mpr fun t ht => ?_).symm
    cases t with
    | none => rfl
    | some u =>
      obtain ⟨j, hj⟩ := List.getElem?_of_mem ht
      exact nomatch nanargmax_eq_none_iff.mp hn _ (List.mem_of_getElem? ((qualifying_live cfg M).mp hj).1)
  · -- the first maximum of `T` passes, so it is the first maximum among the qualifying
    intro T th c hc hm _
    exact (nanargmax_of_live_subset hc (fun j u hj => ((qualifying_live cfg M).mp hj).1)
      fun a ha => (qualifying_live cfg M).mpr ⟨ha, hm⟩).symm
  · intro T th c _ _ hok; exact nomatch (Bool.or_true _).symm.trans hok
  · -- the first maximum of `T` fails: striking it changes nothing among the qualifying
    intro T th c m ok r hc hm hok hrej ih
    have hm' : m = false := by
      rw [hok, Bool.not_false, Bool.or_true, Bool.and_true] at hrej
      exact hrej
    have hth : nextTh cfg M ⟨c, th, m, ok⟩ = th := by
      rw [nextTh, hm', Bool.false_and]
      rfl
    rw [hm] at hm'
    rw [SearchResult.cons_winner, ih, hth]
    refine nanargmax_congr_live fun j u => ?_
    rw [qualifying_live, qualifying_live]
    constructor
    · rintro ⟨hj, hp⟩
      exact ⟨(live_of_live_set hj).1, hp⟩
    · rintro ⟨hj, hp⟩
      refine ⟨live_set_of_live hj fun e => ?_, hp⟩
      rw [e, hm'] at hp
      cases hp

/-- In MT~ mode the loop never consults the reset function. -/
theorem search_tilde_ignores_veto (htilde : cfg.tilde = true) (fuel : Nat) (T : List (Option α)) (th : θ) :
    search cfg M veto fuel T th = search cfg M (fun _ => false) fuel T th := by
  induction fuel generalizing T th with
  | zero => rfl
  | succ fuel ih =>
    rw [search_succ, search_succ]
    cases nanargmax T with
    | none => rfl
    | some c => simp only [htilde, Bool.true_or, ih]

end

/-! ### The scalar vigilance test

`passesScalar mode inverted ρ m` compares the match value with the threshold: `ρ ≤ m`, strictly in the modes with a
strict operator (MT0, MT~); `inverted` (BayesianART) swaps the two sides. -/

theorem passesScalar_le (mode : MT) (h : mtStrict mode = false) {rho m : α} :
    passesScalar mode false rho m = true ↔ rho ≤ m := by
  unfold passesScalar
  rw [h]
  exact decide_eq_true_iff

theorem passesScalar_lt (mode : MT) (h : mtStrict mode = true) {rho m : α} :
    passesScalar mode false rho m = true ↔ rho < m := by
  unfold passesScalar
  rw [h]
  exact decide_eq_true_iff

theorem passesScalar_inverted (mode : MT) (rho m : α) :
    passesScalar mode true rho m = passesScalar mode false m rho := by
  unfold passesScalar
  cases mtStrict mode <;> rfl

theorem le_of_passesScalar {mode : MT} {rho m : α} (h : passesScalar mode false rho m = true) : rho ≤ m := by
  cases hs : mtStrict mode
  · exact (passesScalar_le mode hs).mp h
  · exact ((passesScalar_lt mode hs).mp h).le

end Art
