/-
ArtGenProofs.FusionPredictSpec — the rest of FusionART (prediction with skipped channels, regression, join / split,
prepare / restore, centre accessors), as translated from the Python source by `harness/artv/ftrans2.py`
(ArtGen/FusionPredict.lean), computes the definitions of `ArtModel/Fusion.lean` that the C10 / C11 property theorems
are stated about — for every number of channels, every layout of widths, every weight list, every query / array and
every list of skipped channels (positive or negative indices).  The nested estimators are abstract objects (`ModOps`
of ArtGen/Fusion.lean, `ModOps2` here); what is assumed of them is stated as hypotheses of each theorem (the
hypotheses of `Art.GenSpec.fusion_category_choice`, plus: `get_cluster_centers` maps `centre k` over the module's
weights, `prepare_data` / `restore_data` act row by row), and section `Example` instantiates everything with two
FuzzyART channels over ℚ and runs the generated code.  The model works on one row; the code on 2-d arrays: the
array-level statements are "row `r` of the result = the model's function of row `r` of the arguments".

  step_pred_spec                 step_pred(x, skip_channels) = Fusion.stepPredSkip   (argmax of choiceSkip over the W property)
  predict_spec                   predict(X, skip_channels) = allSome (Fusion.predictSkip …)   (indices normalised once)
  gen_skip_independent, gen_skip_is_argmax_of_rest, gen_skip_index_normalised     C11's theorems for the generated predict
  join_channel_data_spec / _rows join_channel_data = Fusion.joinRow row by row; raises iff too few arrays are supplied
  split_channel_data_spec / _rows split_channel_data = Fusion.splitRow row by row; never raises
  gen_split_join                 C11.split_join for the generated code: split ∘ join = id on the supplied arrays
  get_channel_centers_spec       get_channel_centers(k) = Fusion.channelCentres
  predict_regression_spec        predict_regression = Fusion.predictRegression row by row, in the shape the code returns
  gen_regression_target_centres  C11.regression_multi_is_target_centres for the generated code
  prepare_data_spec              prepare_data = Fusion.prepareRow row by row
  restore_data_spec              restore_data = Fusion.restoreRow row by row; never raises
  gen_restore_prepare            C11.restore_prepare for the generated code: restore ∘ prepare = id on the supplied arrays
  n_clusters_spec, get_cluster_centers_spec     the first module's count; centre i = concatenation of the modules' i-th centres
-/
import ArtGen.FusionPredict
import ArtGenProofs.FusionSpec
import ArtProps.C11

set_option linter.unusedSectionVars false

namespace Art.GenSpec.FusionPredict
open Art Art.Fusion Art.Imp Art.ImpFusion2 Art.Gen.FusionART Art.Gen.FusionARTPredict Art.GenSpec

/-! ### basics -/
section Basics
variable {β γ : Type}

/-- the skip-index normalisation `[self.n + k if k < 0 else k for k in skip_channels]` is `map (normIdx n)` -/
theorem norm_mapM (n : Nat) (ks : List Int) :
    ks.mapM (fun k => do pure (← if (decide (k < (Int.ofNat 0))) then (do pure ((Int.ofNat n) + k)) else (do pure k)))
      = some (ks.map (normIdx n)) := by
  apply mapM_some_of_forall
  intro k _
  by_cases hk : k < 0 <;> simp [normIdx, hk]

theorem natsOf_contains (l : List Int) (j : Nat) : (natsOf l).contains j = l.contains (j : Int) := by
  rw [Bool.eq_iff_iff, List.contains_iff_mem, List.contains_iff_mem, natsOf, List.mem_filterMap]
  constructor
  · rintro ⟨k, hk, h⟩
    split at h
    · cases h
    · rename_i h0
      obtain rfl : (j : Int) = k := by
        rw [← Option.some.inj h]; exact Int.toNat_of_nonneg (Int.not_lt.1 h0)
      exact hk
  · exact fun h => ⟨j, h, by rw [if_neg (Int.not_lt.2 (Int.natCast_nonneg j)), Int.toNat_natCast]⟩

theorem allSome_cons_some (a : β) (l : List (Option β)) : allSome (some a :: l) = (allSome l).map (a :: ·) := rfl

theorem allSome_eq_some_iff (l : List (Option β)) (X : List β) : allSome l = some X ↔ l = X.map some := by
  induction l generalizing X with
  | nil => cases X <;> simp [allSome]
  | cons a l ih =>
    cases a with
    | none => cases X <;> simp [allSome]
    | some a =>
      rw [allSome_cons_some, Option.map_eq_some_iff]
      constructor
      · rintro ⟨X', hX', rfl⟩
        rw [(ih X').1 hX']
        rfl
      · intro h
        cases X with
        | nil => cases h
        | cons x X =>
          obtain ⟨hx, hl⟩ := List.cons.inj h
          exact ⟨X, (ih X).2 hl, by rw [Option.some.inj hx]⟩

theorem allSome_map_map {γ : Type} (ρ : β → γ) (l : List (Option β)) :
    allSome (l.map (Option.map ρ)) = (allSome l).map (List.map ρ) := by
  induction l with
  | nil => rfl
  | cons a l ih =>
    cases a with
    | none => rfl
    | some a => rw [List.map_cons, Option.map_some, allSome_cons_some, allSome_cons_some, ih, Option.map_map,
        Option.map_map]; rfl

theorem allSome_none_of_mem (l : List (Option β)) (h : none ∈ l) : allSome l = none := by
  cases hl : allSome l with
  | none => rfl
  | some X =>
    rw [(allSome_eq_some_iff l X).1 hl] at h
    obtain ⟨_, _, hx⟩ := List.mem_map.1 h
    cases hx

/-- a comprehension of which a part `π` of every entry is known: it succeeds, and the parts are the known ones -/
theorem mapM_proj {β' : Type} (π : β' → β) {l : List γ} {f : γ → Option β'} {t : List β}
    (h : l.map (fun a => (f a).map π) = t.map some) : ∃ r, l.mapM f = some r ∧ r.map π = t := by
  have : (l.mapM f).map (List.map π) = some t := by
    rw [mapM_eq_allSome, ← allSome_map_map, List.map_map, ← allSome_map_some t]
    exact congrArg allSome h
  exact Option.map_eq_some_iff.1 this

theorem pySetItem_append (pre : List β) (r : β) (rest : List β) (c : β) :
    pySetItem (pre ++ r :: rest) pre.length c = some ((pre ++ [c]) ++ rest) := by
  rw [pySetItem, if_pos (by rw [List.length_append, List.length_cons]; omega),
    List.set_append_right _ _ (Nat.le_refl _), Nat.sub_self, List.set_cons_zero, List.append_assoc]
  rfl

/-- `y = np.zeros(len(X)); for i, x in enumerate(X): y[i] = f(x)`: the list of the `f x`, or the first exception -/
theorem foldlM_setItem (f : γ → Option β) (body : List β → γ × Nat → Option (List β))
    (hbody : ∀ y x i, body y (x, i) = (f x).bind (fun c => pySetItem y i c))
    (X : List γ) (pre rest : List β) (h : X.length ≤ rest.length) :
    (X.zipIdx pre.length).foldlM body (pre ++ rest)
      = (allSome (X.map f)).map (fun cs => pre ++ cs ++ rest.drop X.length) := by
  induction X generalizing pre rest with
  | nil =>
    show some (pre ++ rest) = some (pre ++ [] ++ rest)
    rw [List.append_nil]
  | cons x X ih =>
    obtain ⟨r, rest, rfl⟩ := List.exists_cons_of_length_pos (Nat.lt_of_lt_of_le (Nat.succ_pos _) h)
    rw [List.zipIdx_cons, List.foldlM_cons, hbody, List.map_cons]
    cases hfx : f x with
    | none => rfl
    | some c =>
      rw [Option.bind_some, pySetItem_append, allSome_cons_some, Option.map_map]
      have := ih (pre ++ [c]) rest (Nat.le_of_succ_le_succ h)
      rw [List.length_append, List.length_singleton] at this
      refine this.trans (congrArg (fun F => Option.map F _) (funext fun cs => ?_))
      simp only [Function.comp_apply, List.append_assoc, List.singleton_append, List.length_cons, List.drop_succ_cons]

theorem foldlM_setItem0 (f : γ → Option β) (body : List β → γ × Nat → Option (List β))
    (hbody : ∀ y x i, body y (x, i) = (f x).bind (fun c => pySetItem y i c)) (X : List γ) (d : β) :
    X.zipIdx.foldlM body (List.replicate X.length d) = allSome (X.map f) := by
  have h := foldlM_setItem f body hbody X [] (List.replicate X.length d) (by rw [List.length_replicate])
  rw [List.nil_append] at h
  rw [show X.zipIdx = X.zipIdx ([] : List β).length from rfl, h]
  cases allSome (X.map f) with
  | none => rfl
  | some cs =>
    rw [Option.map_some, List.nil_append, List.drop_of_length_le (by rw [List.length_replicate]), List.append_nil]

end Basics

/-! ### `step_pred` / `predict` with skipped channels -/
section Predict
variable {M P C Op α : Type} [Add α] [Mul α] [Div α] [Zero α] [One α] [LT α] [DecidableRel (α := α) (· < ·)]

/-- **`FusionART.step_pred(x, skip_channels)` = `Fusion.stepPredSkip`**: the `np.argmax` over the categories of the `W`
property of the gamma-weighted activations in which a skipped channel contributes `1·gamma`.  (`step_pred` itself does
not normalise negative indices: an entry of `skip_channels` that is not a channel number skips nothing.) -/
theorem step_pred_spec (ops : ModOps M α P C Op) (chans : List (Chan α)) (modules : List M) (n : Nat)
    (chIdx wIdx : List (Nat × Nat)) (gamma_values : List α) (dictEmpty : C)
    (L : Layout chans modules n chIdx wIdx gamma_values) (W : List (List α))
    (hWg : W_get ops modules n = some W)
    (hW : ∀ (k : Nat) m, modules[k]? = some m → ops.W m = W.map (slice (wlens chans) k))
    (hK : ∀ (k : Nat) m (c : Chan α), modules[k]? = some m → chans[k]? = some c → ∀ xi wi,
      (ops.category_choice m xi wi (ops.params m)).1 = c.K.choice (ops.W m) xi wi)
    (x : List α) (skip : List Int) :
    step_pred ops modules n chIdx wIdx gamma_values dictEmpty x skip
      = stepPredSkip chans (fun j => skip.contains (j : Int)) W x := by
  have hskip : (fun k => (natsOf skip).contains k) = (fun j : Nat => skip.contains (j : Int)) :=
    funext (natsOf_contains skip)
  obtain ⟨r, hr, hm⟩ := mapM_proj Prod.fst (l := W)
    (f := fun w => category_choice ops modules n chIdx wIdx gamma_values dictEmpty x w (natsOf skip))
    (t := W.map (choiceSkip chans (fun j => skip.contains (j : Int)) W x)) (by
      rw [List.map_map]
      refine List.map_congr_left fun w _ => ?_
      rw [← hskip]
      exact fusion_category_choice ops chans modules n chIdx wIdx gamma_values dictEmpty L W hW hK x w (natsOf skip))
  unfold step_pred
  dsimp only [Option.bind_eq_bind, Option.pure_def]
  rw [hWg, Option.bind_some, pyAssert, if_pos (decide_eq_true (Nat.zero_le _)), Option.bind_some, Option.bind_some, hr,
    Option.bind_some, hm, Option.bind_fun_some]
  rfl

/-- **`FusionART.predict(X, skip_channels)` = `Fusion.predictSkip`** (negative indices normalised once; one exception
aborts the whole call) -/
theorem predict_spec (ops : ModOps M α P C Op) (chans : List (Chan α)) (modules : List M) (n : Nat)
    (chIdx wIdx : List (Nat × Nat)) (gamma_values : List α) (dictEmpty : C)
    (L : Layout chans modules n chIdx wIdx gamma_values) (W : List (List α))
    (hWg : W_get ops modules n = some W)
    (hW : ∀ (k : Nat) m, modules[k]? = some m → ops.W m = W.map (slice (wlens chans) k))
    (hK : ∀ (k : Nat) m (c : Chan α), modules[k]? = some m → chans[k]? = some c → ∀ xi wi,
      (ops.category_choice m xi wi (ops.params m)).1 = c.K.choice (ops.W m) xi wi)
    (X : List (List α)) (ks : List Int) :
    Gen.FusionARTPredict.predict ops modules n chIdx wIdx gamma_values dictEmpty X ks = allSome (predictSkip chans ks W X) := by
  obtain rfl : n = chans.length := L.n_chans
  unfold Gen.FusionARTPredict.predict
  rw [norm_mapM]
  dsimp only [Option.bind_eq_bind, Option.bind_some, Option.pure_def]
  rw [foldlM_setItem0 (f := fun x => stepPredSkip chans (skipSet chans.length ks) W x)]
  · rfl
  · intro y x i
    rw [step_pred_spec ops chans modules chans.length chIdx wIdx gamma_values dictEmpty L W hWg hW hK]
    simp only [Option.bind_fun_some]
    rfl

end Predict

/-! ### the C11 prediction theorems, for the generated `predict` -/
section PredictProps
variable {M P C Op α : Type} [Field α] [LinearOrder α] [IsStrictOrderedRing α]

/-- **C11 `skip_independent`, for the generated code**: two queries that agree on every channel that is not skipped
are given the same category by the translated `predict` — whatever stands in the skipped columns. -/
theorem gen_skip_independent (ops : ModOps M α P C Op) (chans : List (Chan α)) (modules : List M) (n : Nat)
    (chIdx wIdx : List (Nat × Nat)) (gamma_values : List α) (dictEmpty : C)
    (L : Layout chans modules n chIdx wIdx gamma_values) (W : List (List α))
    (hWg : W_get ops modules n = some W)
    (hW : ∀ (k : Nat) m, modules[k]? = some m → ops.W m = W.map (slice (wlens chans) k))
    (hK : ∀ (k : Nat) m (c : Chan α), modules[k]? = some m → chans[k]? = some c → ∀ xi wi,
      (ops.category_choice m xi wi (ops.params m)).1 = c.K.choice (ops.W m) xi wi)
    (ks : List Int) (x x' : List α)
    (h : ∀ k, skipSet chans.length ks k = false → slice (widths chans) k x = slice (widths chans) k x') :
    Gen.FusionARTPredict.predict ops modules n chIdx wIdx gamma_values dictEmpty [x] ks
      = Gen.FusionARTPredict.predict ops modules n chIdx wIdx gamma_values dictEmpty [x'] ks := by
  rw [predict_spec ops chans modules n chIdx wIdx gamma_values dictEmpty L W hWg hW hK,
    predict_spec ops chans modules n chIdx wIdx gamma_values dictEmpty L W hWg hW hK,
    C11.skip_independent chans ks W x x' h]

/-- **C11 `skip_is_argmax_of_rest`, for the generated code**: the category the translated `predict` returns is the
first arg-max of the gamma-weighted activations of the remaining channels (`none` = the call raises: no category). -/
theorem gen_skip_is_argmax_of_rest (ops : ModOps M α P C Op) (chans : List (Chan α)) (modules : List M) (n : Nat)
    (chIdx wIdx : List (Nat × Nat)) (gamma_values : List α) (dictEmpty : C)
    (L : Layout chans modules n chIdx wIdx gamma_values) (W : List (List α))
    (hWg : W_get ops modules n = some W)
    (hW : ∀ (k : Nat) m, modules[k]? = some m → ops.W m = W.map (slice (wlens chans) k))
    (hK : ∀ (k : Nat) m (c : Chan α), modules[k]? = some m → chans[k]? = some c → ∀ xi wi,
      (ops.category_choice m xi wi (ops.params m)).1 = c.K.choice (ops.W m) xi wi)
    (ks : List Int) (x : List α) :
    Gen.FusionARTPredict.predict ops modules n chIdx wIdx gamma_values dictEmpty [x] ks
      = (argmaxNp (W.map (restChoice chans (skipSet chans.length ks) W x))).map (fun c => [c]) := by
  rw [predict_spec ops chans modules n chIdx wIdx gamma_values dictEmpty L W hWg hW hK,
    C11.skip_is_argmax_of_rest chans ks W x]
  cases argmaxNp (W.map (restChoice chans (skipSet chans.length ks) W x)) <;> rfl

/-- **C11 `skip_index_normalised`, for the generated code**: skipping channel `-(m+1)` or channel `n-(m+1)` is the
same call. -/
theorem gen_skip_index_normalised (ops : ModOps M α P C Op) (chans : List (Chan α)) (modules : List M) (n : Nat)
    (chIdx wIdx : List (Nat × Nat)) (gamma_values : List α) (dictEmpty : C)
    (L : Layout chans modules n chIdx wIdx gamma_values) (W : List (List α))
    (hWg : W_get ops modules n = some W)
    (hW : ∀ (k : Nat) m, modules[k]? = some m → ops.W m = W.map (slice (wlens chans) k))
    (hK : ∀ (k : Nat) m (c : Chan α), modules[k]? = some m → chans[k]? = some c → ∀ xi wi,
      (ops.category_choice m xi wi (ops.params m)).1 = c.K.choice (ops.W m) xi wi)
    (m : Nat) (hm : m < chans.length) (ks : List Int) (X : List (List α)) :
    Gen.FusionARTPredict.predict ops modules n chIdx wIdx gamma_values dictEmpty X (-((m : Int) + 1) :: ks)
      = Gen.FusionARTPredict.predict ops modules n chIdx wIdx gamma_values dictEmpty X
          (((chans.length - (m + 1) : Nat) : Int) :: ks) := by
  rw [predict_spec ops chans modules n chIdx wIdx gamma_values dictEmpty L W hWg hW hK,
    predict_spec ops chans modules n chIdx wIdx gamma_values dictEmpty L W hWg hW hK,
    (C11.skip_index_normalised chans m hm ks W X).2]

end PredictProps

/-! ### `join_channel_data` / `split_channel_data`

The model (`joinRow`, `splitRow`) works on one row; the code works on whole 2-d arrays.  `fmtFrom` / `splitMat` are
the array-level recursions the two `for` loops compute; row `r` of their results is the model's function of row `r`
of the arguments. -/
section JoinSplit
variable {β : Type}

/-- row `r` of a 2-d array (`[]` beyond the last row) -/
def row (r : Nat) (A : List (List β)) : List β := A.getD r []

/-- the list `formatted_channel_data` that the loop of `join_channel_data` builds from channel `k` on: the next
supplied array for a kept channel, a filler block for a skipped one; `none` = `channel_data[i]` out of range -/
def fmtFrom (fill : Nat → List (List β)) (skip : Nat → Bool) :
    Nat → List Nat → List (List (List β)) → Option (List (List (List β)))
  | _, [], _ => some []
  | k, w :: ws, data =>
    if skip k then (fmtFrom fill skip (k + 1) ws data).map (fill w :: ·)
    else match data with
      | [] => none
      | d :: ds => (fmtFrom fill skip (k + 1) ws ds).map (d :: ·)

/-- the list `channel_data` that the loop of `split_channel_data` builds from channel `k` / column `col` on -/
def splitMat (skip : Nat → Bool) (X : List (List β)) : Nat → List Nat → Nat → List (List (List β))
  | _, [], _ => []
  | k, w :: ws, col =>
    if skip k then splitMat skip X (k + 1) ws (col + w)
    else npCols X col (col + w) :: splitMat skip X (k + 1) ws (col + w)

/-- `join_channel_data` on whole arrays with `R` rows, row by row through the model's `joinRow` -/
def joinMat (ws : List Nat) (skip : Nat → Bool) (filler : β) (R : Nat) (cd : List (List (List β))) :
    Option (List (List β)) :=
  allSome ((List.range R).map (fun r => joinRow ws skip filler (cd.map (row r))))

theorem fmtFrom_skip {fill : Nat → List (List β)} {skip : Nat → Bool} {k : Nat} (hs : skip k = true) (w : Nat)
    (ws : List Nat) (data : List (List (List β))) :
    fmtFrom fill skip k (w :: ws) data = (fmtFrom fill skip (k + 1) ws data).map (fill w :: ·) := by
  cases data <;> rw [fmtFrom, if_pos hs]

theorem fmtFrom_keep {fill : Nat → List (List β)} {skip : Nat → Bool} {k : Nat} (hs : skip k = false) (w : Nat)
    (ws : List Nat) (d : List (List β)) (ds : List (List (List β))) :
    fmtFrom fill skip k (w :: ws) (d :: ds) = (fmtFrom fill skip (k + 1) ws ds).map (d :: ·) := by
  rw [fmtFrom, if_neg (by rw [hs]; exact Bool.false_ne_true)]

theorem fmtFrom_keep_nil {fill : Nat → List (List β)} {skip : Nat → Bool} {k : Nat} (hs : skip k = false) (w : Nat)
    (ws : List Nat) : fmtFrom fill skip k (w :: ws) [] = none := by
  rw [fmtFrom, if_neg (by rw [hs]; exact Bool.false_ne_true)]

theorem range_map_getD (ws : List Nat) : (List.range' 0 ws.length).map (fun k => ws.getD k 0) = ws := by
  rw [← List.range_eq_range']
  apply List.ext_getElem?
  intro k
  rw [List.getElem?_map]
  cases hk : ws[k]? with
  | none => rw [List.getElem?_eq_none (by rw [List.length_range]; exact List.getElem?_eq_none_iff.1 hk)]; rfl
  | some w => rw [List.getElem?_range (List.getElem?_eq_some_iff.1 hk).1, Option.map_some, getD_of_getElem? hk]

/-- the width of channel `k` as the two loops read it off the position table -/
theorem positions_width (ws : List Nat) {k : Nat} (hk : k < ws.length) :
    ∃ p, (positions ws)[k]? = some p ∧ natSub p.2 p.1 = some (ws.getD k 0) :=
  ⟨_, positions_getElem? ws k hk, by rw [natSub, if_pos (Nat.le_add_right _ _), Nat.add_sub_cancel_left]⟩

/-- the loop of `join_channel_data` computes `fmtFrom` (and counts the supplied arrays it used) -/
theorem foldlM_fmt (n : Nat) (body : List (List (List β)) × Nat → Nat → Option (List (List (List β)) × Nat))
    (fill : Nat → List (List β)) (skip : Nat → Bool) (cd : List (List (List β))) (wd : Nat → Nat)
    (hbody : ∀ acc i k, k < n → body (acc, i) k =
      if skip k then some (acc ++ [fill (wd k)], i) else (cd[i]?).map (fun d => (acc ++ [d], i + 1)))
    (m k : Nat) (hk : k + m ≤ n) (acc : List (List (List β))) (i : Nat) :
    (List.range' k m).foldlM body (acc, i)
      = (fmtFrom fill skip k ((List.range' k m).map wd) (cd.drop i)).map
          (fun l => (acc ++ l, i + ((List.range' k m).filter (fun j => !skip j)).length)) := by
  induction m generalizing k acc i with
  | zero =>
    show some (acc, i) = some (acc ++ [], i + 0)
    rw [List.append_nil]
    rfl
  | succ m ih =>
    rw [List.range'_succ, List.foldlM_cons, hbody acc i k (by omega), List.map_cons, List.filter_cons]
    cases hs : skip k
    · simp only [Bool.not_false, Bool.false_eq_true, ↓reduceIte]
      cases hc : cd[i]? with
      | none => rw [List.drop_eq_nil_of_le (List.getElem?_eq_none_iff.1 hc), fmtFrom_keep_nil hs]; rfl
      | some d =>
        obtain ⟨hi, rfl⟩ := List.getElem?_eq_some_iff.1 hc
        rw [Option.map_some, Option.bind_eq_bind, Option.bind_some, ih (k + 1) (by omega),
          List.drop_eq_getElem_cons hi, fmtFrom_keep hs, Option.map_map]
        refine congrArg (fun F => Option.map F _) (funext fun l => ?_)
        simp only [Function.comp_apply, List.append_assoc, List.singleton_append, List.length_cons, Nat.add_assoc,
          Nat.add_comm 1]
    · simp only [Bool.not_true, Bool.false_eq_true, ↓reduceIte]
      rw [Option.bind_eq_bind, Option.bind_some, ih (k + 1) (by omega), fmtFrom_skip hs, Option.map_map]
      refine congrArg (fun F => Option.map F _) (funext fun l => ?_)
      simp only [Function.comp_apply, List.append_assoc, List.singleton_append]

theorem fmtFrom_all (Pr : List (List β) → Prop) (fill : Nat → List (List β)) (hfill : ∀ w, Pr (fill w))
    (skip : Nat → Bool) (k : Nat) (ws : List Nat) (data F : List (List (List β))) (hdata : ∀ A ∈ data, Pr A)
    (h : fmtFrom fill skip k ws data = some F) : F.length = ws.length ∧ ∀ A ∈ F, Pr A := by
  induction ws generalizing k data F with
  | nil =>
    cases Option.some.inj h
    exact ⟨rfl, fun A hA => nomatch hA⟩
  | cons w ws ih =>
    cases hs : skip k
    · cases data with
      | nil => rw [fmtFrom_keep_nil hs] at h; cases h
      | cons d ds =>
        rw [fmtFrom_keep hs] at h
        obtain ⟨F', hF', rfl⟩ := Option.map_eq_some_iff.1 h
        obtain ⟨hl, hP⟩ := ih _ _ _ (fun B hB => hdata B (List.mem_cons_of_mem d hB)) hF'
        exact ⟨congrArg Nat.succ hl, List.forall_mem_cons.2 ⟨hdata d List.mem_cons_self, hP⟩⟩
    · rw [fmtFrom_skip hs] at h
      obtain ⟨F', hF', rfl⟩ := Option.map_eq_some_iff.1 h
      obtain ⟨hl, hP⟩ := ih _ _ _ hdata hF'
      exact ⟨congrArg Nat.succ hl, List.forall_mem_cons.2 ⟨hfill w, hP⟩⟩

/-- row `r` of the formatted arrays, concatenated, is the model's `joinFrom` of row `r` of the supplied arrays -/
theorem joinFrom_rows (filler : β) (fill : Nat → List (List β)) (skip : Nat → Bool) (r : Nat)
    (hfill : ∀ w, row r (fill w) = List.replicate w filler) (k : Nat) (ws : List Nat) (data : List (List (List β))) :
    joinFrom filler skip k ws (data.map (row r))
      = (fmtFrom fill skip k ws data).map (fun F => (F.map (row r)).flatten) := by
  induction ws generalizing k data with
  | nil => rfl
  | cons w ws ih =>
    cases hs : skip k
    · cases data with
      | nil => rw [fmtFrom_keep_nil hs]; exact joinFrom_keep_nil hs w ws
      | cons d ds =>
        rw [fmtFrom_keep hs, List.map_cons, joinFrom_keep hs, ih, Option.map_map, Option.map_map]
        rfl
    · rw [fmtFrom_skip hs, joinFrom_skip hs, ih, Option.map_map, Option.map_map]
      refine congrArg (fun F => Option.map F _) (funext fun F => ?_)
      simp only [Function.comp_apply, List.map_cons, List.flatten_cons, hfill]

theorem zipSame_eq {γ δ : Type} (f : β → γ → δ) (a : List β) (b : List γ) (h : a.length = b.length) :
    zipSame f a b = some (List.zipWith f a b) := by
  induction a generalizing b with
  | nil =>
    cases b with
    | nil => rfl
    | cons _ _ => cases h
  | cons x a ih =>
    cases b with
    | nil => cases h
    | cons y b => rw [zipSame, ih b (Nat.succ.inj h)]; rfl

theorem row_of_lt (A : List (List β)) {r : Nat} (hr : r < A.length) : row r A = A[r] :=
  getD_of_lt A [] hr

theorem eq_range_map_row (A : List (List β)) : A = (List.range A.length).map (fun r => row r A) := by
  apply List.ext_getElem (by rw [List.length_map, List.length_range])
  intro i hi _
  rw [List.getElem_map, List.getElem_range, row_of_lt A hi]

/-- `np.hstack` of arrays with `R` rows each: row `r` of the result is the concatenation of their rows `r` -/
theorem npHstack_rows (R : Nat) (F : List (List (List β))) (hne : F ≠ []) (hR : ∀ A ∈ F, A.length = R) :
    npHstack F = some ((List.range R).map (fun r => (F.map (row r)).flatten)) := by
  induction F with
  | nil => exact absurd rfl hne
  | cons A F ih =>
    have hA : A.length = R := hR A List.mem_cons_self
    cases F with
    | nil =>
      rw [npHstack, ← hA]
      refine congrArg some ((eq_range_map_row A).trans (List.map_congr_left fun r _ => ?_))
      rw [List.map_cons, List.map_nil, List.flatten_cons, List.flatten_nil, List.append_nil]
    | cons B F =>
      rw [npHstack.eq_3 A (B :: F) (fun h => List.cons_ne_nil B F h),
        ih (List.cons_ne_nil B F) (fun A' hA' => hR A' (List.mem_cons_of_mem A hA'))]
      dsimp only
      rw [zipSame_eq _ _ _ (by rw [hA, List.length_map, List.length_range])]
      conv_lhs => rw [eq_range_map_row A, hA, List.zipWith_map, List.zipWith_self]
      rfl

end JoinSplit

section JoinGen
variable {α : Type} [Add α] [Mul α] [Div α] [Zero α] [One α] [LT α] [DecidableRel (α := α) (· < ·)]

/-- the value `0.5 * np.ones(...)` fills a skipped channel with -/
def fillerVal (α : Type) [Add α] [Mul α] [Div α] [One α] : α := ((1 : α) / ((1 : α) + (1 : α))) * (1 : α)

theorem row_fill (R w r : Nat) (hr : r < R) :
    row r (npSMul ((1 : α) / ((1 : α) + (1 : α))) (npOnes R w)) = List.replicate w (fillerVal α) := by
  unfold npSMul npOnes
  rw [row_of_lt _ (by rw [List.length_map, List.length_replicate]; exact hr), List.getElem_map,
    List.getElem_replicate, List.map_replicate]
  rfl

/-- **`FusionART.join_channel_data(channel_data, skip_channels)` = `Fusion.joinRow`, row by row**, for supplied
arrays of `R > 0` rows each (`channel_data[0]` exists): every row of the result is the model's join of the
corresponding rows — the supplied rows in order, a block of `0.5 * 1` for each skipped channel; the call raises
exactly when fewer arrays are supplied than channels are kept. -/
theorem join_channel_data_spec (ws : List Nat) (n : Nat) (chIdx : List (Nat × Nat)) (hn : n = ws.length)
    (hpos : 0 < ws.length) (hch : chIdx = positions ws) (A0 : List (List α)) (cd' : List (List (List α))) (R : Nat)
    (hR : ∀ A ∈ A0 :: cd', A.length = R) (hR0 : 0 < R) (ks : List Int) :
    join_channel_data n chIdx (A0 :: cd') ks = joinMat ws (skipSet n ks) (fillerVal α) R (A0 :: cd') := by
  subst hn hch
  unfold join_channel_data
  rw [norm_mapM]
  dsimp only [Option.bind_eq_bind, Option.pure_def, Option.bind_some]
  -- the loop formats the arrays …
  rw [List.getElem?_cons_zero, Option.bind_some, hR A0 List.mem_cons_self, List.range_eq_range',
    foldlM_fmt ws.length _ (fun w => npSMul ((1 : α) / ((1 : α) + (1 : α))) (npOnes R w)) (skipSet ws.length ks)
      (A0 :: cd') (fun k => ws.getD k 0) ?hbody ws.length 0 (Nat.le_of_eq (Nat.zero_add _)) [] 0,
    range_map_getD, List.drop_zero]
  case hbody =>
    intro acc i k hk
    obtain ⟨p, hp, hw⟩ := positions_width ws hk
    show (if (!skipSet ws.length ks k) = true then _ else _) = _
    cases skipSet ws.length ks k
    · simp only [Bool.not_false, Bool.false_eq_true, ↓reduceIte]
      cases (A0 :: cd')[i]? <;> rfl
    · simp only [Bool.not_true, Bool.false_eq_true, ↓reduceIte, hp, hw, Option.bind_some]
  -- … whose rows, concatenated, are the model's joins of the rows
  have hrows : (List.range R).map (fun r => joinRow ws (skipSet ws.length ks) (fillerVal α) ((A0 :: cd').map (row r)))
      = (List.range R).map (fun r => (fmtFrom (fun w => npSMul ((1 : α) / ((1 : α) + (1 : α))) (npOnes R w))
          (skipSet ws.length ks) 0 ws (A0 :: cd')).map (fun F => (F.map (row r)).flatten)) :=
    List.map_congr_left fun r hr =>
      joinFrom_rows _ _ _ r (fun w => row_fill R w r (List.mem_range.1 hr)) 0 ws _
  rw [joinMat, hrows]
  cases hF : fmtFrom (fun w => npSMul ((1 : α) / ((1 : α) + (1 : α))) (npOnes R w)) (skipSet ws.length ks) 0 ws
      (A0 :: cd') with
  | none => exact (allSome_none_of_mem _ (List.mem_map.2 ⟨0, List.mem_range.2 hR0, rfl⟩)).symm
  | some F =>
    obtain ⟨hFl, hFR⟩ := fmtFrom_all (fun A => A.length = R) _
      (fun w => by rw [npSMul, List.length_map, npOnes, List.length_replicate]) _ _ _ _ _ hR hF
    rw [Option.map_some, Option.bind_some, List.nil_append,
      npHstack_rows R F (fun h => by rw [h] at hFl; exact absurd hFl.symm (Nat.ne_of_gt hpos)) hFR,
      Option.bind_some, ← allSome_map_some, List.map_map]
    rfl

/-- … read row by row: when the call returns `X`, `X` has `R` rows and row `r` is `joinRow` of the rows `r` -/
theorem join_channel_data_rows (ws : List Nat) (n : Nat) (chIdx : List (Nat × Nat)) (hn : n = ws.length)
    (hpos : 0 < ws.length) (hch : chIdx = positions ws) (A0 : List (List α)) (cd' : List (List (List α))) (R : Nat)
    (hR : ∀ A ∈ A0 :: cd', A.length = R) (hR0 : 0 < R) (ks : List Int) (X : List (List α))
    (hX : join_channel_data n chIdx (A0 :: cd') ks = some X) :
    X.length = R ∧ ∀ r, r < R →
      joinRow ws (skipSet n ks) (fillerVal α) ((A0 :: cd').map (row r)) = some (row r X) := by
  rw [join_channel_data_spec ws n chIdx hn hpos hch A0 cd' R hR hR0 ks, joinMat, allSome_eq_some_iff] at hX
  have hl : X.length = R := by
    have := congrArg List.length hX
    rwa [List.length_map, List.length_map, List.length_range, eq_comm] at this
  refine ⟨hl, fun r hr => ?_⟩
  have := congrArg (fun l => l[r]?) hX
  rw [List.getElem?_map, List.getElem?_range hr, List.getElem?_map, List.getElem?_eq_getElem (hl ▸ hr),
    Option.map_some, Option.map_some, ← row_of_lt X (hl ▸ hr)] at this
  exact Option.some.inj this

end JoinGen

section SplitGen
variable {β : Type}

/-- the loop of `split_channel_data` computes `splitMat` (and advances `current_col` by every channel's width) -/
theorem foldlM_split (n : Nat) (body : List (List (List β)) × Nat → Nat → Option (List (List (List β)) × Nat))
    (skip : Nat → Bool) (X : List (List β)) (wd : Nat → Nat)
    (hbody : ∀ acc col k, k < n → body (acc, col) k =
      some (if skip k then (acc, col + wd k) else (acc ++ [npCols X col (col + wd k)], col + wd k)))
    (m k : Nat) (hk : k + m ≤ n) (acc : List (List (List β))) (col : Nat) :
    (List.range' k m).foldlM body (acc, col)
      = some (acc ++ splitMat skip X k ((List.range' k m).map wd) col, col + ((List.range' k m).map wd).sum) := by
  induction m generalizing k acc col with
  | zero =>
    show some (acc, col) = some (acc ++ [], col + 0)
    rw [List.append_nil]
    rfl
  | succ m ih =>
    rw [List.range'_succ, List.foldlM_cons, hbody acc col k (by omega), Option.bind_eq_bind, Option.bind_some,
      List.map_cons, splitMat, List.sum_cons, ← Nat.add_assoc]
    cases skip k
    · rw [if_neg Bool.false_ne_true, if_neg Bool.false_ne_true, ih (k + 1) (by omega), List.append_assoc]
      rfl
    · rw [if_pos rfl, if_pos rfl, ih (k + 1) (by omega)]

theorem row_npCols (r : Nat) (X : List (List β)) (a b : Nat) : row r (npCols X a b) = pySlice (row r X) a b := by
  unfold row npCols
  rw [List.getD_eq_getElem?_getD, List.getD_eq_getElem?_getD, List.getElem?_map]
  cases X[r]? with
  | none => exact (by rw [pySlice, List.take_nil, List.drop_nil] : pySlice ([] : List β) a b = []).symm
  | some v => rfl

/-- row `r` of the arrays `split_channel_data` returns = the model's `splitFrom` of row `r` -/
theorem splitMat_rows (skip : Nat → Bool) (X : List (List β)) (r : Nat) (k : Nat) (ws : List Nat) (col : Nat) :
    (splitMat skip X k ws col).map (row r) = splitFrom skip k ws ((row r X).drop col) := by
  induction ws generalizing k col with
  | nil => rfl
  | cons w ws ih =>
    rw [splitMat, splitFrom, List.drop_drop]
    cases skip k
    · rw [if_neg Bool.false_ne_true, if_neg Bool.false_ne_true, List.map_cons, ih, row_npCols, pySlice,
        List.drop_take, Nat.add_sub_cancel_left]
    · rw [if_pos rfl, if_pos rfl, ih]

theorem splitMat_shape (skip : Nat → Bool) (X : List (List β)) (k : Nat) (ws : List Nat) (col : Nat) :
    (splitMat skip X k ws col).length = (keptWidths skip k ws).length ∧
      ∀ A ∈ splitMat skip X k ws col, A.length = X.length := by
  induction ws generalizing k col with
  | nil => exact ⟨rfl, fun A hA => nomatch hA⟩
  | cons w ws ih =>
    rw [splitMat, keptWidths]
    cases skip k
    · rw [if_neg Bool.false_ne_true, if_neg Bool.false_ne_true]
      exact ⟨congrArg Nat.succ (ih _ _).1,
        List.forall_mem_cons.2 ⟨by rw [npCols, List.length_map], (ih _ _).2⟩⟩
    · rw [if_pos rfl, if_pos rfl]
      exact ih _ _

/-- **`FusionART.split_channel_data(joined_data, skip_channels)`**: the column blocks of the channels that are not
skipped, in order (`splitMat`) … -/
theorem split_channel_data_spec (ws : List Nat) (n : Nat) (chIdx : List (Nat × Nat)) (hn : n = ws.length)
    (hch : chIdx = positions ws) (X : List (List β)) (ks : List Int) :
    split_channel_data n chIdx X ks = some (splitMat (skipSet n ks) X 0 ws 0) := by
  subst hn hch
  unfold split_channel_data
  rw [norm_mapM]
  dsimp only [Option.bind_eq_bind, Option.pure_def, Option.bind_some]
  rw [List.range_eq_range',
    foldlM_split ws.length _ (skipSet ws.length ks) X (fun k => ws.getD k 0) ?hbody ws.length 0
      (Nat.le_of_eq (Nat.zero_add _)) [] 0, range_map_getD]
  · rfl
  case hbody =>
    intro acc col k hk
    obtain ⟨p, hp, hw⟩ := positions_width ws hk
    show ((positions ws)[k]?.bind fun p => (natSub p.2 p.1).bind fun w =>
      if (!skipSet ws.length ks k) = true then _ else _) = _
    rw [hp, Option.bind_some, hw, Option.bind_some]
    cases skipSet ws.length ks k <;> rfl

/-- … **= `Fusion.splitRow`, row by row**: row `r` of the returned arrays is the model's split of row `r` of the
joined array, and every returned array has as many rows as the joined array. -/
theorem split_channel_data_rows (ws : List Nat) (n : Nat) (chIdx : List (Nat × Nat)) (hn : n = ws.length)
    (hch : chIdx = positions ws) (X : List (List β)) (ks : List Int) :
    ∃ S, split_channel_data n chIdx X ks = some S ∧ (∀ A ∈ S, A.length = X.length) ∧
      ∀ r, S.map (row r) = splitRow ws (skipSet n ks) (row r X) :=
  ⟨_, split_channel_data_spec ws n chIdx hn hch X ks, (splitMat_shape _ _ _ _ _).2,
    fun r => by rw [splitMat_rows, List.drop_zero]; rfl⟩

/-- two lists of 2-d arrays with `R > 0` rows each that agree row by row are equal -/
theorem cube_ext (R : Nat) (hR0 : 0 < R) (S S' : List (List (List β))) (hS : ∀ A ∈ S, A.length = R)
    (hS' : ∀ A ∈ S', A.length = R) (h : ∀ r, r < R → S.map (row r) = S'.map (row r)) : S = S' := by
  have hl : S.length = S'.length := by
    have := congrArg List.length (h 0 hR0)
    rwa [List.length_map, List.length_map] at this
  apply List.ext_getElem hl
  intro j hj hj'
  have h1 := hS _ (List.getElem_mem hj)
  have h2 := hS' _ (List.getElem_mem hj')
  apply List.ext_getElem (h1.trans h2.symm)
  intro r hr hr'
  have := congrArg (fun l => l[j]?) (h r (h1 ▸ hr))
  rw [List.getElem?_map, List.getElem?_map, List.getElem?_eq_getElem hj, List.getElem?_eq_getElem hj', Option.map_some,
    Option.map_some, row_of_lt _ hr, row_of_lt _ hr'] at this
  exact Option.some.inj this

theorem row_range_map (R : Nat) (g : Nat → List β) (r : Nat) (hr : r < R) : row r ((List.range R).map g) = g r := by
  rw [row_of_lt _ (by rw [List.length_map, List.length_range]; exact hr), List.getElem_map, List.getElem_range]

end SplitGen

section SplitJoin
variable {α : Type} [Add α] [Mul α] [Div α] [Zero α] [One α] [LT α] [DecidableRel (α := α) (· < ·)]

/-- **C11 `split_join`, for the generated code: `split_channel_data ∘ join_channel_data = id` on the supplied
channels.**  Arrays of `R > 0` rows whose rows have the widths of the kept channels are joined without an exception,
the joined array has `R` rows of the full width, and splitting it with the same `skip_channels` returns exactly the
supplied arrays — whatever set of channels is skipped, with positive or negative indices. -/
theorem gen_split_join (ws : List Nat) (n : Nat) (chIdx : List (Nat × Nat)) (hn : n = ws.length)
    (hpos : 0 < ws.length) (hch : chIdx = positions ws) (A0 : List (List α)) (cd' : List (List (List α))) (R : Nat)
    (hR : ∀ A ∈ A0 :: cd', A.length = R) (hR0 : 0 < R) (ks : List Int)
    (hfit : ∀ r, r < R → Fit (keptWidths (skipSet n ks) 0 ws) ((A0 :: cd').map (row r))) :
    ∃ X, join_channel_data n chIdx (A0 :: cd') ks = some X ∧ X.length = R ∧ (∀ v ∈ X, v.length = ws.sum) ∧
      split_channel_data n chIdx X ks = some (A0 :: cd') := by
  have hsj := fun r hr => C11.split_join (fillerVal α) (skipSet n ks) ws ((A0 :: cd').map (row r)) (hfit r hr)
  have hj : join_channel_data n chIdx (A0 :: cd') ks
      = some ((List.range R).map (fun r =>
          (joinRow ws (skipSet n ks) (fillerVal α) ((A0 :: cd').map (row r))).getD [])) := by
    rw [join_channel_data_spec ws n chIdx hn hpos hch A0 cd' R hR hR0 ks, joinMat, allSome_eq_some_iff, List.map_map]
    refine List.map_congr_left fun r hr => ?_
    obtain ⟨v, hv, -, -⟩ := hsj r (List.mem_range.1 hr)
    rw [Function.comp_apply, hv, Option.getD_some]
  refine ⟨_, hj, by rw [List.length_map, List.length_range], ?_, ?_⟩
  · intro v hv
    obtain ⟨r, hr, rfl⟩ := List.mem_map.1 hv
    obtain ⟨v, hv, -, hl⟩ := hsj r (List.mem_range.1 hr)
    rw [hv, Option.getD_some, hl]
  · obtain ⟨S, hS, hrc, hrows⟩ := split_channel_data_rows ws n chIdx hn hch
      ((List.range R).map (fun r => (joinRow ws (skipSet n ks) (fillerVal α) ((A0 :: cd').map (row r))).getD [])) ks
    rw [hS]
    refine congrArg some (cube_ext R hR0 S (A0 :: cd')
      (fun A hA => by rw [hrc A hA, List.length_map, List.length_range]) hR fun r hr => ?_)
    obtain ⟨v, hv, hsp, -⟩ := hsj r hr
    rw [hrows r, row_range_map _ _ _ hr, hv, Option.getD_some, hsp]

end SplitJoin

/-! ### `get_channel_centers` / `predict_regression` -/
section Regression
variable {β γ : Type}

theorem pyIndex_nonneg (xs : List β) (t : Int) (h : 0 ≤ t) : pyIndex xs t = xs[t.toNat]? := by
  rw [pyIndex, if_neg (Int.not_lt.2 h)]

/-- rows whose prediction exists and determines the row's value -/
theorem allSome_map_of_bind (f : γ → Option Nat) (PR : γ → Option β) (g : Nat → β)
    (h1 : ∀ x c, f x = some c → PR x = some (g c)) (h0 : ∀ x, f x = none → PR x = none) (X : List γ) :
    allSome (X.map PR) = (allSome (X.map f)).map (List.map g) := by
  induction X with
  | nil => rfl
  | cons x X ih =>
    rw [List.map_cons, List.map_cons]
    cases hf : f x with
    | none => rw [h0 x hf]; rfl
    | some c =>
      rw [h1 x c hf, allSome_cons_some, allSome_cons_some, ih, Option.map_map, Option.map_map]
      rfl

/-- the shape `predict_regression` returns: one target → the 2-d array of the rows' single centres; several → one 2-d
array per target (the model's per-row lists, transposed) -/
def regrShape (t : Nat) (rows : List (List (List β))) : (List (List β)) ⊕ (List (List (List β))) :=
  if t = 1 then Sum.inl (rows.map (fun r => r.headD []))
  else Sum.inr ((List.range t).map (fun j => rows.map (fun r => r.getD j [])))

end Regression

section RegressionGen
variable {M P C Op α : Type} [Add α] [Mul α] [Div α] [Zero α] [One α] [LinearOrder α]

/-- **`FusionART.get_channel_centers(k)` = `Fusion.channelCentres`** (for a channel number `0 ≤ k < n`; a negative `k`
would count from the end, Python's `modules[k]`) -/
theorem get_channel_centers_spec (ops : ModOps M α P C Op) (ops2 : ModOps2 M α) (chans : List (Chan α))
    (modules : List M) (centre : Nat → List α → List α) (W : List (List α))
    (hW : ∀ (k : Nat) m, modules[k]? = some m → ops.W m = W.map (slice (wlens chans) k))
    (hC : ∀ (k : Nat) m, modules[k]? = some m → ops2.get_cluster_centers m = (ops.W m).map (centre k))
    (t : Int) (h0 : 0 ≤ t) (h1 : t.toNat < modules.length) :
    get_channel_centers ops2 modules t = some (channelCentres chans centre W t.toNat) := by
  have hm : modules[t.toNat]? = some modules[t.toNat] := List.getElem?_eq_getElem h1
  unfold get_channel_centers
  rw [pyIndex_nonneg _ _ h0, hm]
  dsimp only [Option.bind_eq_bind, Option.bind_some, Option.pure_def]
  rw [hC _ _ hm, hW _ _ hm, List.map_map]
  rfl

/-- **`FusionART.predict_regression(X, target_channels)` = `Fusion.predictRegression`, row by row** — for target
channels that denote channels (`0 ≤ normalised index < n`): the rows' values are the model's, arranged in the shape
the code returns (`regrShape`); one exception (no category) aborts the call. -/
theorem predict_regression_spec (ops : ModOps M α P C Op) (ops2 : ModOps2 M α) (chans : List (Chan α))
    (modules : List M) (n : Nat) (chIdx wIdx : List (Nat × Nat)) (gamma_values : List α) (dictEmpty : C)
    (L : Layout chans modules n chIdx wIdx gamma_values) (W : List (List α))
    (hWg : W_get ops modules n = some W)
    (hW : ∀ (k : Nat) m, modules[k]? = some m → ops.W m = W.map (slice (wlens chans) k))
    (hK : ∀ (k : Nat) m (c : Chan α), modules[k]? = some m → chans[k]? = some c → ∀ xi wi,
      (ops.category_choice m xi wi (ops.params m)).1 = c.K.choice (ops.W m) xi wi)
    (centre : Nat → List α → List α)
    (hC : ∀ (k : Nat) m, modules[k]? = some m → ops2.get_cluster_centers m = (ops.W m).map (centre k))
    (X : List (List α)) (targets : List Int)
    (hnn : ∀ t ∈ targets, 0 ≤ normIdx chans.length t ∧ normIdx chans.length t < chans.length) :
    predict_regression ops ops2 modules n chIdx wIdx gamma_values dictEmpty X targets
      = (allSome (X.map (predictRegression chans centre targets W))).map (regrShape targets.length) := by
  obtain rfl : n = chans.length := L.n_chans
  have hsk := skipSet_normIdx chans.length targets (fun t ht => (hnn t ht).1)
  let cen : Int → Nat → List α := fun k c => centre k.toNat (slice (wlens chans) k.toNat (W.getD c []))
  -- the model: a row's value is a function of its category
  rw [allSome_map_of_bind (stepPredSkip chans (skipSet chans.length targets) W)
    (predictRegression chans centre targets W) (fun c => (targets.map (normIdx chans.length)).map (cen · c))
    (fun x c hc => by
      obtain ⟨w, hw, h⟩ := predictRegression_eq chans centre targets W x (fun t ht => (hnn t ht).1) c hc
      rw [h, ← getD_of_getElem? hw []])
    (fun x hx => by
      unfold predictRegression
      simp only [hsk, hx])
    X]
  -- the code: the categories, then the centres of the target channels
  unfold predict_regression
  rw [norm_mapM]
  dsimp only [Option.bind_eq_bind, Option.pure_def, Option.bind_some]
  rw [predict_spec ops chans modules chans.length chIdx wIdx gamma_values dictEmpty L W hWg hW hK, predictSkip, hsk,
    mapM_some_of_forall (g := fun k : Int => channelCentres chans centre W k.toNat) (fun k hk => by
      obtain ⟨t, ht, rfl⟩ := List.mem_map.1 hk
      exact get_channel_centers_spec ops ops2 chans modules centre W hW hC _ (hnn t ht).1
        (by rw [L.len]; exact (Int.toNat_lt (hnn t ht).1).2 (hnn t ht).2)),
    List.length_map]
  cases hcs : allSome (X.map (stepPredSkip chans (skipSet chans.length targets) W)) with
  | none => rfl
  | some Cs =>
    -- every category found is a category, so every centre looked up exists
    have hget : ∀ c ∈ Cs, ∀ k : Int, (channelCentres chans centre W k.toNat)[c]? = some (cen k c) := by
      intro c hc k
      have hmem : some c ∈ X.map (stepPredSkip chans (skipSet chans.length targets) W) :=
        (allSome_eq_some_iff _ _).1 hcs ▸ List.mem_map_of_mem hc
      obtain ⟨x, _, hx⟩ := List.mem_map.1 hmem
      have hlt : c < W.length := by
        have := argmaxNp_lt_length hx
        rwa [List.length_map] at this
      rw [channelCentres_getElem?, List.getElem?_eq_getElem hlt, ← getD_of_lt W [] hlt]
      rfl
    rw [Option.bind_some, Option.bind_some, Option.map_some, Option.map_some]
    by_cases h1 : targets.length = 1
    · obtain ⟨t0, rfl⟩ := List.length_eq_one_iff.1 h1
      rw [if_pos (decide_eq_true h1), mapM_some_of_forall (g := cen (normIdx chans.length t0)) (fun c hc => by
          simp only [List.map_cons, List.getElem?_cons_zero, Option.bind_some, hget c hc]),
        Option.bind_some, regrShape, if_pos h1, List.map_map]
      rfl
    · have hj' : ∀ j ∈ List.range targets.length, j < (targets.map (normIdx chans.length)).length := fun j hj => by
        rw [List.length_map]; exact List.mem_range.1 hj
      rw [if_neg (by rw [decide_eq_true_eq]; exact h1),
        mapM_some_of_forall (g := fun j => Cs.map (cen ((targets.map (normIdx chans.length)).getD j 0))) (fun j hj =>
          mapM_some_of_forall fun c hc => by
            rw [List.getElem?_map, List.getElem?_eq_getElem (hj' j hj), Option.map_some, Option.bind_some,
              hget c hc, getD_of_lt _ _ (hj' j hj)]),
        Option.bind_some, regrShape, if_neg h1]
      refine congrArg (fun l => some (Sum.inr l)) (List.map_congr_left fun j hj => ?_)
      rw [List.map_map]
      refine List.map_congr_left fun c _ => ?_
      rw [Function.comp_apply, getD_of_lt (List.map _ _) [] (by rw [List.length_map]; exact hj' j hj),
        List.getElem_map, getD_of_lt _ 0 (hj' j hj)]

end RegressionGen

section RegressionProps
variable {M P C Op α : Type} [Field α] [LinearOrder α] [IsStrictOrderedRing α]

/-- **C11 `regression_multi_is_target_centres`, for the generated code**: when the translated `predict` (targets
skipped) gives a row the category `c`, the translated `predict_regression` returns for that row exactly the centres of
category `c` in the target channels, in the order the targets were given. -/
theorem gen_regression_target_centres (ops : ModOps M α P C Op) (ops2 : ModOps2 M α) (chans : List (Chan α))
    (modules : List M) (n : Nat) (chIdx wIdx : List (Nat × Nat)) (gamma_values : List α) (dictEmpty : C)
    (L : Layout chans modules n chIdx wIdx gamma_values) (W : List (List α))
    (hWg : W_get ops modules n = some W)
    (hW : ∀ (k : Nat) m, modules[k]? = some m → ops.W m = W.map (slice (wlens chans) k))
    (hK : ∀ (k : Nat) m (c : Chan α), modules[k]? = some m → chans[k]? = some c → ∀ xi wi,
      (ops.category_choice m xi wi (ops.params m)).1 = c.K.choice (ops.W m) xi wi)
    (centre : Nat → List α → List α)
    (hC : ∀ (k : Nat) m, modules[k]? = some m → ops2.get_cluster_centers m = (ops.W m).map (centre k))
    (x : List α) (targets : List Int)
    (hnn : ∀ t ∈ targets, 0 ≤ normIdx chans.length t ∧ normIdx chans.length t < chans.length) (c : Nat)
    (hc : Gen.FusionARTPredict.predict ops modules n chIdx wIdx gamma_values dictEmpty [x] targets = some [c]) :
    ∃ w, W[c]? = some w ∧
      predict_regression ops ops2 modules n chIdx wIdx gamma_values dictEmpty [x] targets
        = some (regrShape targets.length [(targets.map (normIdx chans.length)).map
            (fun k => centre k.toNat (slice (wlens chans) k.toNat w))]) := by
  rw [predict_spec ops chans modules n chIdx wIdx gamma_values dictEmpty L W hWg hW hK, allSome_eq_some_iff] at hc
  obtain ⟨w, hw, h⟩ := C11.regression_multi_is_target_centres chans centre targets W x
    (fun t ht => (hnn t ht).1) c hc
  refine ⟨w, hw, ?_⟩
  rw [predict_regression_spec ops ops2 chans modules n chIdx wIdx gamma_values dictEmpty L W hWg hW hK centre hC
    [x] targets hnn, List.map_cons, List.map_nil, h]
  rfl

end RegressionProps

/-! ### `prepare_data` / `restore_data`, `get_cluster_centers`, `n_clusters` -/
section PrepBasics
variable {β γ : Type}

theorem row_map (r : Nat) (A : List (List β)) (f : List β → List β) (hr : r < A.length) :
    row r (A.map f) = f (row r A) := by
  rw [row_of_lt _ (by rwa [List.length_map]), row_of_lt _ hr, List.getElem_map]

theorem mem_kept {n : Nat} {skip : Nat → Bool} {i : Nat} (hi : i ∈ kept n skip) : i < n :=
  List.mem_range.1 (List.mem_filter.1 hi).1

end PrepBasics

section PrepGen
variable {M α : Type} [Add α] [Mul α] [Div α] [Zero α] [One α] [LT α] [DecidableRel (α := α) (· < ·)]

/-- **`FusionART.prepare_data(channel_data, skip_channels)` = `Fusion.prepareRow`, row by row** (`channel_data` holds
arrays of `R > 0` rows; module `i`'s `prepare_data` acts row by row as `prep i`; the indices in `skip_channels` denote
channels or are non-negative; at least one channel is kept — otherwise the code reads `channel_data[0]` of an empty
list and raises, which the row model cannot express). -/
theorem prepare_data_spec (ops2 : ModOps2 M α) (modules : List M) (ws : List Nat) (n : Nat) (chIdx : List (Nat × Nat))
    (hn : n = ws.length) (hm : modules.length = n) (hch : chIdx = positions ws) (prep : Nat → List α → List α)
    (hP : ∀ (i : Nat) m, modules[i]? = some m → ∀ A, ops2.prepare_data m A = A.map (prep i))
    (cd : List (List (List α))) (R : Nat) (hR : ∀ A ∈ cd, A.length = R) (hR0 : 0 < R) (ks : List Int)
    (hnn : ∀ k ∈ ks, 0 ≤ normIdx n k) (hkept : kept n (skipSet n ks) ≠ []) :
    prepare_data ops2 modules n chIdx cd ks
      = allSome ((List.range R).map (fun r =>
          prepareRow prep ws (skipSet n ks) (fillerVal α) (cd.map (row r)))) := by
  have hpos : 0 < ws.length := by
    obtain ⟨i, hi⟩ := List.exists_mem_of_ne_nil _ hkept
    exact hn ▸ Nat.lt_of_le_of_lt (Nat.zero_le i) (mem_kept hi)
  have hsk := skipSet_normIdx n ks hnn
  unfold prepare_data
  rw [norm_mapM]
  dsimp only [Option.bind_eq_bind, Option.bind_some, Option.pure_def]
  -- the comprehension over the kept channels: the prepared arrays, or `none` when one is missing
  have hprep : (kept n (skipSet n ks)).mapM (fun i => (modules[i]?).bind fun m => (cd[i]?).bind fun A =>
        some (ops2.prepare_data m A))
      = allSome ((kept n (skipSet n ks)).map (fun i => (cd[i]?).map (fun A => A.map (prep i)))) := by
    rw [mapM_eq_allSome]
    refine congrArg allSome (List.map_congr_left fun i hi => ?_)
    have hlt : i < modules.length := hm ▸ mem_kept hi
    have him : modules[i]? = some modules[i] := List.getElem?_eq_getElem hlt
    rw [him, Option.bind_some]
    cases cd[i]? with
    | none => rfl
    | some A => exact congrArg some (hP i _ him A)
  refine (congrArg (fun o => Option.bind o _) hprep).trans ?_
  have hrow : ∀ r ∈ List.range R, prepareRow prep ws (skipSet n ks) (fillerVal α) (cd.map (row r))
      = ((allSome ((kept n (skipSet n ks)).map (fun i => (cd[i]?).map (fun A => A.map (prep i))))).map
          (List.map (row r))).bind (joinRow ws (skipSet n ks) (fillerVal α)) := by
    intro r hr
    rw [prepareRow, ← hn, ← allSome_map_map, List.map_map]
    refine congrArg (fun o => Option.bind (allSome o) _) (List.map_congr_left fun i _ => ?_)
    rw [List.getElem?_map, Function.comp_apply]
    cases hA : cd[i]? with
    | none => rfl
    | some A =>
      exact congrArg some (row_map r A _ (hR A (List.mem_of_getElem? hA) ▸ List.mem_range.1 hr)).symm
  rw [List.map_congr_left hrow]
  cases hA : allSome ((kept n (skipSet n ks)).map (fun i => (cd[i]?).map (fun A => A.map (prep i)))) with
  | none => exact (allSome_none_of_mem _ (List.mem_map.2 ⟨0, List.mem_range.2 hR0, rfl⟩)).symm
  | some P =>
    have hP' := (allSome_eq_some_iff _ _).1 hA
    obtain ⟨A0, rest, rfl⟩ := List.exists_cons_of_ne_nil (l := P) (fun h => by
      rw [h] at hP'; exact hkept (List.map_eq_nil_iff.1 hP'))
    have hPR : ∀ A ∈ A0 :: rest, A.length = R := fun A hA' => by
      have : some A ∈ (kept n (skipSet n ks)).map (fun i => (cd[i]?).map (fun A => A.map (prep i))) :=
        hP' ▸ List.mem_map_of_mem hA'
      obtain ⟨i, -, hi⟩ := List.mem_map.1 this
      obtain ⟨B, hB, rfl⟩ := Option.map_eq_some_iff.1 hi
      rw [List.length_map]
      exact hR B (List.mem_of_getElem? hB)
    rw [Option.bind_some, join_channel_data_spec ws n chIdx hn hpos hch A0 rest R hPR hR0 (ks.map (normIdx n)), hsk]
    rfl

theorem keptWidths_length (skip : Nat → Bool) (ws : List Nat) :
    (keptWidths skip 0 ws).length = (kept ws.length skip).length := by
  rw [keptWidths_eq, List.length_map, kept]
  simp only [Nat.zero_add]

/-- **`FusionART.restore_data(X, skip_channels)` = `Fusion.restoreRow`, row by row**: the call never raises, and row
`r` of the returned arrays is the model's restore of row `r` of `X` (kept channel `i` is paired with its position in
the split list; module `i`'s `restore_data` acts row by row as `rest i`). -/
theorem restore_data_spec (ops2 : ModOps2 M α) (modules : List M) (ws : List Nat) (n : Nat) (chIdx : List (Nat × Nat))
    (hn : n = ws.length) (hm : modules.length = n) (hch : chIdx = positions ws) (rest : Nat → List α → List α)
    (hRs : ∀ (i : Nat) m, modules[i]? = some m → ∀ A, ops2.restore_data m A = A.map (rest i))
    (X : List (List α)) (ks : List Int) (hnn : ∀ k ∈ ks, 0 ≤ normIdx n k) :
    ∃ Rs, restore_data ops2 modules n chIdx X ks = some Rs ∧ (∀ A ∈ Rs, A.length = X.length) ∧
      ∀ r, r < X.length → restoreRow rest ws (skipSet n ks) (row r X) = some (Rs.map (row r)) := by
  have hsk := skipSet_normIdx n ks hnn
  have hS : ∀ ip ∈ (kept n (skipSet n ks)).zipIdx, ip.1 < n ∧
      ∃ A, (splitMat (skipSet n ks) X 0 ws 0)[ip.2]? = some A ∧ A.length = X.length := by
    intro ip hip
    have hpos : ip.2 < (splitMat (skipSet n ks) X 0 ws 0).length := by
      rw [(splitMat_shape _ _ _ _ _).1, keptWidths_length, ← hn]
      simpa using List.snd_lt_of_mem_zipIdx hip
    exact ⟨mem_kept (by simpa using List.fst_mem_of_mem_zipIdx hip), _, List.getElem?_eq_getElem hpos,
      (splitMat_shape _ _ _ _ _).2 _ (List.getElem_mem hpos)⟩
  refine ⟨(kept n (skipSet n ks)).zipIdx.map (fun ip =>
    ((splitMat (skipSet n ks) X 0 ws 0).getD ip.2 []).map (rest ip.1)), ?_, ?_, ?_⟩
  · unfold restore_data
    rw [norm_mapM]
    dsimp only [Option.bind_eq_bind, Option.bind_some, Option.pure_def]
    rw [split_channel_data_spec ws n chIdx hn hch X (ks.map (normIdx n)), hsk, Option.bind_some,
      mapM_some_of_forall (g := fun i => i) (fun _ _ => rfl), Option.bind_some, List.map_id', Option.bind_fun_some]
    refine mapM_some_of_forall fun ip hip => ?_
    obtain ⟨hi, A, hA, -⟩ := hS ip hip
    have hlt : ip.1 < modules.length := hm ▸ hi
    have him : modules[ip.1]? = some modules[ip.1] := List.getElem?_eq_getElem hlt
    rw [him, Option.bind_some, hA, Option.bind_some, hRs _ _ him, getD_of_getElem? hA]
  · intro B hB
    obtain ⟨ip, hip, rfl⟩ := List.mem_map.1 hB
    obtain ⟨-, A, hA, hl⟩ := hS ip hip
    rw [List.length_map, getD_of_getElem? hA, hl]
  · intro r hr
    rw [restoreRow, splitRow, ← hn, ← List.drop_zero (l := row r X), ← splitMat_rows, List.map_map, ← allSome_map_some,
      List.map_map]
    refine congrArg allSome (List.map_congr_left fun ip hip => ?_)
    obtain ⟨-, A, hA, hl⟩ := hS ip hip
    rw [Function.comp_apply, Function.comp_apply, List.getElem?_map, hA, getD_of_getElem? hA,
      row_map r _ _ (hl ▸ hr)]
    rfl

/-- **C11 `restore_prepare`, for the generated code: `restore_data ∘ prepare_data = id` on the supplied channels**, for
any set of skipped channels: when every kept module's row-wise `restore_data` inverts its `prepare_data` (`hinv`, C18)
and prepared rows have the channel width, `restore_data(prepare_data(data, skip), skip)` returns the supplied arrays of
the kept channels, in order. -/
theorem gen_restore_prepare (ops2 : ModOps2 M α) (modules : List M) (ws : List Nat) (n : Nat) (chIdx : List (Nat × Nat))
    (hn : n = ws.length) (hm : modules.length = n) (hch : chIdx = positions ws) (prep rest : Nat → List α → List α)
    (hP : ∀ (i : Nat) m, modules[i]? = some m → ∀ A, ops2.prepare_data m A = A.map (prep i))
    (hRs : ∀ (i : Nat) m, modules[i]? = some m → ∀ A, ops2.restore_data m A = A.map (rest i))
    (cd : List (List (List α))) (hd : cd.length = ws.length) (R : Nat) (hR : ∀ A ∈ cd, A.length = R) (hR0 : 0 < R)
    (ks : List Int) (hnn : ∀ k ∈ ks, 0 ≤ normIdx n k) (hkept : kept n (skipSet n ks) ≠ [])
    (hwid : ∀ i, i < ws.length → skipSet n ks i = false → ∀ r, r < R →
      (prep i (row r (cd.getD i []))).length = ws.getD i 0)
    (hinv : ∀ i, i < ws.length → skipSet n ks i = false → ∀ r, r < R →
      rest i (prep i (row r (cd.getD i []))) = row r (cd.getD i [])) :
    ∃ X, prepare_data ops2 modules n chIdx cd ks = some X ∧
      restore_data ops2 modules n chIdx X ks = some ((kept n (skipSet n ks)).map (fun i => cd.getD i [])) := by
  have hgd : ∀ r i, (cd.map (row r)).getD i [] = row r (cd.getD i []) := by
    intro r i
    rw [List.getD_eq_getElem?_getD, List.getD_eq_getElem?_getD, List.getElem?_map]
    cases cd[i]? <;> rfl
  have hrp := fun r (hr : r < R) => C11.restore_prepare prep rest ws (skipSet n ks) (fillerVal α) (cd.map (row r))
    (by rw [List.length_map, hd]) (fun i hi hs => by rw [hgd]; exact hwid i hi hs r hr)
    (fun i hi hs => by rw [hgd]; exact hinv i hi hs r hr)
  have hprep : prepare_data ops2 modules n chIdx cd ks = some ((List.range R).map (fun r =>
      (prepareRow prep ws (skipSet n ks) (fillerVal α) (cd.map (row r))).getD [])) := by
    rw [prepare_data_spec ops2 modules ws n chIdx hn hm hch prep hP cd R hR hR0 ks hnn hkept, allSome_eq_some_iff,
      List.map_map]
    refine List.map_congr_left fun r hr => ?_
    obtain ⟨v, hv, -⟩ := hrp r (List.mem_range.1 hr)
    rw [Function.comp_apply, hv, Option.getD_some]
  refine ⟨_, hprep, ?_⟩
  obtain ⟨Rs, hRs1, hRs2, hRs3⟩ := restore_data_spec ops2 modules ws n chIdx hn hm hch rest hRs
    ((List.range R).map (fun r => (prepareRow prep ws (skipSet n ks) (fillerVal α) (cd.map (row r))).getD [])) ks hnn
  rw [List.length_map, List.length_range] at hRs2 hRs3
  rw [hRs1]
  refine congrArg some (cube_ext R hR0 Rs _ hRs2 ?_ fun r hr => ?_)
  · intro A hA
    obtain ⟨i, hi, rfl⟩ := List.mem_map.1 hA
    have hlt : i < cd.length := hd ▸ hn ▸ mem_kept hi
    rw [getD_of_lt cd [] hlt]
    exact hR _ (List.getElem_mem hlt)
  · obtain ⟨v, hv, hres⟩ := hrp r hr
    have h3 := hRs3 r hr
    rw [row_range_map _ _ _ hr, hv, Option.getD_some, hres, ← hn] at h3
    rw [← Option.some.inj h3, List.map_map]
    exact List.map_congr_left fun i _ => hgd r i

end PrepGen

section Centres
variable {M P C Op α : Type} [Add α] [Mul α] [Div α] [Zero α] [One α] [LT α] [DecidableRel (α := α) (· < ·)]

theorem n_clusters_spec (ops : ModOps M α P C Op) (modules : List M) :
    n_clusters ops modules = (modules[0]?).map ops.n_clusters := by
  unfold n_clusters
  cases modules[0]? <;> rfl

/-- **`FusionART.get_cluster_centers`**: centre `i` of the fused estimator is the concatenation, over the channels, of
the modules' `i`-th centres (the same shape as the `W` property, `Art.GenSpec.fusion_W_get`) -/
theorem get_cluster_centers_spec (ops : ModOps M α P C Op) (ops2 : ModOps2 M α) (modules : List M) (n : Nat)
    (hn : n = modules.length) (m0 : M) (h0 : modules[0]? = some m0)
    (hlen : ∀ m ∈ modules, ops.n_clusters m0 ≤ (ops2.get_cluster_centers m).length) :
    get_cluster_centers ops ops2 modules n
      = some ((List.range (ops.n_clusters m0)).map (fun i =>
          (modules.map (fun m => (ops2.get_cluster_centers m).getD i [])).flatten)) := by
  subst hn
  unfold get_cluster_centers n_clusters
  dsimp only [Option.bind_eq_bind, Option.pure_def]
  rw [mapM_some_of_forall (g := ops2.get_cluster_centers) (fun _ _ => rfl), h0]
  dsimp only [Option.bind_some]
  -- `centers_[k]` is `modules[k]`'s list of centres
  have hcol : ∀ i k : Nat, ((modules.map ops2.get_cluster_centers)[k]?.bind fun cs => cs[i]?)
      = (modules[k]?).bind fun m => (ops2.get_cluster_centers m)[i]? := by
    intro i k
    rw [List.getElem?_map]
    cases modules[k]? <;> rfl
  simp only [hcol]
  rw [mapM_columns ops2.get_cluster_centers modules _ hlen]
  rfl

end Centres

/-! ### the hypotheses are satisfiable, and the generated code runs: two FuzzyART channels over ℚ, two categories -/
section Example

/-- module objects = weight lists (see `Art.GenSpec.exOps`): category 0 and category 1 of each channel -/
def exMods : List (List (List ℚ)) :=
  [[[1/2, 1/4, 1/2, 3/4], [1, 0, 0, 1]], [[1/4, 1/4, 3/4, 3/4], [0, 1, 1, 0]]]

def exOps2 : ModOps2 (List (List ℚ)) ℚ :=
  { get_cluster_centers := fun m => m.map fuzzyCentre
    prepare_data := fun _ A => A.map (fun v => v ++ vcompl v)
    restore_data := fun _ A => A.map fuzzyCentre }

def exIdx : List (Nat × Nat) := get_channel_position_tuples [4, 4]

/-- the fused weight list the `W` property assembles -/
def exW : List (List ℚ) := [[1/2, 1/4, 1/2, 3/4, 1/4, 1/4, 3/4, 3/4], [1, 0, 0, 1, 0, 1, 1, 0]]

example : W_get exOps exMods 2 = some exW := by decide +kernel

/-- the hypotheses of the `*_spec` theorems hold for this instance -/
example : Layout exChans exMods 2 exIdx exIdx [1/4, 3/4] :=
  ⟨rfl, rfl, fusion_positions _, fusion_positions _, rfl⟩
example : ∀ (k : Nat) m, exMods[k]? = some m → exOps.W m = exW.map (slice (wlens exChans) k) := by
  intro k m h
  match k, h with
  | 0, h => cases h; decide +kernel
  | 1, h => cases h; decide +kernel
  | k + 2, h => cases h

/-- the generated `predict`: all channels; the last channel withheld (index -1, any values in its columns);
channel 0 withheld -/
example : Gen.FusionARTPredict.predict exOps exMods 2 exIdx exIdx [1/4, 3/4] false
    [[1/2, 1/4, 1/2, 3/4, 0, 1, 1, 0], [1, 0, 0, 1, 1/4, 1/4, 3/4, 3/4]] [] = some [1, 0] := by decide +kernel
example : Gen.FusionARTPredict.predict exOps exMods 2 exIdx exIdx [1/4, 3/4] false
    [[1/2, 1/4, 1/2, 3/4, 0, 1, 1, 0], [1, 0, 0, 1, 7, 7, 7, 7]] [-1] = some [0, 1] := by decide +kernel
example : Gen.FusionARTPredict.predict exOps exMods 2 exIdx exIdx [1/4, 3/4] false
    [[1/2, 1/4, 1/2, 3/4, 0, 1, 1, 0]] [0] = some [1] := by decide +kernel
/-- the generated `predict_regression`: default target `[-1]` (one 2-d array), two targets (one array per target) -/
example : predict_regression exOps exOps2 exMods 2 exIdx exIdx [1/4, 3/4] false
    [[1/2, 1/4, 1/2, 3/4, 0, 0, 0, 0], [1, 0, 0, 1, 0, 0, 0, 0]] [-1] = some (Sum.inl [[1/4, 1/4], [0, 1]]) := by
  decide +kernel
example : predict_regression exOps exOps2 exMods 2 exIdx exIdx [1/4, 3/4] false
    [[1/2, 1/4, 1/2, 3/4, 0, 0, 0, 0]] [1, 0] = some (Sum.inr [[[1/4, 1/4]], [[1/2, 1/4]]]) := by
  decide +kernel
/-- the generated `join_channel_data` / `split_channel_data` with the middle channel of three withheld -/
example : join_channel_data 3 (get_channel_position_tuples [2, 2, 2]) [[[0, 1], [1, 0]], [[1/4, 3/4], [3/4, 1/4]]] [1]
    = some [[0, 1, (1/2 : ℚ), 1/2, 1/4, 3/4], [1, 0, 1/2, 1/2, 3/4, 1/4]] := by decide +kernel
example : split_channel_data 3 (get_channel_position_tuples [2, 2, 2])
    [[0, 1, (1/2 : ℚ), 1/2, 1/4, 3/4], [1, 0, 1/2, 1/2, 3/4, 1/4]] [-2]
    = some [[[0, 1], [1, 0]], [[1/4, 3/4], [3/4, 1/4]]] := by decide +kernel
/-- the generated `prepare_data` / `restore_data` (complement coding / its inverse per channel), channel 0 withheld -/
example : prepare_data exOps2 exMods 2 (get_channel_position_tuples [2, 2]) [[], [[1/4], [3/4]]] [0]
    = some [[1/2, 1/2, 1/4, 3/4], [1/2, 1/2, 3/4, 1/4]] := by decide +kernel
example : restore_data exOps2 exMods 2 (get_channel_position_tuples [2, 2])
    [[1/2, 1/2, 1/4, 3/4], [1/2, 1/2, 3/4, 1/4]] [-2] = some [[[1/4], [3/4]]] := by decide +kernel
/-- the generated `get_cluster_centers` / `get_channel_centers` / `n_clusters` -/
example : get_cluster_centers exOps exOps2 exMods 2 = some [[1/2, 1/4, 1/4, 1/4], [1, 0, 0, 1]] := by decide +kernel
example : get_channel_centers exOps2 exMods (-1) = some [[1/4, 1/4], [0, 1]] := by decide +kernel
example : n_clusters exOps exMods = some 2 := by decide +kernel
/-- too few arrays supplied: the call raises -/
example : join_channel_data 3 (get_channel_position_tuples [2, 2, 2]) [[[(0 : ℚ), 1]]] [1] = none := by decide +kernel

end Example

end Art.GenSpec.FusionPredict
