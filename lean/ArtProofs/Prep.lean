/-
ArtProofs.Prep — lemmas about normalisation, complement coding and the
validation predicates of `ArtModel.Prep`, over every linearly ordered field.
-/
import Mathlib.Algebra.Order.Field.Basic
import Mathlib.Tactic.Ring
import Mathlib.Data.List.Forall2
import ArtProofs.Order
import ArtModel.Prep

namespace Art.Prep

set_option linter.unusedSectionVars false

open List

/-! ### hypotheses -/

/-- every column of `X` is non-constant, said through the bounds the code
computes: `d_max[j] ≠ d_min[j]` for every column `j` (no divisor is zero) -/
def NonConst {α : Type} [Min α] [Max α] (X : Mat α) : Prop :=
  Forall₂ (· ≠ ·) (colMax X) (colMin X)

/-- the same, said through the data: every column holds two different values -/
def ColsVary {α : Type} (X : Mat α) (d : Nat) : Prop :=
  ∀ j, j < d → ∃ r ∈ X, ∃ r' ∈ X, r[j]? ≠ r'[j]?

/-- remembered bounds fit the data width and no divisor is zero -/
def GoodBounds {α : Type} (dmax dmin : List α) (d : Nat) : Prop :=
  dmax.length = d ∧ Forall₂ (· ≠ ·) dmax dmin

/-! ### reduction along axis 0

`np.min(axis=0)` / `np.max(axis=0)` fold the rows with `zipWith min` / `zipWith max`.  What is needed of them
holds of `zipWith f` for any `f` that lies below both its arguments in a preorder `R` (`min` and `≤`, `max` and `≥`). -/

section Reduce
variable {β : Type} {R : β → β → Prop} {f : β → β → β}

theorem foldl_zipWith_spec [Std.Refl R] [IsTrans β R] (hl : ∀ x y, R (f x y) x) (hr : ∀ x y, R (f x y) y)
    {d : Nat} : ∀ (rs : Mat β) (acc : List β), acc.length = d → Rect rs d →
      (rs.foldl (zipWith f) acc).length = d ∧ ∀ r ∈ acc :: rs, Forall₂ R (rs.foldl (zipWith f) acc) r
  | [], acc, h, _ => ⟨h, fun r hr => by rw [mem_singleton.mp hr]; exact forall₂_refl acc⟩
  | r :: rs, acc, h, hrs => by
    have hlen : acc.length = r.length := h.trans (hrs r mem_cons_self).symm
    obtain ⟨ihl, ih⟩ := foldl_zipWith_spec hl hr rs (zipWith f acc r)
      (by rw [length_zipWith, ← hlen, Nat.min_self, h]) (fun q hq => hrs q (mem_cons_of_mem _ hq))
    have below := ih _ mem_cons_self
    refine ⟨ihl, fun q hq => ?_⟩
    rcases mem_cons.mp hq with rfl | hq
    · exact forall₂_trans below (forall₂_zipWith_left hl _ _ hlen)
    rcases mem_cons.mp hq with rfl | hq
    · exact forall₂_trans below (forall₂_zipWith_right hr _ _ hlen)
    · exact ih q (mem_cons_of_mem _ hq)

end Reduce

section Order
variable {α : Type} [LinearOrder α]

theorem forall₂_le_refl : ∀ (a : List α), Forall₂ (· ≤ ·) a a :=
  forall₂_refl

theorem vmax_length {a b : List α} (h : a.length = b.length) : (vmax a b).length = a.length := by
  rw [vmax, length_zipWith, ← h, Nat.min_self]

theorem le_vmax_left {a b : List α} (h : a.length = b.length) : Forall₂ (· ≤ ·) a (vmax a b) :=
  (forall₂_zipWith_left (R := (· ≥ ·)) (fun _ _ => le_max_left _ _) a b h).flip

theorem le_vmax_right {a b : List α} (h : a.length = b.length) : Forall₂ (· ≤ ·) b (vmax a b) :=
  (forall₂_zipWith_right (R := (· ≥ ·)) (fun _ _ => le_max_right _ _) a b h).flip

/-- `d_min` has the data width and is a lower bound of every row, entry by entry -/
theorem colMin_spec {X : Mat α} {d : Nat} (hX : Rect X d) (hne : X ≠ []) :
    (colMin X).length = d ∧ ∀ r ∈ X, Forall₂ (· ≤ ·) (colMin X) r := by
  obtain ⟨r, rs, rfl⟩ := exists_cons_of_ne_nil hne
  exact foldl_zipWith_spec min_le_left min_le_right rs r (hX r mem_cons_self)
    (fun q hq => hX q (mem_cons_of_mem _ hq))

theorem colMax_spec {X : Mat α} {d : Nat} (hX : Rect X d) (hne : X ≠ []) :
    (colMax X).length = d ∧ ∀ r ∈ X, Forall₂ (· ≤ ·) r (colMax X) := by
  obtain ⟨r, rs, rfl⟩ := exists_cons_of_ne_nil hne
  have h := foldl_zipWith_spec (R := (· ≥ ·)) le_max_left le_max_right rs r (hX r mem_cons_self)
    (fun q hq => hX q (mem_cons_of_mem _ hq))
  exact ⟨h.1, fun q hq => (h.2 q hq).flip⟩

/-- a column holding two different values has `d_max ≠ d_min` -/
theorem nonConst_of_colsVary {X : Mat α} {d : Nat} (hX : Rect X d) (hv : ColsVary X d)
    (hne : X ≠ []) : NonConst X := by
  have hmin := colMin_spec hX hne
  have hmax := colMax_spec hX hne
  refine forall₂_iff_get.mpr ⟨by rw [hmin.1, hmax.1], ?_⟩
  intro j h₁ h₂ heq
  have hj : j < d := by rw [← hmax.1]; exact h₁
  obtain ⟨r, hr, r', hr', hne'⟩ := hv j hj
  -- were the two bounds equal at column `j`, every row would hold that one value there
  have key : ∀ q ∈ X, q[j]? = some ((colMin X).get ⟨j, h₂⟩) := by
    intro q hq
    have hql : j < q.length := by rw [hX q hq]; exact hj
    have lo := (forall₂_iff_get.mp (hmin.2 q hq)).2 j h₂ hql
    have hi := (forall₂_iff_get.mp (hmax.2 q hq)).2 j hql h₁
    rw [getElem?_eq_getElem hql]
    exact congrArg some (le_antisymm (heq ▸ hi) lo)
  exact hne' ((key r hr).trans (key r' hr').symm)

end Order

section Field
variable {α : Type} [Field α] [LinearOrder α] [IsStrictOrderedRing α]

/-! ### normalisation -/

/-- the model's three-list recursion is the broadcast expression `(x - mn) / (mx - mn)` -/
theorem normRow_eq_zipWith : ∀ (x mx mn : List α),
    normRow x mx mn = zipWith (· / ·) (zipWith (· - ·) x mn) (zipWith (· - ·) mx mn)
  | [], _, _ => rfl
  | _ :: _, [], _ => by rw [zipWith_nil_left, zipWith_nil_right]; rfl
  | _ :: _, _ :: _, [] => by rw [zipWith_nil_right, zipWith_nil_left]; rfl
  | _ :: xs, _ :: ms, _ :: ns => congrArg _ (normRow_eq_zipWith xs ms ns)

theorem denormRow_eq_zipWith : ∀ (y mx mn : List α),
    denormRow y mx mn = zipWith (· + ·) (zipWith (· * ·) y (zipWith (· - ·) mx mn)) mn
  | [], _, _ => rfl
  | _ :: _, [], _ => by rw [zipWith_nil_left, zipWith_nil_right, zipWith_nil_left]; rfl
  | _ :: _, _ :: _, [] => by rw [zipWith_nil_right]; rfl
  | _ :: ys, _ :: ms, _ :: ns => congrArg _ (denormRow_eq_zipWith ys ms ns)

theorem normRow_length {x mx mn : List α} (h : x.length = mx.length) (h' : mx.length = mn.length) :
    (normRow x mx mn).length = x.length := by
  rw [normRow_eq_zipWith, length_zipWith, length_zipWith, length_zipWith, ← h', ← h, Nat.min_self, Nat.min_self]

theorem div_sub_mem_unit {n x m : α} (hlo : n ≤ x) (hhi : x ≤ m) (hne : m ≠ n) :
    0 ≤ (x - n) / (m - n) ∧ (x - n) / (m - n) ≤ 1 :=
  have hpos : 0 < m - n := sub_pos.mpr (lt_of_le_of_ne (hlo.trans hhi) hne.symm)
  ⟨div_nonneg (sub_nonneg.mpr hlo) hpos.le, (div_le_one hpos).mpr (sub_le_sub_right hhi n)⟩

theorem normRow_in_unit {x mx mn : List α} (hlo : Forall₂ (· ≤ ·) mn x) (hhi : Forall₂ (· ≤ ·) x mx)
    (hne : Forall₂ (· ≠ ·) mx mn) : ∀ v ∈ normRow x mx mn, 0 ≤ v ∧ v ≤ 1 := by
  induction hlo generalizing mx with
  | nil => cases hhi; exact fun v hv => absurd hv not_mem_nil
  | cons hlo _ ih =>
    cases hhi with
    | cons hhi thi =>
      cases hne with
      | cons hne tne =>
        intro v hv
        rcases mem_cons.mp hv with rfl | hv
        · exact div_sub_mem_unit hlo hhi hne
        · exact ih thi tne v hv

theorem denormRow_normRow : ∀ {x mx mn : List α}, x.length = mx.length → Forall₂ (· ≠ ·) mx mn →
    denormRow (normRow x mx mn) mx mn = x
  | [], _, _, _, _ => rfl
  | x :: xs, _ :: _, _ :: _, h, .cons hne tne => by
    simp only [normRow, denormRow, denormRow_normRow (x := xs) (Nat.succ.inj h) tne,
      div_mul_cancel₀ _ (sub_ne_zero.mpr hne), sub_add_cancel]

theorem deNormalize_normWith {X : Mat α} {d : Nat} {dmax dmin : List α} (hX : Rect X d)
    (hb : GoodBounds dmax dmin d) : deNormalize (normWith dmax dmin X) dmax dmin = X := by
  rw [deNormalize, normWith, map_map]
  exact (map_congr_left fun r hr => denormRow_normRow (by rw [hX r hr, hb.1]) hb.2).trans (map_id X)

/-- the IEEE-aware and the plain normalisation agree wherever no divisor is zero -/
theorem normRowChk_eq : ∀ {x mx mn : List α}, Forall₂ (· ≠ ·) mx mn →
    normRowChk x mx mn = (normRow x mx mn).map some
  | [], _, _, _ => rfl
  | _ :: _, _, _, .nil => rfl
  | _ :: _, _, _, .cons hne tne => by
    simp only [normRowChk, normRow, map_cons, if_neg (sub_ne_zero.mpr hne), normRowChk_eq tne]

theorem normWithChk_eq {X : Mat α} {dmax dmin : List α} (hb : Forall₂ (· ≠ ·) dmax dmin) :
    normWithChk dmax dmin X = (normWith dmax dmin X).map (fun r => r.map some) := by
  rw [normWithChk, normWith, map_map]
  exact map_congr_left fun r _ => normRowChk_eq hb

theorem nonConst_goodBounds {X : Mat α} {d : Nat} (hX : Rect X d) (hne : X ≠ []) (hc : NonConst X) :
    GoodBounds (colMax X) (colMin X) d :=
  ⟨(colMax_spec hX hne).1, hc⟩

theorem normWith_in_unit {X : Mat α} {d : Nat} (hX : Rect X d) (hc : NonConst X) :
    ∀ r ∈ normWith (colMax X) (colMin X) X, ∀ v ∈ r, 0 ≤ v ∧ v ≤ 1 := by
  intro r hr
  obtain ⟨q, hq, rfl⟩ := mem_map.mp hr
  have hne : X ≠ [] := ne_nil_of_mem hq
  exact normRow_in_unit ((colMin_spec hX hne).2 q hq) ((colMax_spec hX hne).2 q hq) hc

theorem normWith_rect {X : Mat α} {d : Nat} {dmax dmin : List α} (hX : Rect X d)
    (h1 : dmax.length = d) (h2 : dmin.length = d) : Rect (normWith dmax dmin X) d := by
  intro r hr
  obtain ⟨q, hq, rfl⟩ := mem_map.mp hr
  rw [normRow_length (by rw [hX q hq, h1]) (by rw [h1, h2]), hX q hq]

/-! ### complement coding -/

theorem vsum_append (a b : List α) : vsum (a ++ b) = vsum a + vsum b := by
  induction a with
  | nil => exact (zero_add _).symm
  | cons x xs ih => rw [cons_append, vsum, vsum, ih, add_assoc]

theorem vsum_vcompl (r : List α) : vsum (vcompl r) = (r.length : α) - vsum r := by
  induction r with
  | nil => rw [vcompl, map_nil, vsum, length_nil, Nat.cast_zero, sub_zero]
  | cons x xs ih =>
    rw [vcompl] at ih
    rw [vcompl, map_cons, vsum, vsum, ih, length_cons, Nat.cast_succ, sub_add_sub_comm, add_comm (1 : α)]

theorem vcompl_length (r : List α) : (vcompl r).length = r.length :=
  length_map _

theorem ccRow_length (r : List α) : (ccRow r).length = 2 * r.length := by
  rw [ccRow, length_append, vcompl_length, Nat.two_mul]

theorem vsum_ccRow (r : List α) : vsum (ccRow r) = (r.length : α) := by
  rw [ccRow, vsum_append, vsum_vcompl, add_sub_cancel]

/-- a value and its complement average to the value -/
theorem decc_entry (a : α) : (a + (1 - (1 - a))) / (1 + 1) = a := by
  rw [sub_sub_cancel, ← two_mul, one_add_one_eq_two, mul_div_cancel_left₀ a two_ne_zero]

theorem deccRow_ccRow (r : List α) : deccRow (ccRow r) = r := by
  have hl : (ccRow r).length / 2 = r.length := by
    rw [ccRow_length, Nat.mul_div_cancel_left _ Nat.two_pos]
  rw [deccRow, hl, ccRow, take_left' rfl, drop_left' rfl, vcompl, zipWith_map_right, zipWith_self]
  exact (map_congr_left fun a _ => decc_entry a).trans (map_id r)

theorem deccRow_length (r : List α) : (deccRow r).length = r.length / 2 := by
  rw [deccRow, length_zipWith, length_take, length_drop, Nat.min_eq_left (Nat.div_le_self _ _)]
  -- the second half is at least as long as the first
  exact Nat.min_eq_left (Nat.le_sub_of_add_le (by rw [← Nat.two_mul]; exact Nat.mul_div_le _ 2))

theorem all_even_of_rect {X : Mat α} (hX : Rect X (width X)) :
    X.all (fun r => r.length % 2 == 0) = (width X % 2 == 0) := by
  cases X with
  | nil => rfl
  | cons r rs =>
    rw [all_cons, width]
    cases hev : r.length % 2 == 0
    · rfl
    · exact all_eq_true.mpr fun q hq => by rw [hX q (mem_cons_of_mem _ hq)]; exact hev

theorem deComplementCode_rect {Y Z : Mat α} {w : Nat} (hY : Rect Y w) (h : deComplementCode Y = some Z) :
    Rect Z (w / 2) := by
  rw [deComplementCode] at h
  split at h
  · cases h
    intro r hr
    obtain ⟨q, hq, rfl⟩ := mem_map.mp hr
    rw [deccRow_length, hY q hq]
  · cases h

theorem deComplementCode_complementCode (X : Mat α) :
    deComplementCode (complementCode X) = some X := by
  have hall : (complementCode X).all (fun r => r.length % 2 == 0) = true := by
    rw [complementCode, all_map, all_eq_true]
    intro r _
    rw [Function.comp_apply, ccRow_length, Nat.mul_mod_right]
    rfl
  rw [deComplementCode, if_pos hall, complementCode, map_map]
  exact congrArg some ((map_congr_left fun r _ => deccRow_ccRow r).trans (map_id X))

/-! ### validation predicates on prepared data -/

theorem inUnit_iff {X : Mat α} : inUnit X = true ↔ ∀ r ∈ X, ∀ v ∈ r, 0 ≤ v ∧ v ≤ 1 := by
  simp only [inUnit, all_eq_true, Bool.and_eq_true, decide_eq_true_eq]

theorem inUnit_eq_false {X : Mat α} (h : ∃ r ∈ X, ∃ v ∈ r, v < 0 ∨ 1 < v) : inUnit X = false :=
  have ⟨r, hr, v, hv, h⟩ := h
  Bool.eq_false_iff.mpr fun hu =>
    h.elim (not_lt.mpr (inUnit_iff.mp hu r hr v hv).1) (not_lt.mpr (inUnit_iff.mp hu r hr v hv).2)

theorem isBinary_iff {X : Mat α} : isBinary X = true ↔ ∀ r ∈ X, ∀ v ∈ r, v = 0 ∨ v = 1 := by
  simp only [isBinary, all_eq_true, Bool.or_eq_true, decide_eq_true_eq]

theorem rowSumsOk_iff {X : Mat α} : rowSumsOk X = true ↔
    ∀ r ∈ X, vsum r - ((width X / 2 : Nat) : α) ≤ ccTol ∧ ((width X / 2 : Nat) : α) - vsum r ≤ ccTol := by
  simp only [rowSumsOk, all_eq_true, Bool.and_eq_true, decide_eq_true_eq]

theorem ccRow_in_unit {r : List α} (h : ∀ v ∈ r, 0 ≤ v ∧ v ≤ 1) : ∀ v ∈ ccRow r, 0 ≤ v ∧ v ≤ 1 := by
  intro v hv
  rcases mem_append.mp hv with hv | hv
  · exact h v hv
  · obtain ⟨u, hu, rfl⟩ := mem_map.mp hv
    exact ⟨sub_nonneg.mpr (h u hu).2, sub_le_self 1 (h u hu).1⟩

theorem inUnit_complementCode {X : Mat α} (h : inUnit X = true) : inUnit (complementCode X) = true := by
  rw [inUnit_iff] at h ⊢
  intro r hr
  obtain ⟨q, hq, rfl⟩ := mem_map.mp hr
  exact ccRow_in_unit (h q hq)

theorem width_of_rect {X : Mat α} {d : Nat} (hX : Rect X d) (hne : X ≠ []) : width X = d := by
  obtain ⟨r, rs, rfl⟩ := exists_cons_of_ne_nil hne
  exact hX r mem_cons_self

/-- a rectangular matrix has the width of its first row, whatever width a matrix without rows is said to have -/
theorem rect_width {X : Mat α} {d : Nat} (hX : Rect X d) : Rect X (width X) := by
  cases X with
  | nil => exact fun _ h => absurd h not_mem_nil
  | cons r rs => exact fun q hq => (hX q hq).trans (hX r mem_cons_self).symm

theorem ccTol_nonneg : (0 : α) ≤ ccTol :=
  one_div_nonneg.mpr (Nat.cast_nonneg _)

theorem complementCode_rect {X : Mat α} {d : Nat} (hX : Rect X d) : Rect (complementCode X) (2 * d) := by
  intro r hr
  obtain ⟨q, hq, rfl⟩ := mem_map.mp hr
  rw [ccRow_length, hX q hq]

theorem rowSumsOk_complementCode {X : Mat α} {d : Nat} (hX : Rect X d) (hne : X ≠ []) :
    rowSumsOk (complementCode X) = true := by
  have hw : width (complementCode X) = 2 * d :=
    width_of_rect (complementCode_rect hX) (mt map_eq_nil_iff.mp hne)
  rw [rowSumsOk_iff, hw, Nat.mul_div_cancel_left _ Nat.two_pos]
  intro r hr
  obtain ⟨q, hq, rfl⟩ := mem_map.mp hr
  rw [vsum_ccRow, hX q hq, sub_self]
  exact ⟨ccTol_nonneg, ccTol_nonneg⟩

theorem prepareBase_fresh_rect {X : Mat α} {d : Nat} (hX : Rect X d) (hne : X ≠ []) :
    Rect (prepareBase {} X).1 d ∧ (prepareBase {} X).1 ≠ [] :=
  ⟨normWith_rect hX (colMax_spec hX hne).1 (colMin_spec hX hne).1, mt map_eq_nil_iff.mp hne⟩

theorem prepareBase_fresh {X : Mat α} {d : Nat} (hX : Rect X d) (hne : X ≠ []) (hc : NonConst X) :
    inUnit (prepareBase {} X).1 = true ∧ width (prepareBase {} X).1 = d :=
  have ⟨hr, hn⟩ := prepareBase_fresh_rect hX hne
  ⟨inUnit_iff.mpr (normWith_in_unit hX hc), width_of_rect hr hn⟩

theorem prepareFuzzy_fresh {X : Mat α} {d : Nat} (hX : Rect X d) (hne : X ≠ []) (hc : NonConst X) :
    inUnit (prepareFuzzy {} X).1 = true ∧ width (prepareFuzzy {} X).1 = 2 * d ∧
      rowSumsOk (prepareFuzzy {} X).1 = true :=
  have ⟨hr, hn⟩ := prepareBase_fresh_rect hX hne
  ⟨inUnit_complementCode (prepareBase_fresh hX hne hc).1,
    width_of_rect (complementCode_rect hr) (mt map_eq_nil_iff.mp hn), rowSumsOk_complementCode hr hn⟩

theorem runValidate_fresh {valid : Option Nat → Mat α → Bool} {X : Mat α} (h : valid none X = true) :
    runValidate valid {} X = ({ dim := some (width X) }, true) :=
  if_pos h

end Field

end Art.Prep
