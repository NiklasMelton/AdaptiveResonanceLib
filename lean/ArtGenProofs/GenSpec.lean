/-
ArtGenProofs.GenSpec — the definitions *generated from the Python source on every
run* (`ArtGen/Kernels.lean`, written by `harness/artv/ktrans.py`) are equal, for
all arguments (non-negative ones where stated, see below), to the published rules of `ArtModel/Kernels.lean` that every
theorem of this project is about.  If a formula in the source changes, the
regenerated definition changes and one of these theorems stops checking.

Binder names are part of the statement: a hyper-parameter `params["k"]` is the
binder `p_k` of the generated definition, a cache entry `cache["k"]` the binder
`c_k`, an attribute `self.dim_` the binder `s_dim_`, and every application below
passes them BY NAME.  A kernel that reads another key of the same type has a
differently named binder, and the application no longer elaborates.  Only the
Python positional parameters (`i`, `w`, …) are positional here.

Hypotheses: the Python kernels apply `abs` inside `l1norm`; the published rules
are stated for non-negative vectors (data in [0,1], weights ≥ 0), so the
equalities carry `NonNeg` hypotheses where `l1norm` is applied to an argument
(`fuzzy_choice`, `fuzzy_match`, `art1_match`, `art1_new`; in `art1_update` it is
applied to a `band`, which is non-negative whatever the arguments).
-/
import Mathlib.Algebra.Order.Field.Basic
import Mathlib.Algebra.Order.Ring.Abs
import Mathlib.Tactic.Ring
import Mathlib.Tactic.NormNum
import ArtGen.Kernels
import ArtModel.ARTMAP

namespace Art.GenSpec

set_option linter.unusedSectionVars false

variable {α : Type} [Field α] [LinearOrder α] [IsStrictOrderedRing α]

/-- all entries are non-negative -/
def NonNeg (v : List α) : Prop := ∀ t ∈ v, 0 ≤ t

theorem map_abs_of_nonneg {v : List α} (h : NonNeg v) : List.map (fun t => |t|) v = v :=
  (List.map_congr_left fun t ht => abs_of_nonneg (h t ht)).trans (List.map_id' v)

theorem forall_mem_zipWith {β γ δ : Type} {f : β → γ → δ} {Q : δ → Prop} {x : List β} {w : List γ}
    (h : ∀ a ∈ x, ∀ b ∈ w, Q (f a b)) : ∀ t ∈ List.zipWith f x w, Q t := by
  induction x generalizing w with
  | nil => intro t ht; cases ht
  | cons a x ih =>
    cases w with
    | nil => intro t ht; cases ht
    | cons b w =>
      intro t ht
      rcases List.mem_cons.mp ht with rfl | ht
      · exact h a List.mem_cons_self b List.mem_cons_self
      · exact ih (fun a' ha' b' hb' => h a' (List.mem_cons_of_mem _ ha') b' (List.mem_cons_of_mem _ hb')) t ht

theorem nonneg_vmin {x w : List α} (hx : NonNeg x) (hw : NonNeg w) : NonNeg (vmin x w) :=
  forall_mem_zipWith fun a ha b hb => le_min (hx a ha) (hw b hb)

theorem nonneg_band (x w : List α) : NonNeg (band' x w) :=
  forall_mem_zipWith fun a _ b _ => by
    split <;> [exact le_rfl; (split <;> [exact le_rfl; exact zero_le_one])]

/-- the generated centre update (`t * shrink` after `c * t`) is the model's (`smul shrink (smul c _)`) -/
theorem zipWith_add_map_mul (f b : α) (c v : List α) :
    List.zipWith (fun s t => s + t) c (List.map (fun t => t * f) (List.map (fun t => b * t) v)) =
      vadd c (smul f (smul b v)) := by
  unfold vadd smul
  rw [List.map_map, List.map_map]
  exact congrArg _ (List.map_congr_left fun t _ => mul_comm _ _)

/-! ### Fuzzy ART -/

theorem fuzzy_choice (alpha : α) (x w : List α) (hx : NonNeg x) (hw : NonNeg w) :
    Gen.FuzzyART.category_choice (p_alpha := alpha) x w = fuzzyChoice alpha x w := by
  unfold Gen.FuzzyART.category_choice fuzzyChoice
  rw [map_abs_of_nonneg (nonneg_vmin hx hw), map_abs_of_nonneg hw]

theorem fuzzy_match (d : Nat) (x w : List α) (hx : NonNeg x) (hw : NonNeg w) :
    Gen.FuzzyART.match_criterion (s_dim_original := d) x w = fuzzyMatch (d : α) x w := by
  unfold Gen.FuzzyART.match_criterion fuzzyMatch
  rw [map_abs_of_nonneg (nonneg_vmin hx hw)]

theorem fuzzy_update (beta : α) (x w : List α) :
    Gen.FuzzyART.update (p_beta := beta) x w = fuzzyUpdate beta x w := rfl

theorem fuzzy_new (x : List α) : Gen.FuzzyART.new_weight x = fuzzyNew x := rfl

/-! ### ART1 -/

theorem art1_choice (dim : Nat) (x w : List α) :
    Gen.ART1.category_choice (s_dim_ := dim) x w = art1Choice dim x w := rfl

theorem art1_match (dim : Nat) (x w : List α) (hx : NonNeg x) :
    Gen.ART1.match_criterion (s_dim_ := dim) x w = art1Match dim x w := by
  unfold Gen.ART1.match_criterion art1Match
  simp only
  rw [map_abs_of_nonneg (nonneg_band _ _), map_abs_of_nonneg hx]

theorem art1_update (L : α) (dim : Nat) (x w : List α) :
    Gen.ART1.update (s_dim_ := dim) (p_L := L) x w = art1Update L dim x w := by
  unfold Gen.ART1.update art1Update
  simp only
  rw [map_abs_of_nonneg (nonneg_band _ _)]
  rfl

theorem art1_new (L : α) (x : List α) (hx : NonNeg x) :
    Gen.ART1.new_weight (p_L := L) x = art1New L x := by
  unfold Gen.ART1.new_weight art1New
  simp only
  rw [map_abs_of_nonneg hx]
  rfl

/-! ### ART2-A -/

theorem art2_choice (x w : List α) : Gen.ART2A.category_choice x w = art2Choice x w := rfl

/-- the match rule, fed with the cache entry `activation` that `category_choice` writes -/
theorem art2_match (alpha : α) (x w : List α) :
    Gen.ART2A.match_criterion (p_alpha := alpha) (c_activation := Gen.ART2A.category_choice_cache_activation x w) x w =
      art2Match alpha x w := by
  unfold Gen.ART2A.match_criterion Gen.ART2A.category_choice_cache_activation art2Match
  dsimp only
  rw [zero_sub]

theorem art2_update (beta : α) (x w : List α) : Gen.ART2A.update (p_beta := beta) x w = art2Update beta x w := rfl

theorem art2_new (x : List α) : Gen.ART2A.new_weight x = x := rfl

/-! ### Hypersphere ART (with the model's `Transc.sqrt` as the square root) -/

variable [Transc α]

theorem sph_distance (x w : List α) :
    Gen.HypersphereART.category_distance (sqrt := Transc.sqrt) x (sphCentre w) = sphDist x w := rfl

theorem sph_choice (alpha rhat : α) (x w : List α) :
    Gen.HypersphereART.category_choice (sqrt := Transc.sqrt) (p_r_hat := rhat) (p_alpha := alpha) x w = sphChoice alpha rhat x w := rfl

/-- the match rule, fed with the cache entry `max_radius` that `category_choice` writes -/
theorem sph_match (alpha rhat : α) (x w : List α) :
    Gen.HypersphereART.match_criterion (p_r_hat := rhat)
        (c_max_radius := Gen.HypersphereART.category_choice_cache_max_radius (sqrt := Transc.sqrt) (p_r_hat := rhat) (p_alpha := alpha) x w) x w =
      sphMatch rhat x w := rfl

/-- the update rule, fed with the cache entries that `category_choice` writes -/
theorem sph_update (alpha beta rhat : α) (x w : List α) :
    Gen.HypersphereART.update (p_beta := beta)
        (c_max_radius := Gen.HypersphereART.category_choice_cache_max_radius (sqrt := Transc.sqrt) (p_r_hat := rhat) (p_alpha := alpha) x w)
        (c_i_radius := Gen.HypersphereART.category_choice_cache_i_radius (sqrt := Transc.sqrt) (p_r_hat := rhat) (p_alpha := alpha) x w) x w =
      sphUpdate beta x w := by
  unfold Gen.HypersphereART.update Gen.HypersphereART.category_choice_cache_max_radius
    Gen.HypersphereART.category_choice_cache_i_radius sphUpdate
  dsimp only
  rw [zipWith_add_map_mul, ← one_add_one_eq_two]
  rfl

theorem sph_new (x : List α) : Gen.HypersphereART.new_weight x = sphNew x := rfl

/-! ### Ellipsoid ART -/

theorem ell_distance (mu : α) (x c axis : List α) :
    Gen.EllipsoidART.category_distance (sqrt := Transc.sqrt) (p_mu := mu) x c axis = ellDist mu x c axis := by
  unfold Gen.EllipsoidART.category_distance ellDist
  simp only
  split <;> rfl

theorem ell_choice (alpha mu rhat : α) (dim : Nat) (x w : List α) :
    Gen.EllipsoidART.category_choice (sqrt := Transc.sqrt) (s_dim_ := dim) (p_mu := mu) (p_r_hat := rhat) (p_alpha := alpha) x w = ellChoice alpha mu rhat dim x w := by
  unfold Gen.EllipsoidART.category_choice ellChoice
  dsimp only
  rw [ell_distance, ← one_add_one_eq_two]
  rfl

/-- the match rule, fed with the cache entry `dist` that `category_choice` writes -/
theorem ell_match (alpha mu rhat : α) (dim : Nat) (x w : List α) :
    Gen.EllipsoidART.match_criterion (p_r_hat := rhat)
        (c_dist := Gen.EllipsoidART.category_choice_cache_dist (sqrt := Transc.sqrt) (s_dim_ := dim) (p_mu := mu) (p_r_hat := rhat) (p_alpha := alpha) x w) x w =
      ellMatch mu rhat dim x w := by
  unfold Gen.EllipsoidART.match_criterion Gen.EllipsoidART.category_choice_cache_dist ellMatch
  simp only
  rw [ell_distance]
  rfl

/-- the update rule, fed with the cache entry `dist` that `category_choice` writes -/
theorem ell_update (alpha beta mu rhat : α) (dim : Nat) (x w : List α) :
    Gen.EllipsoidART.update (sqrt := Transc.sqrt) (s_dim_ := dim) (p_beta := beta)
        (c_dist := Gen.EllipsoidART.category_choice_cache_dist (sqrt := Transc.sqrt) (s_dim_ := dim) (p_mu := mu) (p_r_hat := rhat) (p_alpha := alpha) x w) x w =
      ellUpdate beta mu dim x w := by
  unfold Gen.EllipsoidART.update Gen.EllipsoidART.category_choice_cache_dist ellUpdate
  dsimp only
  rw [ell_distance, zipWith_add_map_mul, ← one_add_one_eq_two]
  rfl

theorem ell_new (x : List α) : Gen.EllipsoidART.new_weight x = ellNew x := rfl

/-! ### Gaussian ART (with the model's `Transc.exp` / `Transc.sqrt`) -/

/-- the slice `w[2 dim : 3 dim]` has `dim` entries -/
theorem three_mul_sub_two_mul (dim : Nat) : 3 * dim - 2 * dim = dim :=
  (Nat.sub_mul 3 2 dim).symm.trans (Nat.one_mul dim)

/-- the slice `w[dim : 2 dim]` has `dim` entries -/
theorem two_mul_sub_self (dim : Nat) : 2 * dim - dim = dim := by
  rw [Nat.two_mul]
  exact Nat.add_sub_cancel ..

theorem gauss_lik (alpha : α) (dim : Nat) (allW : List (List α)) (x w : List α) :
    Gen.GaussianART.category_choice_cache_exp_dist_sig_dist (exp := Transc.exp) (allW := allW) (s_dim_ := dim) (p_alpha := alpha) x w =
      gaussLik dim x w := by
  unfold Gen.GaussianART.category_choice_cache_exp_dist_sig_dist gaussLik gaussMean gaussInv
  dsimp only
  rw [three_mul_sub_two_mul, ← one_add_one_eq_two]

/-- activation: likelihood over `(alpha + sqrt det)` times the prior `n / sum of all counts` -/
theorem gauss_choice (alpha : α) (dim : Nat) (allW : List (List α)) (x w : List α) :
    Gen.GaussianART.category_choice (exp := Transc.exp) (allW := allW) (s_dim_ := dim) (p_alpha := alpha) x w =
      gaussChoice alpha dim allW x w := by
  unfold Gen.GaussianART.category_choice gaussChoice gaussLik gaussMean gaussInv gaussSqrtDet gaussCount
  dsimp only
  rw [three_mul_sub_two_mul, ← one_add_one_eq_two]

/-- the match value is the cached likelihood term -/
theorem gauss_match (alpha : α) (dim : Nat) (allW : List (List α)) (x w : List α) :
    Gen.GaussianART.match_criterion
        (c_exp_dist_sig_dist := Gen.GaussianART.category_choice_cache_exp_dist_sig_dist (exp := Transc.exp) (allW := allW) (s_dim_ := dim) (p_alpha := alpha) x w) x w =
      gaussLik dim x w := by
  unfold Gen.GaussianART.match_criterion
  exact gauss_lik alpha dim allW x w

theorem gauss_update (dim : Nat) (x w : List α) :
    Gen.GaussianART.update (sqrt := Transc.sqrt) (s_dim_ := dim) x w = gaussUpdate dim x w := by
  unfold Gen.GaussianART.update gaussUpdate gaussMean gaussSigma gaussCount
  dsimp only
  rw [two_mul_sub_self]

theorem gauss_new (sigmaInit x : List α) :
    Gen.GaussianART.new_weight (sqrt := Transc.sqrt) (p_sigma_init := sigmaInit) x = gaussNew sigmaInit x := rfl

/-! ### Decision logic: match tracking, comparison operator, supervised veto -/

section Logic
variable {β : Type} [Field β] [LinearOrder β] [IsStrictOrderedRing β]

/-- `BaseART._match_tracking` is the model's `trackScalar` / `keep` for every mode
(also the verbatim copies in DualVigilanceART, TopoART and CVIART). -/
theorem base_match_tracking (inf : β) (mode : MT) (M eps rho : β) :
    Gen.BaseART.match_tracking inf mode M eps rho =
      ((scalarCfg mode false (· + eps) (· - eps) inf).track rho M,
       (scalarCfg (α := β) mode false (· + eps) (· - eps) inf).keep) := by
  cases mode <;> rfl

theorem dual_match_tracking (inf : β) (mode : MT) (M eps rho : β) :
    Gen.DualVigilanceART.match_tracking inf mode M eps rho = Gen.BaseART.match_tracking inf mode M eps rho := by
  cases mode <;> rfl

theorem topo_match_tracking (inf : β) (mode : MT) (M eps rho : β) :
    Gen.TopoART.match_tracking inf mode M eps rho = Gen.BaseART.match_tracking inf mode M eps rho := by
  cases mode <;> rfl

theorem cviart_match_tracking (inf : β) (mode : MT) (M eps rho : β) :
    Gen.CVIART.match_tracking inf mode M eps rho = Gen.BaseART.match_tracking inf mode M eps rho := by
  cases mode <;> rfl

/-- BayesianART tracks the other way round (its vigilance is an upper bound on det cov):
`M - eps` for MT+, `M + eps` for MT-, `-inf` for MT1. -/
theorem bayes_match_tracking (inf : β) (mode : MT) (M eps rho : β) :
    Gen.BayesianART.match_tracking inf mode M eps rho =
      ((scalarCfg mode true (· - eps) (· + eps) (-inf)).track rho M,
       (scalarCfg (α := β) mode true (· - eps) (· + eps) (-inf)).keep) := by
  cases mode <;> rfl

/-- `_match_tracking_operator`: `>` exactly for MT0 and MT~ -/
theorem operator_strict (mode : MT) : Gen.BaseART.strict mode = mtStrict mode := by
  cases mode <;> rfl

/-- `match_criterion_bin` applied to the operator of the mode is the model's `passesScalar` -/
theorem base_match_bin (mode : MT) (M rho : β) :
    Gen.BaseART.match_bin (fun a b => if Gen.BaseART.strict mode then decide (b < a) else decide (b ≤ a)) M rho =
      passesScalar mode false rho M := by
  cases mode <;> rfl

theorem bayes_match_bin (mode : MT) (M rho : β) :
    Gen.BayesianART.match_bin (fun a b => if Gen.BaseART.strict mode then decide (b < a) else decide (b ≤ a)) M rho =
      passesScalar mode true rho M := by
  cases mode <;> rfl

/-- `SimpleARTMAP.match_reset_func` allows a category unless it is mapped to another class:
the negation of the model's `mapVeto`. -/
theorem smap_match_reset (m : List (Option Nat)) (a b : Nat) :
    Gen.SimpleARTMAP.match_reset (mapGet m) a b = !mapVeto m b a := by
  unfold Gen.SimpleARTMAP.match_reset mapVeto
  cases h : mapGet m a with
  | none => simp
  | some y =>
    by_cases e : y = b
    · subst e; simp
    · simp [e]

end Logic

end Art.GenSpec
