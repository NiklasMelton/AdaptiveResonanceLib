/-
ArtProofs.ICVI — algebra of the incremental Calinski-Harabasz index.
A vector of dimension `d` is written `vec d f` for its coordinate function `f`, so that the
vector operations of the model become operations on coordinate functions without side
conditions on lengths; a cluster record is expressed through its member count, the
coordinates of its mean and the per-coordinate sums of squares (`cluStat`), and the
recurrences of `add_sample` / `remove_sample` are polynomial identities that follow from
the one relation `(n + 1) * v = a + n * m` between the means before and after.
-/
import Mathlib.Algebra.BigOperators.Group.Finset.Basic
import Mathlib.Algebra.BigOperators.Ring.Finset
import Mathlib.Algebra.BigOperators.Group.List.Basic
import Mathlib.Algebra.Order.Field.Basic
import Mathlib.Data.List.Perm.Basic
import Mathlib.Data.List.Nodup
import Mathlib.Tactic.Ring
import Mathlib.Tactic.LinearCombination
import ArtModel.ICVI
import ArtProofs.Fit

namespace Art.ICVI

open Finset

set_option linter.unusedSectionVars false

variable {α : Type} [Field α]

/-- `j`-th coordinate (0 outside the range) -/
def co (v : List α) (j : Nat) : α := v.getD j 0

def vec (d : Nat) (f : Nat → α) : List α := (List.range d).map f

theorem vsum_eq_list_sum (v : List α) : vsum v = v.sum := by
  induction v with
  | nil => rfl
  | cons a v ih => rw [vsum, ih, List.sum_cons]

section vec
variable {d : Nat} (f g : Nat → α)

@[simp] theorem length_vec : (vec d f).length = d := by simp [vec]

theorem eq_vec {v : List α} (h : v.length = d) : v = vec d (co v) := by
  subst h
  apply List.ext_getElem (by simp)
  intro j h1 h2
  simp [vec, co, h1]

theorem vec_congr (h : ∀ j, j < d → f j = g j) : vec d f = vec d g :=
  List.map_congr_left fun j hj => h j (List.mem_range.mp hj)

theorem zipWith_vec (op : α → α → α) :
    List.zipWith op (vec d f) (vec d g) = vec d fun j => op (f j) (g j) := by
  simp only [vec, List.zipWith_map, List.zipWith_self]

theorem vadd_vec : vadd (vec d f) (vec d g) = vec d fun j => f j + g j := zipWith_vec ..
theorem vsub_vec : vsub (vec d f) (vec d g) = vec d fun j => f j - g j := zipWith_vec ..
theorem vmul_vec : vmul (vec d f) (vec d g) = vec d fun j => f j * g j := zipWith_vec ..
theorem smul_vec (c : α) : smul c (vec d f) = vec d fun j => c * f j := List.map_map ..
theorem vdivs_vec (c : α) : vdivs (vec d f) c = vec d fun j => f j / c := List.map_map ..
theorem vzero_eq_vec : (vzero d : List α) = vec d fun _ => 0 := by simp [vzero, vec]

theorem vsum_vec : vsum (vec d f) = ∑ j ∈ range d, f j := by rw [vsum_eq_list_sum]; rfl

theorem dot_vec : dot (vec d f) (vec d g) = ∑ j ∈ range d, f j * g j := by
  rw [dot, vmul_vec, vsum_vec]

variable {x : List α} (hx : x.length = d)
include hx

theorem vadd_vec_right : vadd x (vec d g) = vec d fun j => co x j + g j := by
  conv_lhs => rw [eq_vec hx, vadd_vec]

theorem vsub_vec_right : vsub x (vec d g) = vec d fun j => co x j - g j := by
  conv_lhs => rw [eq_vec hx, vsub_vec]

end vec

/-! ### sums over lists of points -/

def Rows (d : Nat) (X : List (List α)) : Prop := ∀ x ∈ X, x.length = d

theorem Rows.cons {d : Nat} {x : List α} {xs : List (List α)} (hx : x.length = d)
    (h : Rows d xs) : Rows d (x :: xs) := by
  intro y hy
  rcases List.mem_cons.mp hy with rfl | hy
  · exact hx
  · exact h y hy

theorem Rows.tail {d : Nat} {x : List α} {xs : List (List α)} (h : Rows d (x :: xs)) :
    Rows d xs := fun y hy => h y (List.mem_cons_of_mem _ hy)

theorem Rows.head {d : Nat} {x : List α} {xs : List (List α)} (h : Rows d (x :: xs)) :
    x.length = d := h x List.mem_cons_self

theorem Rows.perm {d : Nat} {xs ys : List (List α)} (p : xs.Perm ys) (h : Rows d xs) :
    Rows d ys := fun y hy => h y (p.mem_iff.mpr hy)

def P1 (xs : List (List α)) (j : Nat) : α := (xs.map (fun y => co y j)).sum
def P2 (xs : List (List α)) (j : Nat) : α := (xs.map (fun y => co y j ^ 2)).sum

@[simp] theorem P1_nil (j : Nat) : P1 ([] : List (List α)) j = 0 := rfl
@[simp] theorem P2_nil (j : Nat) : P2 ([] : List (List α)) j = 0 := rfl
@[simp] theorem P1_cons (x : List α) (xs : List (List α)) (j : Nat) :
    P1 (x :: xs) j = co x j + P1 xs j := List.sum_cons
@[simp] theorem P2_cons (x : List α) (xs : List (List α)) (j : Nat) :
    P2 (x :: xs) j = co x j ^ 2 + P2 xs j := List.sum_cons
theorem P1_perm {xs ys : List (List α)} (p : xs.Perm ys) (j : Nat) : P1 xs j = P1 ys j :=
  (p.map _).sum_eq
theorem P2_perm {xs ys : List (List α)} (p : xs.Perm ys) (j : Nat) : P2 xs j = P2 ys j :=
  (p.map _).sum_eq

section
variable {d : Nat} {xs : List (List α)}

theorem vsumAll_eq (h : Rows d xs) : vsumAll d xs = vec d (P1 xs) := by
  induction xs with
  | nil => exact vzero_eq_vec
  | cons x xs ih =>
    rw [vsumAll, List.foldr_cons, ← vsumAll, ih h.tail, vadd_vec_right _ h.head]
    exact vec_congr _ _ fun j _ => (P1_cons ..).symm

theorem vmean_eq (h : Rows d xs) : vmean d xs = vec d fun j => P1 xs j / (xs.length : α) := by
  rw [vmean, vsumAll_eq h, vdivs_vec]

theorem length_vmean (h : Rows d xs) : (vmean d xs).length = d := by
  rw [vmean_eq h, length_vec]

/-- `Σ_y ‖y − c‖²` through the per-coordinate sufficient statistics -/
theorem ssq_vec (h : Rows d xs) (c : Nat → α) :
    ssq xs (vec d c)
      = ∑ j ∈ range d, (P2 xs j - 2 * c j * P1 xs j + (xs.length : α) * c j ^ 2) := by
  induction xs with
  | nil => simp [ssq, vsum]
  | cons x xs ih =>
    have : ssq (x :: xs) (vec d c) = l2sq (vsub x (vec d c)) + ssq xs (vec d c) := rfl
    rw [this, ih h.tail, vsub_vec_right _ h.head, l2sq, dot_vec, ← Finset.sum_add_distrib]
    refine Finset.sum_congr rfl fun j _ => ?_
    rw [P1_cons, P2_cons, List.length_cons, Nat.cast_succ]
    ring

end

/-! ### one coordinate: a value `a` joins `n` values of mean `m`, the mean becomes `v` -/

section scalar
variable {n a m v : α} (h : (n + 1) * v = a + n * m)
include h

/-- the `G` vector stays zero -/
theorem step_G : a - v + n * (m - v) = 0 := by
  linear_combination -h

/-- `CP_diff`, up to sign, for `add_sample` and `remove_sample` alike (with `G = 0`); `q` is
the sum of the squares of the `n` values -/
theorem step_CP (q : α) :
    (a - v) * (a - v) + n * ((m - v) * (m - v)) + (1 + 1) * ((m - v) * 0)
      = a ^ 2 + q - (n + 1) * v ^ 2 - (q - n * m ^ 2) := by
  linear_combination (2 * v) * h

/-- `delta_add_sample_to_average` -/
theorem delta_add (hn : n + 1 ≠ 0) : (a - m) / (n + 1) = v - m :=
  (div_eq_iff hn).mpr (by linear_combination -h)

/-- `delta_remove_sample_from_average` -/
theorem delta_remove (hn : n ≠ 0) : (v - a) / n = m - v :=
  (div_eq_iff hn).mpr (by linear_combination h)

end scalar

/-! ### one cluster: the Δ-mean / compactness / `G` recurrences -/

section cluster
variable [LinearOrder α] [IsStrictOrderedRing α] {d : Nat}

theorem P1_eq_mul_mean (S : List (List α)) (j : Nat) :
    P1 S j = S.length * (P1 S j / S.length) := by
  cases S with
  | nil => simp
  | cons x S => exact (mul_div_cancel₀ _ (Nat.cast_ne_zero.mpr (Nat.succ_ne_zero _))).symm

/-- the relation between the mean of `x :: S` and that of `S` behind all the recurrences -/
theorem mean_cons (x : List α) (S : List (List α)) (j : Nat) :
    ((S.length : α) + 1) * (P1 (x :: S) j / (x :: S).length)
      = co x j + S.length * (P1 S j / S.length) := by
  rw [← P1_eq_mul_mean S, ← P1_cons, ← Nat.cast_succ]
  exact (P1_eq_mul_mean (x :: S) j).symm

/-- Δ-mean of the whole data set -/
theorem mean_add {X : List (List α)} {x : List α} (h : Rows d X) (hx : x.length = d) :
    vadd (vmean d X) (deltaAdd (vmean d X) x (X.length + 1)) = vmean d (x :: X) := by
  rw [vmean_eq h, vmean_eq (h.cons hx), deltaAdd, vsub_vec_right _ hx, vdivs_vec, vadd_vec]
  refine vec_congr _ _ fun j _ => ?_
  rw [Nat.cast_succ, delta_add (mean_cons x X j) (Nat.cast_add_one_ne_zero _)]
  ring

/-- the record the invariant prescribes for a cluster with member list `S` -/
def cluOfList (d : Nat) (S : List (List α)) : Clu α :=
  ⟨S.length, vmean d S, ssq S (vmean d S), vzero d⟩

theorem cluOf_eq (D : List (List α × Nat)) (l : Nat) : cluOf d D l = cluOfList d (members D l) := rfl

def cluStat (d n : Nat) (m q : Nat → α) : Clu α :=
  ⟨n, vec d m, ∑ j ∈ range d, (q j - n * m j ^ 2), vzero d⟩

theorem cluOfList_eq {S : List (List α)} (h : Rows d S) :
    cluOfList d S = cluStat d S.length (fun j => P1 S j / S.length) (P2 S) := by
  rw [cluOfList, cluStat, vmean_eq h, ssq_vec h]
  congr 1
  refine Finset.sum_congr rfl fun j _ => ?_
  have hP := P1_eq_mul_mean S j
  generalize P1 S j / S.length = c at hP ⊢
  rw [hP]
  ring

/-- the record depends on the member list only up to permutation -/
theorem cluOfList_perm {T S : List (List α)} (p : T.Perm S) (h : Rows d T) :
    cluOfList d T = cluOfList d S := by
  rw [cluOfList_eq h, cluOfList_eq (h.perm p), p.length_eq, funext (P1_perm p), funext (P2_perm p)]

/-- a one-point cluster -/
theorem cluOfList_singleton {x : List α} (hx : x.length = d) :
    cluOfList d [x] = ⟨1, x, 0, vzero d⟩ := by
  rw [cluOfList_eq (Rows.cons hx fun _ hy => by cases hy), cluStat]
  congr 1
  · exact (vec_congr _ _ fun j _ => by simp).trans (eq_vec hx).symm
  · exact Finset.sum_eq_zero fun j _ => by simp

theorem vmean_singleton {x : List α} (hx : x.length = d) : vmean d [x] = x :=
  congrArg Clu.v (cluOfList_singleton hx)

section step
variable {n : Nat} (m q a v : Nat → α) (h : ∀ j, ((n : α) + 1) * v j = a j + n * m j)
include h

theorem step_CP_sum :
    ∑ j ∈ range d, (a j - v j) * (a j - v j) + (n : α) * ∑ j ∈ range d, (m j - v j) * (m j - v j)
        + (1 + 1) * ∑ j ∈ range d, (m j - v j) * 0
      = (cluStat d (n + 1) v fun j => a j ^ 2 + q j).CP - (cluStat d n m q).CP := by
  simp only [cluStat, Nat.cast_succ]
  rw [Finset.mul_sum, Finset.mul_sum, ← Finset.sum_add_distrib, ← Finset.sum_add_distrib,
    ← Finset.sum_sub_distrib]
  exact Finset.sum_congr rfl fun j _ => step_CP (h j) (q j)

/-- `add_sample` on an existing cluster with mean `m`; `v` is the mean with the sample `a` -/
theorem cluAdd_stat :
    cluAdd (cluStat d n m q) (vec d a)
      = (cluStat d (n + 1) v (fun j => a j ^ 2 + q j),
          (cluStat d (n + 1) v (fun j => a j ^ 2 + q j)).CP - (cluStat d n m q).CP) := by
  have hδ : ∀ j, -1 * ((a j - m j) / ((n : α) + 1)) = m j - v j := fun j => by
    rw [delta_add (h j) (Nat.cast_add_one_ne_zero n), neg_one_mul, neg_sub]
  have := step_CP_sum (d := d) m q a v h
  simp only [cluStat] at this
  -- unfold to `vec`s; then `hδ` turns Δ into `m − v`, `step_G` kills the `G` term and `this` is `CP_diff`
  simp only [cluAdd, cluStat, deltaAdd, vzero_eq_vec, vsub_vec, vdivs_vec, smul_vec, vadd_vec,
    dot_vec, Nat.cast_succ, add_sub_cancel_right, hδ, sub_sub_cancel, zero_add, step_G (h _), this,
    add_sub_cancel]

/-- `remove_sample` on a cluster with mean `v` that consists of the sample `a` and `n ≠ 0` more
points with mean `m` -/
theorem cluRemove_stat (hn : n ≠ 0) :
    cluRemove (cluStat d (n + 1) v (fun j => a j ^ 2 + q j)) (vec d a)
      = (cluStat d n m q,
          (cluStat d n m q).CP - (cluStat d (n + 1) v (fun j => a j ^ 2 + q j)).CP) := by
  have := step_CP_sum (d := d) m q a v h
  simp only [cluStat] at this
  -- as for `cluAdd_stat`, with `delta_remove` for Δ
  simp only [cluRemove, cluStat, deltaRemove, vzero_eq_vec, vsub_vec, vdivs_vec, smul_vec, vadd_vec,
    dot_vec, Nat.cast_succ, Nat.add_sub_cancel, add_sub_cancel_right,
    delta_remove (h _) (Nat.cast_ne_zero.mpr hn), add_sub_cancel, step_G (h _), sub_zero, this,
    neg_one_mul, neg_sub]

end step

theorem P2_cons_fun (x : List α) (S : List (List α)) :
    P2 (x :: S) = fun j => co x j ^ 2 + P2 S j := funext (P2_cons x S)

/-- `add_sample` on a cluster with members `S` (`S = []`: a new cluster) returns the record of `x :: S`, and `CP_diff` is
the change of compactness. -/
theorem cluAdd_spec {S : List (List α)} {x : List α} (h : Rows d S) (hx : x.length = d) :
    cluAdd (cluOfList d S) x
      = (cluOfList d (x :: S), (cluOfList d (x :: S)).CP - (cluOfList d S).CP) := by
  rw [cluOfList_eq h, cluOfList_eq (h.cons hx), P2_cons_fun]
  have := cluAdd_stat (d := d) _ (P2 S) _ _ (mean_cons x S)
  rwa [← eq_vec hx] at this

/-- `remove_sample` on a cluster `T` that contains `x` and at least one more point. -/
theorem cluRemove_spec {T S : List (List α)} {x : List α} (p : T.Perm (x :: S)) (hS : S ≠ [])
    (h : Rows d T) :
    cluRemove (cluOfList d T) x = (cluOfList d S, (cluOfList d S).CP - (cluOfList d T).CP) := by
  have hxS : Rows d (x :: S) := h.perm p
  rw [cluOfList_perm p h, cluOfList_eq hxS.tail, cluOfList_eq hxS, P2_cons_fun]
  have := cluRemove_stat (d := d) _ (P2 S) _ _ (mean_cons x S) (mt List.length_eq_zero_iff.mp hS)
  rwa [← eq_vec hxS.head] at this

end cluster

/-! ### the label dictionary as `keys.map (fun k => (k, g k))` -/

section dict
variable {β : Type} {K : List Nat} (g : Nat → Clu β) (l : Nat)

/-- key list after `CD[l] = …` -/
def insKey (K : List Nat) (l : Nat) : List Nat := if l ∈ K then K else K ++ [l]

theorem insKey_of_mem (h : l ∈ K) : insKey K l = K := if_pos h

theorem insKey_cons_ne {k : Nat} (h : k ≠ l) : insKey (k :: K) l = k :: insKey K l := by
  simp only [insKey, List.mem_cons, h.symm, false_or]
  split <;> rfl

theorem keys_setCD (m : List (Nat × Clu β)) (c : Clu β) :
    (setCD m l c).map (·.1) = insKey (m.map (·.1)) l := by
  induction m with
  | nil => exact (if_neg List.not_mem_nil).symm
  | cons e m ih =>
    obtain ⟨k, c0⟩ := e
    rw [setCD]
    by_cases h : k = l
    · rw [if_pos h, List.map_cons, List.map_cons, insKey_of_mem _ (h ▸ List.mem_cons_self)]
    · rw [if_neg h, List.map_cons, List.map_cons, ih, insKey_cons_ne _ h]

theorem lookup_map (K : List Nat) :
    lookup (K.map fun k => (k, g k)) l = if l ∈ K then some (g l) else none := by
  induction K with
  | nil => rfl
  | cons k K ih =>
    simp only [List.map_cons, lookup, ih, List.mem_cons]
    by_cases h : k = l
    · subst h; simp
    · simp [h, Ne.symm h]

theorem setCD_map (hK : K.Nodup) (c : Clu β) :
    setCD (K.map fun k => (k, g k)) l c
      = (insKey K l).map fun k => (k, Function.update g l c k) := by
  induction K with
  | nil => simp [setCD, insKey]
  | cons k K ih =>
    obtain ⟨hk, hK⟩ := List.nodup_cons.mp hK
    rw [List.map_cons, setCD]
    by_cases h : k = l
    · subst h
      rw [if_pos rfl, insKey_of_mem _ List.mem_cons_self, List.map_cons, Function.update_self]
      congr 1
      exact List.map_congr_left fun k' hk' => by
        rw [Function.update_of_ne (ne_of_mem_of_not_mem hk' hk)]
    · rw [if_neg h, ih hK, insKey_cons_ne _ h, List.map_cons, Function.update_of_ne h]

theorem insKey_nodup (hK : K.Nodup) : (insKey K l).Nodup := by
  unfold insKey
  split
  · exact hK
  · rename_i h
    exact List.Nodup.append hK (List.nodup_singleton l) (by simpa using h)

theorem setCD_nodup {m : List (Nat × Clu β)} (h : (m.map (·.1)).Nodup) (c : Clu β) :
    ((setCD m l c).map (·.1)).Nodup :=
  keys_setCD l m c ▸ insKey_nodup l h

theorem mem_insKey {k : Nat} : k ∈ insKey K l ↔ k ∈ K ∨ k = l := by
  unfold insKey
  split
  · rename_i h
    exact ⟨Or.inl, fun h' => h'.elim id (· ▸ h)⟩
  · simp

theorem length_insKey : (insKey K l).length = if l ∈ K then K.length else K.length + 1 := by
  unfold insKey; split <;> simp

/-- a sum over the keys after `CD[l] = …` -/
theorem sum_insKey (f : Nat → α) :
    ((insKey K l).map f).sum = (K.map f).sum + if l ∈ K then 0 else f l := by
  unfold insKey; split <;> simp

/-- changing one entry of a sum over distinct keys -/
theorem sum_map_update (hK : K.Nodup) (c : Clu β) (f : Clu β → α) :
    ((insKey K l).map fun k => f (Function.update g l c k)).sum
      = (K.map fun k => f (g k)).sum + (f c - if l ∈ K then f (g l) else 0) := by
  induction K with
  | nil => simp [insKey]
  | cons k K ih =>
    obtain ⟨hk, hK⟩ := List.nodup_cons.mp hK
    by_cases h : k = l
    · subst h
      have : K.map (fun k' => f (Function.update g k c k')) = K.map fun k' => f (g k') :=
        List.map_congr_left fun k' hk' => by
          rw [Function.update_of_ne (ne_of_mem_of_not_mem hk' hk)]
      rw [insKey_of_mem _ List.mem_cons_self, List.map_cons, List.map_cons, List.sum_cons, List.sum_cons,
        this, Function.update_self, if_pos List.mem_cons_self]
      ring
    · rw [insKey_cons_ne _ h, List.map_cons, List.sum_cons, ih hK, Function.update_of_ne h,
        List.map_cons, List.sum_cons]
      simp only [List.mem_cons, Ne.symm h, false_or]
      ring

end dict

/-! ### labelled data -/

section data
variable {d : Nat}

theorem mem_dedupL {l : List Nat} {a : Nat} : a ∈ dedupL l ↔ a ∈ l := by
  induction l with
  | nil => simp [dedupL]
  | cons b l ih =>
    simp only [dedupL, List.mem_cons, List.mem_filter, ih, bne_iff_ne, ne_eq]
    by_cases h : a = b <;> simp [h]

theorem nodup_dedupL (l : List Nat) : (dedupL l).Nodup := by
  induction l with
  | nil => simp [dedupL]
  | cons b l ih =>
    simp only [dedupL, List.nodup_cons, List.mem_filter, bne_self_eq_false, Bool.false_eq_true,
      and_false, not_false_eq_true, true_and]
    exact ih.filter _

theorem mem_labelsOf {D : List (List α × Nat)} {l : Nat} : l ∈ labelsOf D ↔ l ∈ D.map (·.2) :=
  mem_dedupL

/-- any duplicate-free list of exactly the labels of `D` is a permutation of `labelsOf D` -/
theorem keys_perm {D : List (List α × Nat)} {K : List Nat} (hK : K.Nodup)
    (hm : ∀ l, l ∈ K ↔ l ∈ D.map (·.2)) : K.Perm (labelsOf D) :=
  (List.perm_ext_iff_of_nodup hK (nodup_dedupL _)).mpr (fun l => (hm l).trans mem_labelsOf.symm)

/-- every point has dimension `d` -/
def WF (d : Nat) (D : List (List α × Nat)) : Prop := ∀ p ∈ D, p.1.length = d

theorem WF.rows_members {D : List (List α × Nat)} (h : WF d D) (l : Nat) : Rows d (members D l) := by
  intro y hy
  simp only [members, List.mem_map, List.mem_filter] at hy
  obtain ⟨p, ⟨hp, _⟩, rfl⟩ := hy
  exact h p hp

theorem WF.rows_points {D : List (List α × Nat)} (h : WF d D) : Rows d (D.map (·.1)) := by
  intro y hy
  obtain ⟨p, hp, rfl⟩ := List.mem_map.mp hy
  exact h p hp

theorem WF.cons {D : List (List α × Nat)} {x : List α} (hwf : WF d D) (hx : x.length = d)
    (l : Nat) : WF d ((x, l) :: D) := by
  intro p hp
  rcases List.mem_cons.mp hp with rfl | hp
  · exact hx
  · exact hwf p hp

theorem WF.perm {D D' : List (List α × Nat)} (p : D.Perm D') (h : WF d D) : WF d D' :=
  fun q hq => h q (p.mem_iff.mpr hq)

theorem members_cons (x : List α) (l : Nat) (D : List (List α × Nat)) (k : Nat) :
    members ((x, l) :: D) k = if l = k then x :: members D k else members D k := by
  simp only [members, List.filter_cons, beq_iff_eq]
  split <;> rfl

theorem members_append (D₁ D₂ : List (List α × Nat)) (k : Nat) :
    members (D₁ ++ D₂) k = members D₁ k ++ members D₂ k := by
  simp [members]

theorem members_eq_nil {D : List (List α × Nat)} {k : Nat} :
    members D k = [] ↔ k ∉ D.map (·.2) := by
  simp only [members, List.map_eq_nil_iff, List.filter_eq_nil_iff, beq_iff_eq, List.mem_map,
    not_exists, not_and]

theorem members_perm {D D' : List (List α × Nat)} (p : D.Perm D') (l : Nat) :
    (members D l).Perm (members D' l) := (p.filter _).map _

end data

/-! ### the invariant -/

section inv
variable [LinearOrder α] [IsStrictOrderedRing α] {d : Nat}

/-- The record of an `iCVI_CH` object describes the labelled data `D`:
sample count, mean, one dictionary entry per label present (count, centroid,
compactness, zero `G`), within-group sum of squares, and the criterion value is
the batch Calinski-Harabasz index of `D`. -/
structure Inv (d : Nat) (st : State α) (D : List (List α × Nat)) : Prop where
  dim_eq : st.dim = d
  n_eq : st.n = D.length
  mu_nil : D = [] → st.mu = []
  mu_eq : D ≠ [] → st.mu = vmean d (D.map (·.1))
  keys_nodup : (st.CD.map (·.1)).Nodup
  keys_mem : ∀ l, l ∈ st.CD.map (·.1) ↔ l ∈ D.map (·.2)
  entries : st.CD = (st.CD.map (·.1)).map (fun l => (l, cluOf d D l))
  wgss_eq : st.WGSS = wgssB d D
  crit_eq : st.crit = chBatchD d D

theorem wgssB_keys {D : List (List α × Nat)} {K : List Nat} (hK : K.Nodup)
    (hm : ∀ l, l ∈ K ↔ l ∈ D.map (·.2)) :
    wgssB d D = (K.map (fun k => (cluOf d D k).CP)).sum := by
  rw [wgssB, vsum_eq_list_sum]
  exact ((keys_perm hK hm).map _).sum_eq.symm

theorem bgssB_keys {D : List (List α × Nat)} {K : List Nat} (hK : K.Nodup)
    (hm : ∀ l, l ∈ K ↔ l ∈ D.map (·.2)) :
    bgssB d D = (K.map (fun k =>
      sepTerm (vmean d (D.map (·.1))) (cluOf d D k).n (cluOf d D k).v)).sum := by
  rw [bgssB, vsum_eq_list_sum]
  exact ((keys_perm hK hm).map _).sum_eq.symm

theorem chValue_batch (D : List (List α × Nat)) :
    chValue (bgssB d D) (wgssB d D) D.length (labelsOf D).length = chBatchD d D := by
  unfold chValue chBatchD
  simp only
  split
  · rfl
  · by_cases hnk : D.length = (labelsOf D).length
    · rw [if_pos hnk, hnk, sub_self, mul_zero, zero_div, ite_self]
    · rw [if_neg hnk]

structure Keyed (K : List Nat) (g : Nat → Clu α) (CD : List (Nat × Clu α)) (W : α) : Prop where
  nodup : K.Nodup
  cd : CD = K.map fun k => (k, g k)
  wgss : W = (K.map fun k => (g k).CP).sum

/-- `CD[l] = c`, `WGSS += CP_diff` -/
theorem Keyed.set {K : List Nat} {g : Nat → Clu α} {CD : List (Nat × Clu α)} {W : α}
    (h : Keyed K g CD W) (l : Nat) (c : Clu α) :
    Keyed (insKey K l) (Function.update g l c) (setCD CD l c)
      (W + (c.CP - if l ∈ K then (g l).CP else 0)) :=
  ⟨insKey_nodup _ h.nodup, by rw [h.cd, setCD_map _ _ h.nodup],
    by rw [h.wgss, sum_map_update _ _ h.nodup c Clu.CP]⟩

theorem Inv.keyed {st : State α} {D : List (List α × Nat)} (hI : Inv d st D) :
    ∃ K : List Nat, (∀ l, l ∈ K ↔ l ∈ D.map (·.2)) ∧ Keyed K (cluOf d D) st.CD st.WGSS :=
  ⟨_, hI.keys_mem, hI.keys_nodup, hI.entries,
    by rw [hI.wgss_eq, wgssB_keys hI.keys_nodup hI.keys_mem]⟩

theorem Inv.of_keyed {D : List (List α × Nat)} {K : List Nat} {CD : List (Nat × Clu α)} {W c : α}
    (hk : Keyed K (cluOf d D) CD W) (hm : ∀ l, l ∈ K ↔ l ∈ D.map (·.2)) (hD : D ≠ [])
    (hc : c = chValue (K.map fun k =>
        sepTerm (vmean d (D.map (·.1))) (cluOf d D k).n (cluOf d D k).v).sum W D.length K.length) :
    Inv d ⟨d, D.length, vmean d (D.map (·.1)), CD, W, c⟩ D := by
  have hkeys : CD.map (·.1) = K := by rw [hk.cd, List.map_map]; exact List.map_id' _
  have hW : W = wgssB d D := by rw [hk.wgss, wgssB_keys hk.nodup hm]
  refine ⟨rfl, rfl, fun h => absurd h hD, fun _ => rfl, hkeys ▸ hk.nodup, hkeys ▸ hm,
    hkeys ▸ hk.cd, hW, ?_⟩
  rw [hc, ← bgssB_keys hk.nodup hm, hW, (keys_perm hk.nodup hm).length_eq]
  exact chValue_batch D

/-- the separation term of a one-point cluster, as `add_sample` writes it for a new label -/
theorem sepTerm_one (mu v : List α) : sepTerm mu 1 v = l2sq (vsub v mu) := by
  rw [sepTerm, Nat.cast_one, one_mul]

section candidates
variable {K : List Nat} (hK : K.Nodup) (g : Nat → Clu α) (dim n : Nat) (mu : List α) (W c : α)
  (x : List α)
include hK

theorem addSample_keyed (l : Nat) :
    addSample ⟨dim, n, mu, K.map fun k => (k, g k), W, c⟩ x l =
      (let mu' := if mu.isEmpty then x else vadd mu (deltaAdd mu x (n + 1))
       let r : Clu α × α := if l ∈ K then cluAdd (g l) x else (⟨1, x, 0, vzero dim⟩, 0)
       ⟨l, n + 1, mu', r.1, r.2,
        chValue ((insKey K l).map fun k =>
            sepTerm mu' (Function.update g l r.1 k).n (Function.update g l r.1 k).v).sum
          (W + r.2) (n + 1) (insKey K l).length, none⟩) := by
  simp only [addSample, lookup_map, List.length_map, List.map_map, vsum_eq_list_sum]
  generalize (if mu.isEmpty then x else vadd mu (deltaAdd mu x (n + 1))) = mu'
  by_cases hl : l ∈ K
  · simp only [hl, if_true, insKey_of_mem _ hl]
    congr 3
    exact List.map_congr_left fun k _ => by
      rw [Function.comp, Function.update_apply]
      split <;> rfl
  · simp only [hl, if_false, length_insKey]
    congr 2
    rw [sum_map_update _ _ hK _ fun e => sepTerm mu' e.n e.v, if_neg hl, List.sum_cons, sub_zero,
      add_comm, sepTerm_one]
    rfl

/-- `switch_label`: `remove_sample` on the old entry, `add_sample` on the new one -/
theorem switchLabel_keyed {lo ln : Nat} (hne : lo ≠ ln) (hlo : lo ∈ K) (hn : ¬ (g lo).n ≤ 1) :
    switchLabel ⟨dim, n, mu, K.map fun k => (k, g k), W, c⟩ x lo ln =
      (let r := cluRemove (g lo) x
       let a : Clu α × α := if ln ∈ K then cluAdd (g ln) x else (⟨1, x, 0, vzero dim⟩, 0)
       let g' := Function.update (Function.update g lo r.1) ln a.1
       some ⟨lo, n, mu, r.1, r.2,
         chValue ((insKey K ln).map fun k => sepTerm mu (g' k).n (g' k).v).sum
           ((W + r.2) + a.2) n (insKey K ln).length,
         some (ln, a.1, a.2)⟩) := by
  simp only [switchLabel, if_neg hne.symm, removeSample, lookup_map, if_pos hlo, if_neg hn,
    addSample_keyed hK, List.length_map, List.map_map, vsum_eq_list_sum]
  generalize cluRemove (g lo) x = r
  have hpt : ∀ (a : Clu α) (k : Nat),
      (if k = lo then sepTerm mu r.1.n r.1.v else if k = ln then sepTerm mu a.n a.v
        else sepTerm mu (g k).n (g k).v)
      = sepTerm mu (Function.update (Function.update g lo r.1) ln a k).n
          (Function.update (Function.update g lo r.1) ln a k).v := by
    intro a k
    rw [Function.update_apply, Function.update_apply]
    by_cases h : k = lo
    · rw [if_pos h, if_neg (h ▸ hne), if_pos h]
    · rw [if_neg h, if_neg h]
      split <;> rfl
  by_cases hl : ln ∈ K
  · simp only [hl, if_true, Option.isNone_some, Bool.false_eq_true, if_false, List.nil_append,
      insKey_of_mem _ hl]
    congr 4
    exact List.map_congr_left fun k _ => hpt _ k
  · simp only [hl, if_false, Option.isNone_none, if_true, length_insKey]
    congr 3
    rw [sum_insKey, if_neg hl, List.singleton_append, List.sum_cons, add_comm, Function.update_self]
    congr 1
    · exact congrArg List.sum (List.map_congr_left fun k _ => hpt ⟨1, x, 0, vzero dim⟩ k)
    · exact (sepTerm_one mu x).symm

end candidates

theorem mu_add {st : State α} {D : List (List α × Nat)} {x : List α} (hI : Inv d st D)
    (hwf : WF d D) (hx : x.length = d) :
    (if st.mu.isEmpty then x else vadd st.mu (deltaAdd st.mu x (st.n + 1)))
      = vmean d (x :: D.map (·.1)) := by
  by_cases hD : D = []
  · subst hD
    rw [hI.mu_nil rfl]
    exact (vmean_singleton hx).symm
  · rw [hI.mu_eq hD, hI.n_eq, ← List.length_map (·.1)]
    split
    · rename_i he
      obtain rfl : 0 = d := by
        rw [← length_vmean (α := α) hwf.rows_points, List.isEmpty_iff.mp he, List.length_nil]
      obtain rfl : x = [] := List.eq_nil_of_length_eq_zero hx
      exact (List.eq_nil_of_length_eq_zero (length_vmean (hwf.rows_points.cons rfl))).symm
    · exact mean_add hwf.rows_points hx

theorem cluOf_cons (x : List α) (l : Nat) (D : List (List α × Nat)) :
    cluOf d ((x, l) :: D) = Function.update (cluOf d D) l (cluOfList d (x :: members D l)) := by
  funext k
  rw [cluOf_eq, members_cons, Function.update_apply]
  by_cases h : k = l
  · rw [if_pos h.symm, if_pos h, h]
  · rw [if_neg (Ne.symm h), if_neg h, cluOf_eq]

theorem add_entry {D : List (List α × Nat)} {K : List Nat} {x : List α} {l : Nat} (hwf : WF d D)
    (hx : x.length = d) (hm : l ∈ K ↔ l ∈ D.map (·.2)) :
    (if l ∈ K then cluAdd (cluOf d D l) x else (⟨1, x, 0, vzero d⟩, 0))
      = (cluOfList d (x :: members D l),
          (cluOfList d (x :: members D l)).CP - if l ∈ K then (cluOf d D l).CP else 0) := by
  split
  · exact cluAdd_spec (hwf.rows_members l) hx
  · rename_i h
    rw [members_eq_nil.mpr (mt hm.mpr h), cluOfList_singleton hx, sub_zero]

/-- **`add_sample` + `update` preserves the invariant.** -/
theorem add_inv {st : State α} {D : List (List α × Nat)} {x : List α} {l : Nat}
    (hwf : WF d D) (hx : x.length = d) (hI : Inv d st D) :
    Inv d (update st (addSample st x l)) ((x, l) :: D) := by
  obtain ⟨K, hm, hk⟩ := hI.keyed
  have hmu := mu_add hI hwf hx
  obtain ⟨dim, n, mu, CD, W, c⟩ := st
  obtain rfl : d = dim := hI.dim_eq.symm
  obtain rfl : n = D.length := hI.n_eq
  obtain rfl := hk.cd
  rw [addSample_keyed hk.nodup]
  simp only [hmu, add_entry hwf hx (hm l), update]
  rw [← cluOf_cons]
  exact Inv.of_keyed (cluOf_cons x l D ▸ hk.set l _)
    (fun k => by rw [mem_insKey, hm, List.map_cons, List.mem_cons, or_comm])
    (List.cons_ne_nil _ _) rfl

/-! ### the labelled data is a multiset: permutation invariance -/

theorem cluOf_perm {D D' : List (List α × Nat)} (p : D.Perm D') (hwf : WF d D) :
    cluOf d D = cluOf d D' :=
  funext fun l => cluOfList_perm (members_perm p l) (hwf.rows_members l)

theorem vmean_perm {T S : List (List α)} (p : T.Perm S) (h : Rows d T) :
    vmean d T = vmean d S :=
  congrArg Clu.v (cluOfList_perm p h)

theorem chBatchD_perm {D D' : List (List α × Nat)} (p : D.Perm D') (hwf : WF d D) :
    chBatchD d D = chBatchD d D' := by
  have hK : (labelsOf D).Nodup := nodup_dedupL _
  have hm : ∀ l, l ∈ labelsOf D ↔ l ∈ D.map (·.2) := fun l => mem_labelsOf
  have hm' : ∀ l, l ∈ labelsOf D ↔ l ∈ D'.map (·.2) := fun l => (hm l).trans (p.map _).mem_iff
  rw [← chValue_batch, ← chValue_batch, wgssB_keys hK hm, wgssB_keys hK hm', bgssB_keys hK hm,
    bgssB_keys hK hm', vmean_perm (p.map _) hwf.rows_points, cluOf_perm p hwf,
    (keys_perm hK hm').length_eq, p.length_eq]

theorem Inv.perm {st : State α} {D D' : List (List α × Nat)} (p : D.Perm D') (hwf : WF d D)
    (hI : Inv d st D) : Inv d st D' := by
  have hm : ∀ l, l ∈ st.CD.map (·.1) ↔ l ∈ D'.map (·.2) := fun l =>
    (hI.keys_mem l).trans (p.map _).mem_iff
  refine ⟨hI.dim_eq, hI.n_eq.trans p.length_eq, fun h => hI.mu_nil (by subst h; exact p.eq_nil), ?_,
    hI.keys_nodup, hm, cluOf_perm p hwf ▸ hI.entries, ?_, chBatchD_perm p hwf ▸ hI.crit_eq⟩
  · intro h
    rw [hI.mu_eq fun e => h (by subst e; exact p.symm.eq_nil),
      vmean_perm (p.map _) hwf.rows_points]
  · rw [hI.wgss_eq, wgssB_keys hI.keys_nodup hI.keys_mem, wgssB_keys hI.keys_nodup hm,
      cluOf_perm p hwf]

theorem setCD_self {β : Type} {K : List Nat} (hK : K.Nodup) (g : Nat → Clu β) {l : Nat} (hl : l ∈ K) :
    setCD (K.map fun k => (k, g k)) l (g l) = K.map fun k => (k, g k) := by
  rw [setCD_map _ _ hK, insKey_of_mem _ hl, Function.update_eq_self]

/-- `switch_label` + `update` when the relabelled sample heads the data -/
theorem switch_cons {st : State α} {S : List (List α × Nat)} {x : List α} {lo ln : Nat}
    (hwf : WF d ((x, lo) :: S)) (hI : Inv d st ((x, lo) :: S))
    (hpre : lo ≠ ln → members S lo ≠ []) :
    ∃ p, switchLabel st x lo ln = some p ∧ Inv d (update st p) ((x, ln) :: S) := by
  obtain ⟨K, hm, hk⟩ := hI.keyed
  have hlo : lo ∈ K := (hm lo).mpr List.mem_cons_self
  obtain ⟨dim, n, mu, CD, W, c⟩ := st
  obtain rfl : d = dim := hI.dim_eq.symm
  obtain rfl : n = S.length + 1 := hI.n_eq
  obtain rfl : mu = vmean d (x :: S.map (·.1)) := hI.mu_eq (List.cons_ne_nil _ _)
  obtain rfl := hk.cd
  by_cases hne : lo = ln
  · subst hne
    refine ⟨_, by simp only [switchLabel, if_true, lookup_map, hlo]; rfl, ?_⟩
    simp only [update, add_zero]
    rw [setCD_self hk.nodup _ hlo]
    exact hI
  · have hx : x.length = d := hwf _ List.mem_cons_self
    have hwfS : WF d S := fun p hp => hwf p (List.mem_cons_of_mem _ hp)
    have hS := hpre hne
    have hloS : lo ∈ S.map (·.2) := not_not.mp (mt members_eq_nil.mpr hS)
    have hmln : ln ∈ K ↔ ln ∈ S.map (·.2) :=
      (hm ln).trans (by rw [List.map_cons, List.mem_cons]; exact or_iff_right (Ne.symm hne))
    have hm' : ∀ k, k ∈ insKey K ln ↔ k ∈ ((x, ln) :: S).map (·.2) := fun k => by
      rw [mem_insKey, hm, List.map_cons, List.map_cons, List.mem_cons, List.mem_cons]
      constructor
      · rintro ((rfl | h) | rfl)
        exacts [Or.inr hloS, Or.inr h, Or.inl rfl]
      · rintro (rfl | h)
        exacts [Or.inr rfl, Or.inl (Or.inr h)]
    rw [cluOf_cons] at hk ⊢
    have hn : ¬ (Function.update (cluOf d S) lo (cluOfList d (x :: members S lo)) lo).n ≤ 1 := by
      rw [Function.update_self]
      exact Nat.not_succ_le_self 1 ∘ Nat.le_trans (Nat.succ_le_succ (List.length_pos_iff.mpr hS))
    have hk' := (hk.set lo (cluOf d S lo)).set ln (cluOfList d (x :: members S ln))
    refine ⟨_, switchLabel_keyed hk.nodup _ _ _ _ _ _ _ hne hlo hn, ?_⟩
    simp only [update, Function.update_self, Function.update_of_ne (Ne.symm hne),
      cluRemove_spec (List.Perm.refl _) hS ((hwfS.rows_members lo).cons hx), add_entry hwfS hx hmln,
      ← cluOf_eq, Function.update_idem, Function.update_eq_self, insKey_of_mem _ hlo, if_pos hlo]
      at hk' ⊢
    rw [← cluOf_cons x ln] at hk' ⊢
    exact Inv.of_keyed hk' hm' (List.cons_ne_nil _ _) rfl

theorem WF.switch {D₁ D₂ : List (List α × Nat)} {x : List α} {lo : Nat}
    (hwf : WF d (D₁ ++ (x, lo) :: D₂)) (ln : Nat) : WF d (D₁ ++ (x, ln) :: D₂) := by
  intro p hp
  simp only [List.mem_append, List.mem_cons] at hp
  rcases hp with hp | rfl | hp
  · exact hwf p (by simp [hp])
  · exact hwf (x, lo) (by simp)
  · exact hwf p (by simp [hp])

/-- **`switch_label` + `update` preserves the invariant** (and does not raise)
when the sample `(x, lo)` is in the data and, for a genuine switch, its old
cluster has at least two members. -/
theorem switch_inv {st : State α} {D₁ D₂ : List (List α × Nat)} {x : List α} {lo ln : Nat}
    (hwf : WF d (D₁ ++ (x, lo) :: D₂)) (hI : Inv d st (D₁ ++ (x, lo) :: D₂))
    (hpre : lo ≠ ln → 2 ≤ (members (D₁ ++ (x, lo) :: D₂) lo).length) :
    ∃ p, switchLabel st x lo ln = some p ∧ Inv d (update st p) (D₁ ++ (x, ln) :: D₂) := by
  -- the data is a multiset: move the sample to the front
  have p : ∀ l, (D₁ ++ (x, l) :: D₂).Perm ((x, l) :: (D₁ ++ D₂)) := fun l => List.perm_middle
  have hwf' := hwf.perm (p lo)
  obtain ⟨c, hc, hI'⟩ := switch_cons hwf' (hI.perm (p lo) hwf) fun h => by
    have hl := hpre h
    rw [(members_perm (p lo) lo).length_eq, members_cons, if_pos rfl] at hl
    exact List.ne_nil_of_length_pos (Nat.lt_of_succ_lt_succ hl)
  exact ⟨c, hc, hI'.perm (p ln).symm (WF.switch (D₁ := []) hwf' ln)⟩

theorem init_inv : Inv d (init d : State α) [] := by
  refine ⟨rfl, rfl, fun _ => rfl, fun h => absurd rfl h, List.nodup_nil, fun l => Iff.rfl, rfl, rfl, rfl⟩

theorem update_crit (st : State α) (p : Cand α) : (update st p).crit = p.crit := by
  unfold update
  split <;> rfl

theorem chBatch_eq {D : List (List α × Nat)} (hwf : WF d D) : chBatch D = chBatchD d D := by
  cases D with
  | nil => rfl
  | cons p D => exact congrArg (chBatchD · (p :: D)) (hwf p List.mem_cons_self)

/-- The histories the API permits, together with the labelled data they
describe: start from a fresh object; `add_sample(x, l)` + `update` adds the
labelled point `(x, l)`; `switch_label(x, lo, ln)` + `update` relabels one
occurrence of `(x, lo)`, and is permitted when that sample is in the data and
(for `lo ≠ ln`) its cluster has at least two members. -/
inductive Reach (d : Nat) : State α → List (List α × Nat) → Prop
  | init : Reach d (init d) []
  | add {st : State α} {D : List (List α × Nat)} (x : List α) (l : Nat) :
      Reach d st D → x.length = d → Reach d (update st (addSample st x l)) ((x, l) :: D)
  | switch {st : State α} {D₁ D₂ : List (List α × Nat)} (x : List α) (lo ln : Nat) (p : Cand α) :
      Reach d st (D₁ ++ (x, lo) :: D₂) →
      (lo ≠ ln → 2 ≤ (members (D₁ ++ (x, lo) :: D₂) lo).length) →
      switchLabel st x lo ln = some p →
      Reach d (update st p) (D₁ ++ (x, ln) :: D₂)

theorem reach_inv {st : State α} {D : List (List α × Nat)} (h : Reach d st D) :
    WF d D ∧ Inv d st D := by
  induction h with
  | init => exact ⟨fun _ hp => (nomatch hp), init_inv⟩
  | add x l _ hx ih => exact ⟨ih.1.cons hx l, add_inv ih.1 hx ih.2⟩
  | switch x lo ln p _ hpre hp ih =>
    obtain ⟨p', hp', hI⟩ := switch_inv ih.1 ih.2 hpre
    cases hp.symm.trans hp'
    exact ⟨ih.1.switch ln, hI⟩

/-! ### `iCVIFuzzyART.fit`: the tracked value -/

theorem reach_adds (L : List (List α × Nat)) (hL : WF d L) {st : State α}
    {D : List (List α × Nat)} (h : Reach d st D) :
    Reach d (L.foldl (fun st p => update st (addSample st p.1 p.2)) st) (L.reverse ++ D) := by
  induction L generalizing st D with
  | nil => exact h
  | cons q L ih =>
    rw [List.foldl_cons, List.reverse_cons, List.append_assoc]
    exact ih (fun p hp => hL p (List.mem_cons_of_mem _ hp))
      (Reach.add q.1 q.2 h (hL q List.mem_cons_self))

theorem track_online (X : List (List α)) (cs : List Nat) (hX : Rows d X) :
    (trackOnline d X cs).crit = chBatch (X.zip cs) := by
  have hL : WF d (X.zip cs) := fun p hp => hX p.1 (List.of_mem_zip hp).1
  obtain ⟨hwf, hI⟩ := reach_inv (reach_adds _ hL Reach.init)
  rw [List.append_nil] at hwf hI
  rw [chBatch_eq hL, ← chBatchD_perm (List.reverse_perm _) hwf]
  exact hI.crit_eq

/-- the offline loop: the samples `R` still carry label 0; no `switch_label` raises because
cluster 0 keeps a member, either one already processed or the sample at hand -/
theorem offline_loop (R : List (List α × Nat)) :
    ∀ (st : State α) (Dd : List (List α × Nat)),
      WF d (Dd ++ R.map (fun p => (p.1, 0))) → Inv d st (Dd ++ R.map (fun p => (p.1, 0))) →
      ((∃ y, (y, 0) ∈ Dd) ∨ ∀ p, R.head? = some p → p.2 = 0) →
      ∃ st', offlineLoop st R = some st' ∧ WF d (Dd ++ R) ∧ Inv d st' (Dd ++ R) := by
  induction R with
  | nil => intro st Dd hwf hI _; exact ⟨st, rfl, hwf, hI⟩
  | cons q R ih =>
    obtain ⟨x, c⟩ := q
    intro st Dd hwf hI h
    rw [List.map_cons] at hwf hI
    have hpre : 0 ≠ c → 2 ≤ (members (Dd ++ (x, 0) :: R.map (fun p => (p.1, 0))) 0).length := by
      intro hc
      obtain ⟨y, hy⟩ := h.resolve_right fun h0 => hc (h0 _ rfl).symm
      have : 0 < (members Dd 0).length := List.length_pos_iff.mpr
        (mt members_eq_nil.mp (not_not.mpr (List.mem_map.mpr ⟨_, hy, rfl⟩)))
      rw [members_append, members_cons, if_pos rfl, List.length_append, List.length_cons]
      omega
    obtain ⟨p, hp, hI'⟩ := switch_inv (ln := c) hwf hI hpre
    have hwf' := hwf.switch c
    rw [List.append_cons] at hwf' hI'
    obtain ⟨st', hst', hR⟩ := ih (update st p) (Dd ++ [(x, c)]) hwf' hI' <| .inl <| by
      rcases h with ⟨y, hy⟩ | h0
      · exact ⟨y, List.mem_append_left _ hy⟩
      · exact ⟨x, by rw [← h0 (x, c) rfl]; exact List.mem_append_right _ (List.mem_singleton_self _)⟩
    rw [← List.append_cons] at hR
    exact ⟨st', by rw [offlineLoop, hp]; exact hst', hR⟩

theorem track_offline (X : List (List α)) (cs : List Nat) (hX : Rows d X)
    (hl : cs.length = X.length) (h0 : ∀ c, cs.head? = some c → c = 0) :
    ∃ st, trackOffline d X cs = some st ∧ st.crit = chBatch (X.zip cs) := by
  obtain ⟨hwf, hI⟩ := reach_inv (reach_adds (X.map fun x => (x, 0))
    (fun p hp => by obtain ⟨x, hx, rfl⟩ := List.mem_map.mp hp; exact hX x hx) Reach.init)
  rw [List.append_nil] at hwf hI
  rw [List.foldl_map] at hI
  have hp : ((X.map fun x => (x, (0 : Nat))).reverse).Perm
      ([] ++ (X.zip cs).map (fun p => (p.1, 0))) := by
    rw [List.nil_append]
    conv_lhs => rw [← List.map_fst_zip (l₁ := X) (l₂ := cs) (Nat.le_of_eq hl.symm), List.map_map]
    exact List.reverse_perm _
  have hhead : ∀ p, (X.zip cs).head? = some p → p.2 = 0 := by
    intro p hp'
    cases X with
    | nil => cases hp'
    | cons x X =>
      cases cs with
      | nil => cases hp'
      | cons c cs =>
        cases hp'
        exact h0 c rfl
  obtain ⟨st', hst', hwf', hI'⟩ :=
    offline_loop (X.zip cs) _ [] (hwf.perm hp) (hI.perm hp hwf) (.inr hhead)
  rw [List.nil_append] at hwf' hI'
  exact ⟨st', hst', by rw [chBatch_eq hwf']; exact hI'.crit_eq⟩

end inv

/-! ### the gates as vetoes over the generic search -/

section gate
variable {X Wt β μ θ : Type} [LinearOrder β]

/-- A training step whose reset function is an optional user function `and` a gate assigns the
sample to an *existing* category only if both answered `True` for it. -/
theorem stepFit_gate (K : Kernel X Wt β μ) (cfg : SearchCfg μ θ) (th0 : θ) (user gate : Nat → Bool)
    (s : ArtState Wt) (x : X) (c : Nat) (h : (stepFit K cfg th0 (gateVeto user gate) s x).2 = c)
    (hc : c < s.W.length) : user c = true ∧ gate c = true := by
  have hv := stepSearch_winner_not_vetoed K cfg th0 _ s.W x c (stepFit_existing K cfg th0 _ s x c h hc)
  simpa only [gateVeto, Bool.not_eq_false', Bool.and_eq_true] using hv

end gate

end Art.ICVI

