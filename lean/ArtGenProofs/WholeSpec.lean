/-
ArtGenProofs.WholeSpec — the training / prediction calls `fit`, `partial_fit`, `predict` that `DualVigilanceART` and
`TopoART` inherit from `BaseART`, as re-translated from the Python source *for these receivers* by
`harness/artv/wtrans.py` (ArtGen/Whole.lean: the inherited loop bodies, with `self.step_fit`, `self.step_pred`,
`self.post_step_fit`, the hooks and the `W` / `labels_` / `weight_sample_counter_` properties resolved along the MRO,
calling the definitions generated by `dtrans`, `ttrans`, `ttrans2`), compute the model's whole-call functions
`dualFit` / `dualPartialFit` / `dualPredict` (ArtModel/DualVig.lean) and `topoFit` / `topoPartialFit` / `topoPredict`
(ArtModel/Topo.lean) — for every state, stream, reset function, match-tracking mode, epsilon and number of epochs,
under the kernel contracts of DualSpec / TopoStepSpec / TopoSpec.  Property theorems of C05 / C06 / C13 / C14 about
whole calls are transported to the generated code.
-/
import Mathlib.Order.Basic
import Mathlib.Order.Defs.LinearOrder
import ArtGen.Whole
import ArtGenProofs.ControlFit
import ArtGenProofs.DualSpec
import ArtGenProofs.TopoSpec
import ArtGenProofs.TopoStepSpec
import ArtProps.C13
import ArtProps.C14
import Mathlib.Algebra.Order.Field.Rat

namespace Art.GenSpec.Whole

open Art Art.Imp

set_option linter.unusedSectionVars false

/-! ## A. DualVigilanceART -/

section DualModel
variable {X Wt α μ θ : Type} [LinearOrder α]
variable (K : Kernel X Wt α μ) (cfg : SearchCfg μ θ) (th0 lb : θ) (pos : α → Bool)

/-- one iteration of the `fit` / `partial_fit` loops: `c = step_fit(x); labels_[i] = c` (a pre-allocated vector) -/
def dualEpochStep (vetoF : X → Nat → Bool) (s : DualState Wt) (xi : X × Nat) : DualState Wt :=
  let r := dualStepFit K cfg th0 lb pos (vetoF xi.1) s xi.1
  { r.1 with base := { r.1.base with labels := r.1.base.labels.set xi.2 r.2 } }

theorem dualEpochStep_weak (vetoF : X → Nat → Bool) (s : DualState Wt) (xi : X × Nat) (hw : DWeak s) :
    DWeak (dualEpochStep K cfg th0 lb pos vetoF s xi) := by
  unfold dualEpochStep
  exact dualStepFit_weak K cfg th0 lb pos (vetoF xi.1) s xi.1 hw

/-- `fit(X, max_iter = k)` on a `DualVigilanceART`: `W`, the counters (both on the base module), the wrapper's sample
counter and `labels_` are reset, `map` is kept until the first sample replaces it; every epoch presents the rows in
order and overwrites `labels_` position by position -/
def dualFitEpochs (vetoF : X → Nat → Bool) (k : Nat) (s : DualState Wt) (xs : List X) : DualState Wt :=
  (List.range k).foldl (fun t _ => xs.zipIdx.foldl (dualEpochStep K cfg th0 lb pos vetoF) t)
    ⟨{ W := [], cnt := [], n := 0, labels := List.replicate xs.length 0 }, s.map⟩

/-- writing labels into a pre-allocated vector is appending them (the model's `dualTrainStep` fold) -/
theorem dual_epoch_fold_eq_train_fold (vetoF : X → Nat → Bool) :
    ∀ (xs : List X) (k : Nat) (s : DualState Wt) (tail : List Nat), tail.length = xs.length → s.base.labels.length = k →
      (xs.zipIdx k).foldl (dualEpochStep K cfg th0 lb pos vetoF)
          ⟨{ s.base with labels := s.base.labels ++ tail }, s.map⟩ =
        xs.foldl (dualTrainStep K cfg th0 lb pos (fun _ x l => vetoF x l)) s :=
  fun xs k s tail ht hl =>
    foldl_zipIdx_write _ (dualTrainStep K cfg th0 lb pos (fun _ x l => vetoF x l))
      (fun s L => (⟨{ s.base with labels := L }, s.map⟩ : DualState Wt)) (fun s => s.base.labels)
      (fun s x => (dualStepFit K cfg th0 lb pos (vetoF x) s x).2) 0
      (fun s L x i => by unfold dualEpochStep; rw [dualStepFit_with_labels, dualTrainStep_eq]; rfl)
      (fun s x => congrArg (fun s : DualState Wt => s.base.labels) (dualTrainStep_eq K cfg th0 lb pos _ s x))
      xs k s tail hl ht

/-- **one epoch is the model's `dualFit`** -/
theorem dualFitEpochs_one (vetoF : X → Nat → Bool) (s : DualState Wt) (xs : List X) :
    dualFitEpochs K cfg th0 lb pos vetoF 1 s xs = dualFit K cfg th0 lb pos (fun _ x l => vetoF x l) s xs :=
  dual_epoch_fold_eq_train_fold K cfg th0 lb pos vetoF xs 0 (dualReset s) (List.replicate xs.length 0)
    List.length_replicate rfl

end DualModel

section Dual
variable {X Wt P C α μ θ : Type} [LinearOrder α] [Zero α] [Inhabited Wt] [Inhabited C]

/-- the kernel contract of DualSpec, at every state and sample a training call can meet; the reset function's answer
is a function of the sample and the *cluster label* only (`vetoF x l` = "cluster `l` is forbidden for sample `x`") -/
def DContract (K : Kernel X Wt α μ) (cfg : SearchCfg μ θ) (E : DualExt X Wt P C α) (th : P → θ) (lb : θ) (rlb : α)
    (is_none : Bool) (reset : X → Wt → Nat → P → C → Bool) (vetoF : X → Nat → Bool) (mt : MT) (eps : α) : Prop :=
  ∀ (W : List Wt) (m : List Nat) (x : X) (p0 : P),
    Dual.Contract K cfg E th lb rlb W m x p0 is_none reset (vetoF x) mt eps

/-- the tuple of loop-carried variables when the model state is `t` (`b0` supplies what the model does not see: the
base module's `params`, its own sample counter and the `hasattr` flag) -/
abbrev dpk (b0 : Self Wt P) (rlb : α) (t : DualState Wt) : Self Wt P × List (Option Nat) × Nat × α :=
  ({ b0 with W := t.base.W, cnt := t.base.cnt, labels := t.base.labels }, t.map.map some, t.base.n, rlb)

/-- the estimator whose model-visible attributes are those of `t` -/
def dself (b0 : Self Wt P) (rlb : α) (t : DualState Wt) : DualSelf Wt P α :=
  { base := { b0 with W := t.base.W, cnt := t.base.cnt, labels := t.base.labels }, map := t.map.map some,
    n := t.base.n, rho_lower_bound := rlb }

variable (K : Kernel X Wt α μ) (cfg : SearchCfg μ θ) (E : DualExt X Wt P C α) (th : P → θ) (lb : θ) (rlb : α)
  (is_none : Bool) (reset : X → Wt → Nat → P → C → Bool) (vetoF : X → Nat → Bool) (mt : MT) (eps : α)

section
variable {K cfg E th lb rlb is_none reset vetoF mt eps}

/-- one iteration of the inherited `partial_fit` loop on a DualVigilanceART: one model step, the label written at
position `i + j` -/
theorem dual_pfit_body (hG : DContract K cfg E th lb rlb is_none reset vetoF mt eps) (b0 : Self Wt P) (j : Nat)
    (t : DualState Wt) (hw : DWeak t) (x : X) (i : Nat) :
    Art.Gen.DualFit.partial_fit_loop1_body E mt eps j is_none reset (dpk b0 rlb t) (x, i) =
      .next (dpk b0 rlb (dualEpochStep K cfg (th b0.params) lb (posOf 0) vetoF t (x, i + j))) := by
  -- the generated `step_fit`, first sample included
  have hs := if hW : t.base.W = [] then
      Dual.step_fit_first_sample K cfg E th lb (dself b0 rlb t) t.map x is_none reset (vetoF x) mt eps _ hW
        (hG _ _ _ _)
    else Dual.step_fit_spec K cfg E th lb (dself b0 rlb t) t.map x is_none reset (vetoF x) mt eps rfl (hw hW)
      (hG _ _ _ _)
  simp only [dself] at hs
  unfold Art.Gen.DualFit.partial_fit_loop1_body
  simp only [hs, dualEpochStep, dualStepFit_labels]

/-- the `partial_fit` loop, started with `labels_` padded for the batch and writing at the offset of the padding,
is the model's `dualPartialFit` -/
theorem dual_pfit_loop (hG : DContract K cfg E th lb rlb is_none reset vetoF mt eps) (b0 : Self Wt P) (xs : List X)
    (s : DualState Wt) (hw : DWeak s) :
    forEach (Art.Gen.DualFit.partial_fit_loop1_body E mt eps s.base.labels.length is_none reset) xs.zipIdx
        (dpk b0 rlb ⟨{ s.base with labels := s.base.labels ++ List.replicate xs.length 0 }, s.map⟩) =
      .next (dpk b0 rlb (dualPartialFit K cfg (th b0.params) lb (posOf 0) (fun _ x l => vetoF x l) s xs)) := by
  have := forEach_zipIdx_offset (R := DualSelf Wt P α × Unit) (dpk b0 rlb) DWeak
    (dualEpochStep K cfg (th b0.params) lb (posOf 0) vetoF) _ s.base.labels.length
    (fun t x i hw => ⟨dual_pfit_body hG b0 _ t hw x i,
      dualEpochStep_weak K cfg (th b0.params) lb (posOf 0) vetoF t _ hw⟩) xs 0
    ⟨{ s.base with labels := s.base.labels ++ List.replicate xs.length 0 }, s.map⟩ hw
  rwa [Nat.zero_add, dual_epoch_fold_eq_train_fold K cfg (th b0.params) lb (posOf 0) vetoF xs _ s _
    List.length_replicate rfl] at this

end

/-- **The inherited `partial_fit`, executed on a DualVigilanceART, is the model's `dualPartialFit`**: a left fold of
`dualTrainStep` over the batch — base weights, base counters, the wrapper's sample counter, the map, the labels
appended to the base module's `labels_`; the base module's `params` come back untouched.  On an estimator whose base
module has no `W` yet (`hasattr(self, "W")` false) the fold starts from no categories and no labels (the counters and
the stale map are whatever they were: the first sample replaces the map). -/
theorem dual_partial_fit_spec (hG : DContract K cfg E th lb rlb is_none reset vetoF mt eps) (self : DualSelf Wt P α)
    (m : List Nat) (Xs : List X) (hr : self.rho_lower_bound = rlb) (hmap : self.map = m.map some)
    (hw : self.base.hasW = true → self.base.W ≠ [] → m.length = self.base.W.length) :
    Art.Gen.DualFit.partial_fit E self Xs is_none reset mt eps =
      (let s0 : DualState Wt := if self.base.hasW then ⟨⟨self.base.W, self.base.cnt, self.n, self.base.labels⟩, m⟩
                                else ⟨⟨[], self.base.cnt, self.n, []⟩, m⟩
       (dself { self.base with hasW := true } rlb
          (dualPartialFit K cfg (th self.base.params) lb (posOf 0) (fun _ x l => vetoF x l) s0 Xs), ())) := by
  obtain ⟨base, map, n, rl⟩ := self
  simp only at hr hmap hw
  subst hr hmap
  unfold Art.Gen.DualFit.partial_fit
  cases hh : base.hasW with
  | false =>
    have hl := dual_pfit_loop hG { base with hasW := true } Xs
      ⟨⟨[], base.cnt, n, []⟩, m⟩ (fun h => absurd rfl h)
    simp only [List.length_nil, List.nil_append] at hl
    simp only [hh, Bool.not_false, if_true, Bool.false_eq_true, if_false, hl]
    rfl
  | true =>
    have hl := dual_pfit_loop hG { base with hasW := true } Xs
      ⟨⟨base.W, base.cnt, n, base.labels⟩, m⟩ (hw hh)
    simp only [hh, Bool.not_true, Bool.false_eq_true, if_false, if_true, hl]
    rfl

/-- **The inherited `fit(X, max_iter = k)`, executed on a DualVigilanceART, is `dualFitEpochs`** for every number of
epochs, with or without progress bar: `W`, `weight_sample_counter_` and `labels_` are reset *on the base module*
(through the wrapper's properties), `sample_counter_` on the wrapper, `map` is not reset (the first sample replaces
it), the hooks do nothing; `params` come back untouched.  No consistency hypothesis on the estimator. -/
theorem dual_fit_spec (hG : DContract K cfg E th lb rlb is_none reset vetoF mt eps) (self : DualSelf Wt P α)
    (m : List Nat) (Xs : List X) (epochs : Nat) (verbose : Bool) (hr : self.rho_lower_bound = rlb)
    (hmap : self.map = m.map some) :
    Art.Gen.DualFit.fit E self Xs is_none reset epochs mt eps verbose =
      (dself { self.base with hasW := true } rlb
        (dualFitEpochs K cfg (th self.base.params) lb (posOf 0) vetoF epochs
          ⟨⟨self.base.W, self.base.cnt, self.n, self.base.labels⟩, m⟩ Xs), ()) := by
  obtain ⟨base, map, n, rl⟩ := self
  simp only at hr hmap
  subst hr hmap
  have hloop := forEach_epochs (R := DualSelf Wt P α × Unit) (dpk { base with hasW := true } rl) DWeak
    (dualEpochStep K cfg (th base.params) lb (posOf 0) vetoF)
    (Art.Gen.DualFit.fit_loop1_body E Xs mt eps is_none reset)
    (Art.Gen.DualFit.fit_loop2_body E Xs mt eps verbose is_none reset) Xs.zipIdx
    -- the hooks do nothing on a DualVigilanceART: the body is that of `partial_fit` without offset
    (fun t a ht => ⟨dual_pfit_body hG _ 0 t ht a.1 a.2,
      dualEpochStep_weak K cfg (th base.params) lb (posOf 0) vetoF t a ht⟩)
    (fun t t' e h => by
      unfold Art.Gen.DualFit.fit_loop2_body
      cases verbose <;> simp only [h, if_true, Bool.false_eq_true, if_false])
    (List.range epochs) ⟨⟨[], [], 0, List.replicate Xs.length 0⟩, m⟩ (fun h => absurd rfl h)
  unfold Art.Gen.DualFit.fit dualFitEpochs
  simp only [hloop]
  rfl

/-- **`fit` with the default `max_iter = 1` is the model's `dualFit`** (= `dualPartialFit ∘ dualReset`, the object of
the C05 / C06 / C13 theorems) -/
theorem dual_fit_one (hG : DContract K cfg E th lb rlb is_none reset vetoF mt eps) (self : DualSelf Wt P α)
    (m : List Nat) (Xs : List X) (verbose : Bool) (hr : self.rho_lower_bound = rlb) (hmap : self.map = m.map some) :
    Art.Gen.DualFit.fit E self Xs is_none reset 1 mt eps verbose =
      (dself { self.base with hasW := true } rlb
        (dualFit K cfg (th self.base.params) lb (posOf 0) (fun _ x l => vetoF x l)
          ⟨⟨self.base.W, self.base.cnt, self.n, self.base.labels⟩, m⟩ Xs), ()) := by
  rw [dual_fit_spec K cfg E th lb rlb is_none reset vetoF mt eps hG self m Xs 1 verbose hr hmap, dualFitEpochs_one]

/-- **The inherited `predict`, executed on a DualVigilanceART, is the row-wise map of the generated
`DualVigilanceART.step_pred` and returns the estimator unchanged** (no hypothesis) -/
theorem dual_predict_spec (self : DualSelf Wt P α) (Xs : List X) :
    Art.Gen.DualFit.predict E self Xs = (self, Xs.map (fun x => (Art.Gen.DualVigilanceART.step_pred E self x).2)) := by
  unfold Art.Gen.DualFit.predict
  simp only [forEach_store (R := DualSelf Wt P α × List Nat)
    (fun y : List Nat => (self.base, self.map, self.n, self.rho_lower_bound, y))
    (fun x => (Art.Gen.DualVigilanceART.step_pred E self x).2) (Art.Gen.DualFit.predict_loop1_body E) Xs
    (fun _ _ _ _ => rfl)]

/-- on a consistent non-empty model the inherited `predict` answers what the model's `dualPredict` answers -/
theorem dual_predict_model (self : DualSelf Wt P α) (m : List Nat) (Xs : List X) (hmap : self.map = m.map some)
    (hchoice : ∀ x w, (E.category_choice self.base.W x w self.base.params).1 = K.choice self.base.W x w)
    (hi : DualInv (⟨⟨self.base.W, self.base.cnt, self.n, self.base.labels⟩, m⟩ : DualState Wt))
    (hne : self.base.W ≠ []) :
    dualPredict K ⟨⟨self.base.W, self.base.cnt, self.n, self.base.labels⟩, m⟩ Xs =
      (Art.Gen.DualFit.predict E self Xs).2.map some := by
  rw [dual_predict_spec]
  simp only [dualPredict, List.map_map]
  apply List.map_congr_left
  intro x _
  exact Dual.step_pred_spec_inv K E self m x hmap (hchoice x) hi hne

/-- **No whole training call changes a hyper-parameter** (C07 on the inherited calls): the base module's `params`,
its own (unused) sample counter and `rho_lower_bound` come back as they were, after any number of epochs -/
theorem dual_fit_restores (hG : DContract K cfg E th lb rlb is_none reset vetoF mt eps) (self : DualSelf Wt P α)
    (m : List Nat) (Xs : List X) (epochs : Nat) (v : Bool) (hr : self.rho_lower_bound = rlb) (hmap : self.map = m.map some)
    (hw : self.base.hasW = true → self.base.W ≠ [] → m.length = self.base.W.length) :
    (Art.Gen.DualFit.fit E self Xs is_none reset epochs mt eps v).1.base.params = self.base.params ∧
    (Art.Gen.DualFit.fit E self Xs is_none reset epochs mt eps v).1.rho_lower_bound = self.rho_lower_bound ∧
    (Art.Gen.DualFit.fit E self Xs is_none reset epochs mt eps v).1.base.n = self.base.n ∧
    (Art.Gen.DualFit.partial_fit E self Xs is_none reset mt eps).1.base.params = self.base.params ∧
    (Art.Gen.DualFit.partial_fit E self Xs is_none reset mt eps).1.rho_lower_bound = self.rho_lower_bound := by
  rw [dual_fit_spec K cfg E th lb rlb is_none reset vetoF mt eps hG self m Xs epochs v hr hmap,
    dual_partial_fit_spec K cfg E th lb rlb is_none reset vetoF mt eps hG self m Xs hr hmap hw]
  exact ⟨rfl, hr.symm, rfl, rfl, hr.symm⟩

/-- **Batching is irrelevant** (C06 on the generated code): two inherited `partial_fit` calls on a DualVigilanceART
are one call on the concatenated batch — weights, counters, map, labels. -/
theorem dual_partial_fit_append (hG : DContract K cfg E th lb rlb is_none reset vetoF mt eps) (self : DualSelf Wt P α)
    (m : List Nat) (Xs Ys : List X) (hr : self.rho_lower_bound = rlb) (hmap : self.map = m.map some)
    (hw : self.base.hasW = true → self.base.W ≠ [] → m.length = self.base.W.length) :
    Art.Gen.DualFit.partial_fit E (Art.Gen.DualFit.partial_fit E self Xs is_none reset mt eps).1 Ys is_none reset mt eps =
      Art.Gen.DualFit.partial_fit E self (Xs ++ Ys) is_none reset mt eps := by
  rw [dual_partial_fit_spec K cfg E th lb rlb is_none reset vetoF mt eps hG self m Xs hr hmap hw,
    dual_partial_fit_spec K cfg E th lb rlb is_none reset vetoF mt eps hG self m (Xs ++ Ys) hr hmap hw]
  simp only
  have hw0 : DWeak (if self.base.hasW = true then (⟨⟨self.base.W, self.base.cnt, self.n, self.base.labels⟩, m⟩ : DualState Wt)
      else ⟨⟨[], self.base.cnt, self.n, []⟩, m⟩) := by
    cases hh : self.base.hasW with
    | false => exact fun h => absurd rfl h
    | true => exact hw hh
  generalize (if self.base.hasW = true then (⟨⟨self.base.W, self.base.cnt, self.n, self.base.labels⟩, m⟩ : DualState Wt)
      else ⟨⟨[], self.base.cnt, self.n, []⟩, m⟩) = s0 at hw0 ⊢
  have happ : dualPartialFit K cfg (th self.base.params) lb (posOf 0) (fun _ x l => vetoF x l) s0 (Xs ++ Ys) =
      dualPartialFit K cfg (th self.base.params) lb (posOf 0) (fun _ x l => vetoF x l)
        (dualPartialFit K cfg (th self.base.params) lb (posOf 0) (fun _ x l => vetoF x l) s0 Xs) Ys := by
    exact List.foldl_append
  rw [happ]
  have hw1 := dualPartialFit_weak K cfg (th self.base.params) lb (posOf 0) (fun _ x l => vetoF x l) s0 Xs hw0
  generalize dualPartialFit K cfg (th self.base.params) lb (posOf 0) (fun _ x l => vetoF x l) s0 Xs = R at hw1 ⊢
  rw [dual_partial_fit_spec K cfg E th lb rlb is_none reset vetoF mt eps hG
    (dself { self.base with hasW := true } rlb R) R.map Ys rfl rfl (fun _ => hw1)]
  rfl

/-- the estimator as its constructor leaves it: the base module has no `W` yet, `map` is the empty dict -/
def dfresh (self : DualSelf Wt P α) : DualSelf Wt P α :=
  { base := { self.base with W := [], cnt := [], labels := [], hasW := false }, map := [], n := 0,
    rho_lower_bound := self.rho_lower_bound }

/-- **`fit` = `partial_fit` batches on a fresh estimator** (C06 on the generated code): one epoch of the inherited `fit`
on a used DualVigilanceART — whatever its weights, counters, labels and (stale) map — equals two `partial_fit` batches
on a freshly constructed one with the same hyper-parameters, for every split of a non-empty stream. -/
theorem dual_fit_eq_partial_fits (hG : DContract K cfg E th lb rlb is_none reset vetoF mt eps) (self : DualSelf Wt P α)
    (m : List Nat) (Xs Ys : List X) (v : Bool) (hr : self.rho_lower_bound = rlb) (hmap : self.map = m.map some)
    (hne : Xs ++ Ys ≠ []) :
    Art.Gen.DualFit.fit E self (Xs ++ Ys) is_none reset 1 mt eps v =
      Art.Gen.DualFit.partial_fit E (Art.Gen.DualFit.partial_fit E (dfresh self) Xs is_none reset mt eps).1 Ys
        is_none reset mt eps := by
  rw [dual_partial_fit_append K cfg E th lb rlb is_none reset vetoF mt eps hG (dfresh self) [] Xs Ys hr rfl
        (fun h => nomatch h),
    dual_partial_fit_spec K cfg E th lb rlb is_none reset vetoF mt eps hG (dfresh self) [] (Xs ++ Ys) hr rfl
        (fun h => nomatch h),
    dual_fit_one K cfg E th lb rlb is_none reset vetoF mt eps hG self m (Xs ++ Ys) v hr hmap]
  simp only [dfresh, Bool.false_eq_true, if_false]
  rw [dualFit_fresh K cfg (th self.base.params) lb (posOf 0) (fun _ x l => vetoF x l) _ {} (Xs ++ Ys) hne]
  rfl

/-- **A re-fit equals a fresh fit** (C06, on the generated code; cf. findings F05 / F34): one epoch of `fit` on
a non-empty stream gives the same estimator whatever the weights, counters (they live on the base module and are reset
through the wrapper's property), labels and map before — only the hyper-parameters matter. -/
theorem dual_refit_eq_fresh (hG : DContract K cfg E th lb rlb is_none reset vetoF mt eps) (self₁ self₂ : DualSelf Wt P α)
    (m₁ m₂ : List Nat) (Xs : List X) (v₁ v₂ : Bool) (hr₁ : self₁.rho_lower_bound = rlb) (hr₂ : self₂.rho_lower_bound = rlb)
    (hm₁ : self₁.map = m₁.map some) (hm₂ : self₂.map = m₂.map some) (hp : self₁.base.params = self₂.base.params)
    (hn : self₁.base.n = self₂.base.n) (hne : Xs ≠ []) :
    Art.Gen.DualFit.fit E self₁ Xs is_none reset 1 mt eps v₁ = Art.Gen.DualFit.fit E self₂ Xs is_none reset 1 mt eps v₂ := by
  rw [dual_fit_one K cfg E th lb rlb is_none reset vetoF mt eps hG self₁ m₁ Xs v₁ hr₁ hm₁,
    dual_fit_one K cfg E th lb rlb is_none reset vetoF mt eps hG self₂ m₂ Xs v₂ hr₂ hm₂,
    dualFit_fresh K cfg (th self₁.base.params) lb (posOf 0) (fun _ x l => vetoF x l)
      ⟨⟨self₁.base.W, self₁.base.cnt, self₁.n, self₁.base.labels⟩, m₁⟩
      ⟨⟨self₂.base.W, self₂.base.cnt, self₂.n, self₂.base.labels⟩, m₂⟩ Xs hne, hp]
  simp only [dself, hp, hn]

/-- what C13 / C05 say of a trained DualVigilanceART, read off the *generated* estimator `r`: the map is a total dict
with one entry per base category, its values are exactly `0 … n_clusters − 1` (the generated `n_clusters`), and every
entry of `labels_` is one of them -/
def DualConsistent (E : DualExt X Wt P C α) (r : DualSelf Wt P α) : Prop :=
  r.map.length = r.base.W.length ∧ (∀ e ∈ r.map, e.isSome) ∧
  (∀ v, some v ∈ r.map → v < (Art.Gen.DualVigilanceART.n_clusters E r).2) ∧
  (∀ j, j < (Art.Gen.DualVigilanceART.n_clusters E r).2 → some j ∈ r.map) ∧
  (∀ l ∈ r.base.labels, some l ∈ r.map ∧ l < (Art.Gen.DualVigilanceART.n_clusters E r).2)

theorem dualConsistent_of_inv (b0 : Self Wt P) (t : DualState Wt) (hi : DualInv t) :
    DualConsistent E (dself b0 rlb t) := by
  have hn : (Art.Gen.DualVigilanceART.n_clusters E (dself b0 rlb t)).2 = nClusters t.map :=
    congrArg Prod.snd (Dual.n_clusters_spec E (dself b0 rlb t) t.map rfl)
  have hr := nClusters_spec hi.contig
  have hmem : ∀ v, some v ∈ t.map.map some → v ∈ t.map := fun v hv => by
    obtain ⟨w, hw, hwv⟩ := List.mem_map.mp hv
    exact Option.some.inj hwv ▸ hw
  refine ⟨(List.length_map _).trans hi.total, fun e he => ?_, fun v hv => hn ▸ hr.1 v (hmem v hv),
    fun j hj => List.mem_map_of_mem (hr.2 j (hn ▸ hj)), fun l hl => ?_⟩
  · obtain ⟨_, _, rfl⟩ := List.mem_map.mp he
    rfl
  · exact ⟨List.mem_map_of_mem (hi.labels l hl), hn ▸ hr.1 l (hi.labels l hl)⟩

/-- **C13 / C05 on the generated `partial_fit`: after any batch on a consistent estimator the map is total with values
`0 … n_clusters − 1`, and every label is a cluster label below the generated `n_clusters`**
(`C13.dual_map_total`, `dual_map_range`, `dual_returns_cluster_label` transported); one label per sample is appended. -/
theorem dual_partial_fit_map_total (hG : DContract K cfg E th lb rlb is_none reset vetoF mt eps) (self : DualSelf Wt P α)
    (m : List Nat) (Xs : List X) (hr : self.rho_lower_bound = rlb) (hmap : self.map = m.map some)
    (hh : self.base.hasW = true)
    (hi : DualInv (⟨⟨self.base.W, self.base.cnt, self.n, self.base.labels⟩, m⟩ : DualState Wt)) :
    DualConsistent E (Art.Gen.DualFit.partial_fit E self Xs is_none reset mt eps).1 ∧
    (Art.Gen.DualFit.partial_fit E self Xs is_none reset mt eps).1.base.labels.length =
      self.base.labels.length + Xs.length := by
  rw [dual_partial_fit_spec K cfg E th lb rlb is_none reset vetoF mt eps hG self m Xs hr hmap (fun _ _ => hi.total)]
  simp only [hh, if_true]
  exact ⟨dualConsistent_of_inv E rlb _ _ (dualPartialFit_inv K cfg _ lb _ _ _ Xs hi),
    dualPartialFit_labels_length K cfg (th self.base.params) lb (posOf 0) _ _ Xs⟩

/-- **C13 / C05 on the generated `fit`: after one epoch on a non-empty stream — from ANY earlier state, stale map
included — the map is total with values `0 … n_clusters − 1`, every label is a cluster label, and there is exactly
one label per row** (`C13.dual_map_total_fit_partial`, `dual_map_range`, `dual_returns_cluster_label` transported). -/
theorem dual_fit_map_total (hG : DContract K cfg E th lb rlb is_none reset vetoF mt eps) (self : DualSelf Wt P α)
    (m : List Nat) (Xs : List X) (v : Bool) (hr : self.rho_lower_bound = rlb) (hmap : self.map = m.map some)
    (hne : Xs ≠ []) :
    DualConsistent E (Art.Gen.DualFit.fit E self Xs is_none reset 1 mt eps v).1 ∧
    (Art.Gen.DualFit.fit E self Xs is_none reset 1 mt eps v).1.base.labels.length = Xs.length := by
  rw [dual_fit_one K cfg E th lb rlb is_none reset vetoF mt eps hG self m Xs v hr hmap]
  refine ⟨dualConsistent_of_inv E rlb _ _ (dualFit_inv K cfg _ lb _ _ _ Xs hne), ?_⟩
  -- `fit` starts from no labels
  exact (dualPartialFit_labels_length K cfg (th self.base.params) lb (posOf 0) (fun _ x l => vetoF x l)
    (dualReset ⟨⟨self.base.W, self.base.cnt, self.n, self.base.labels⟩, m⟩) Xs).trans (Nat.zero_add _)

end Dual

/-! ### every wrapped module with a scalar, non-inverted vigilance — decision tables as GENERATED by ktrans -/

section DualScalar
variable {X Wt β : Type} [Field β] [LinearOrder β] [IsStrictOrderedRing β]

theorem dual_scalar_contract (K : Kernel X Wt β β) (inf lb eps : β) (mt : MT) (is_none : Bool) (vetoF : X → Nat → Bool)
    (hv : is_none = true → ∀ x l, vetoF x l = false) :
    DContract K (scalarCfg mt false (· + eps) (· - eps) inf) (Dual.scalarExt K inf) id lb lb is_none
      (fun x _ l _ _ => !vetoF x l) vetoF mt eps := by
  intro W m x p0
  -- `Dual.scalar_contract` is the contract at the one sample `x`, its reset function already specialised to `x`; here
  -- the reset function takes the sample, and `veto_some` is the only field that consults it
  exact { Dual.scalar_contract K W m inf p0 lb eps x mt is_none (vetoF x) (fun hn l => hv hn x l) with
    veto_some := fun _ _ _ _ _ _ => rfl }

/-- **the inherited `fit`, executed on a DualVigilanceART that wraps any elementary module with a scalar, non-inverted
vigilance — every decision table taken from the generated code — is the model's `dualFit`** -/
theorem dual_scalar_fit [Inhabited Wt] (K : Kernel X Wt β β) (inf eps : β) (mt : MT) (is_none : Bool)
    (vetoF : X → Nat → Bool) (hv : is_none = true → ∀ x l, vetoF x l = false) (self : DualSelf Wt β β) (m : List Nat)
    (Xs : List X) (v : Bool) (hmap : self.map = m.map some) :
    letI : Inhabited β := ⟨0⟩
    Art.Gen.DualFit.fit (Dual.scalarExt K inf) self Xs is_none (fun x _ l _ _ => !vetoF x l) 1 mt eps v =
      (dself { self.base with hasW := true } self.rho_lower_bound
        (dualFit K (scalarCfg mt false (· + eps) (· - eps) inf) self.base.params self.rho_lower_bound (posOf 0)
          (fun _ x l => vetoF x l) ⟨⟨self.base.W, self.base.cnt, self.n, self.base.labels⟩, m⟩ Xs), ()) := by
  let _ : Inhabited β := ⟨0⟩
  exact dual_fit_one K _ (Dual.scalarExt K inf) id self.rho_lower_bound self.rho_lower_bound is_none _ vetoF mt eps
    (dual_scalar_contract K inf self.rho_lower_bound eps mt is_none vetoF hv) self m Xs v rfl hmap

end DualScalar

/-! ## B. TopoART -/

section Topo
variable {X Wt P C α μ θ : Type} [LinearOrder α] [Inhabited Wt] [Inhabited C]

open Art.ImpWhole

/-- the model state of a generated TopoART estimator -/
def tstate (s : TopoSelf Wt P) : TopoState Wt :=
  { W := s.W, cnt := s.cnt, adj := s.adj, perm := s.perm, labels := s.labels, n := s.n }

/-- the estimator whose model-visible attributes are those of `t` (both `params` dicts, `phi`, `tau` stay; the base
module has a `W` afterwards) -/
def tself (s0 : TopoSelf Wt P) (t : TopoState Wt) : TopoSelf Wt P :=
  { W := t.W, cnt := t.cnt, adj := t.adj, perm := t.perm, labels := t.labels, n := t.n, params := s0.params,
    bparams := s0.bparams, phi := s0.phi, tau := s0.tau, hasW := true }

/-- the tuple of loop-carried variables when the model state is `t` -/
abbrev tpk (s0 : TopoSelf Wt P) (t : TopoState Wt) :
    List Wt × List Nat × List (List Nat) × List Bool × List Int × Nat × P × P × Nat × Nat × Bool :=
  (t.W, t.cnt, t.adj, t.perm, t.labels, t.n, s0.params, s0.bparams, s0.phi, s0.tau, true)

/-- the kernel contracts of TopoStepSpec (for `step_fit`, at every state and sample a training call can meet; the reset
function's answer is a function of the sample and the category) and of TopoSpec (for `step_pred` inside `prune`) -/
def TContract (K : TopoKernel X Wt α μ) (cfg : SearchCfg μ θ) (E : ImpTopoStep.Ext X Wt P C α) (th : P → θ)
    (Good : P → Prop) (own p0 : P) (is_none : Bool) (reset : X → Wt → Nat → P → C → Bool) (vetoF : X → Nat → Bool)
    (mt : MT) (eps : α) : Prop :=
  (∀ (W : List Wt) (x : X), TopoStep.Contract K cfg E th Good W x own p0 is_none reset (vetoF x) mt eps) ∧
  Topo.ChoiceContract K E.toTopoExt own

variable (K : TopoKernel X Wt α μ) (cfg : SearchCfg μ θ) (E : ImpTopoStep.Ext X Wt P C α) (th : P → θ)
  (Good : P → Prop) (own p0 : P) (is_none : Bool) (reset : X → Wt → Nat → P → C → Bool) (vetoF : X → Nat → Bool)
  (mt : MT) (eps : α)

section
variable {K cfg E th Good own p0 is_none reset vetoF mt eps}

/-- the call of the generated `TopoART.step_fit` (ttrans2) inside the inherited loops -/
theorem topo_step_lit (hT : TContract K cfg E th Good own p0 is_none reset vetoF mt eps) (t : TopoState Wt) (x : X) :
    Art.Gen.TopoARTStep.step_fit E t.W.length
        { W := t.W, cnt := t.cnt, adj := t.adj, perm := t.perm, labels := t.labels, n := t.n, params := own,
          bparams := p0 } x is_none reset mt eps =
      (let r := topoStep K cfg (th p0) (vetoF x) t x
       ({ W := r.1.W, cnt := r.1.cnt, adj := r.1.adj, perm := r.1.perm, labels := r.1.labels, n := r.1.n, params := own,
          bparams := p0 }, (r.2 : Int))) :=
  TopoStep.step_fit_spec K cfg E th Good
    { W := t.W, cnt := t.cnt, adj := t.adj, perm := t.perm, labels := t.labels, n := t.n, params := own, bparams := p0 }
    x is_none reset (vetoF x) mt eps (hT.1 t.W x)

/-- the call of the generated `TopoART.post_step_fit` (ttrans) inside the inherited `fit` loop: once a sample has been
counted, the pruning round runs exactly when the model's `topoFitStep` prunes -/
theorem topo_post_lit (hch : Topo.ChoiceContract K E.toTopoExt own) (t : TopoState Wt) (hs : ShapeInv t) (hn : 0 < t.n)
    (phi tau : Nat) (Xs : List X) :
    Art.Gen.TopoART.post_step_fit E.toTopoExt
        { W := t.W, cnt := t.cnt, adj := t.adj, perm := t.perm, labels := t.labels, n := t.n, params := own, phi := phi,
          tau := tau } Xs =
      (let t' := if t.n % tau == 0 then prune K phi t Xs else t
       ({ W := t'.W, cnt := t'.cnt, adj := t'.adj, perm := t'.perm, labels := t'.labels, n := t'.n, params := own,
          phi := phi, tau := tau }, ())) := by
  have hst : Topo.toState (⟨t.W, t.cnt, t.adj, t.perm, t.labels, t.n, own, phi, tau⟩ : ImpTopo.Self Wt P) = t := rfl
  rw [Topo.post_step_fit_spec]
  by_cases h : t.n % tau = 0
  · rw [if_pos ⟨hn, h⟩, if_pos (beq_iff_eq.mpr h),
      Topo.prune_spec K _ _ Xs hch (by rw [hst]; exact Topo.AdjCovers.of_shape hs), hst]
    rfl
  · rw [if_neg fun h' => h h'.2, if_neg (mt beq_iff_eq.mp h)]

/-- one iteration of the inner `fit` loop on a TopoART: `pre_step_fit` (nothing), the generated `step_fit`,
`labels_[i] = c`, the generated `post_step_fit` — the model's `topoFitStep` -/
theorem topo_fit_body (hT : TContract K cfg E th Good own p0 is_none reset vetoF mt eps) (s0 : TopoSelf Wt P)
    (hown : s0.params = own) (hp0 : s0.bparams = p0) (Xs : List X) (t : TopoState Wt) (hw : WeakInv t) (xi : X × Nat) :
    Art.Gen.TopoFit.fit_loop1_body E Xs mt eps is_none reset (tpk s0 t) xi =
      .next (tpk s0 (topoFitStep K cfg (th p0) (fun _ x c => vetoF x c) s0.tau s0.phi Xs t xi)) := by
  obtain ⟨x, i⟩ := xi
  subst hown hp0
  have hpre := fun (s : ImpTopo.Self Wt P) => (Topo.hooks_spec E.toTopoExt s Xs).1
  have e2 := topo_step_lit hT t x
  have hsh : ShapeInv (topoStep K cfg (th s0.bparams) (vetoF x) t x).1 :=
    topoStep_shape K cfg (th s0.bparams) (vetoF x) t x hw
  have hn1 := topoStep_n K cfg (th s0.bparams) (vetoF x) t x
  have e3 := topo_post_lit hT.2
    { (topoStep K cfg (th s0.bparams) (vetoF x) t x).1 with
      labels := (topoStep K cfg (th s0.bparams) (vetoF x) t x).1.labels.set i ((topoStep K cfg (th s0.bparams) (vetoF x) t x).2 : Int) }
    (hsh.congr rfl rfl rfl rfl) (by simp only [hn1]; omega) s0.phi s0.tau Xs
  simp only at e2 e3
  unfold Art.Gen.TopoFit.fit_loop1_body
  simp only [TopoSelf.toTopo, TopoSelf.ofTopo, TopoSelf.toStep, TopoSelf.ofStep, hpre, e2, e3, topoFitStep]

/-- one iteration of the `partial_fit` loop on a TopoART: the generated `step_fit`, `labels_[i + j] = c` — and no
hook: the model's `topoPFitStep` (no pruning, finding F11) -/
theorem topo_pfit_body (hT : TContract K cfg E th Good own p0 is_none reset vetoF mt eps) (s0 : TopoSelf Wt P)
    (hown : s0.params = own) (hp0 : s0.bparams = p0) (j : Nat) (t : TopoState Wt) (x : X) (i : Nat) :
    Art.Gen.TopoFit.partial_fit_loop1_body E mt eps j is_none reset (tpk s0 t) (x, i) =
      .next (tpk s0 (topoPFitStep K cfg (th p0) (fun _ x c => vetoF x c) t (x, i + j))) := by
  subst hown hp0
  have e2 := topo_step_lit hT t x
  simp only at e2
  unfold Art.Gen.TopoFit.partial_fit_loop1_body
  simp only [TopoSelf.toStep, TopoSelf.ofStep, e2, topoPFitStep]

/-- the `partial_fit` loop on a TopoART, started with `labels_` padded for the batch and writing at the offset of
the padding, is the model's `topoPartialFit` -/
theorem topo_pfit_loop (hT : TContract K cfg E th Good own p0 is_none reset vetoF mt eps) (s0 : TopoSelf Wt P)
    (hown : s0.params = own) (hp0 : s0.bparams = p0) (xs : List X) (s : TopoState Wt) :
    forEach (Art.Gen.TopoFit.partial_fit_loop1_body E mt eps s.labels.length is_none reset) xs.zipIdx
        (tpk s0 (topoPFitInit s xs.length)) =
      .next (tpk s0 (topoPartialFit K cfg (th p0) (fun _ x c => vetoF x c) s xs)) := by
  have := forEach_zipIdx_offset (R := TopoSelf Wt P × Unit) (tpk s0) (fun _ => True)
    (topoPFitStep K cfg (th p0) (fun _ x c => vetoF x c)) _ s.labels.length
    (fun t x i _ => ⟨topo_pfit_body hT s0 hown hp0 _ t x i,
      trivial⟩) xs 0 (topoPFitInit s xs.length) trivial
  rwa [Nat.zero_add] at this

end

/-- `fit(X, max_iter = k)` on a TopoART: what `BaseART.fit` resets (`topoFitInit`: `W`, the counters, `labels_`, the
sample counter — not `adjacency` / `_permanent_mask`), then `k` passes over the rows, each sample followed by the
pruning hook -/
def topoFitEpochs (th0 : θ) (tau phi k : Nat) (s : TopoState Wt) (xs : List X) : TopoState Wt :=
  (List.range k).foldl (fun t _ => xs.zipIdx.foldl (topoFitStep K cfg th0 (fun _ x c => vetoF x c) tau phi xs) t)
    (topoFitInit s xs.length)

/-- **one epoch is the model's `topoFit`** -/
theorem topoFitEpochs_one (th0 : θ) (tau phi : Nat) (s : TopoState Wt) (xs : List X) :
    topoFitEpochs K cfg vetoF th0 tau phi 1 s xs = topoFit K cfg th0 (fun _ x c => vetoF x c) tau phi s xs := by
  simp [topoFitEpochs, topoFit]

/-- **The inherited `fit(X, max_iter = k)`, executed on a TopoART, is `topoFitEpochs`** — for every number of epochs,
with or without progress bar, from ANY estimator state: `W` (on the base module, through the property), the counters,
the sample counter and `labels_` are reset, adjacency and mask are left to the first sample; every sample is one
generated `step_fit`, its label is stored at the row index, and the generated `post_step_fit` prunes every `tau`
samples, re-indexing `labels_` of ALL rows; `pre_step_fit` / `post_fit` do nothing; both `params` dicts, `phi`, `tau`
come back untouched. -/
theorem topo_fit_spec (hT : TContract K cfg E th Good own p0 is_none reset vetoF mt eps) (self : TopoSelf Wt P)
    (hown : self.params = own) (hp0 : self.bparams = p0) (Xs : List X) (epochs : Nat) (verbose : Bool) :
    Art.Gen.TopoFit.fit E self Xs is_none reset epochs mt eps verbose =
      (tself self (topoFitEpochs K cfg vetoF (th p0) self.tau self.phi epochs (tstate self) Xs), ()) := by
  have hloop := forEach_epochs (R := TopoSelf Wt P × Unit) (tpk self) WeakInv
    (topoFitStep K cfg (th p0) (fun _ x c => vetoF x c) self.tau self.phi Xs)
    (Art.Gen.TopoFit.fit_loop1_body E Xs mt eps is_none reset)
    (Art.Gen.TopoFit.fit_loop2_body E Xs mt eps verbose is_none reset) Xs.zipIdx
    (fun t a ht => ⟨topo_fit_body hT self hown hp0 Xs t ht a,
      (topoFitStep_shape K cfg (th p0) _ self.tau self.phi Xs t a ht).weak⟩)
    (fun t t' e h => by
      unfold Art.Gen.TopoFit.fit_loop2_body
      cases verbose <;> simp only [h, if_true, Bool.false_eq_true, if_false])
    (List.range epochs) (topoFitInit (tstate self) Xs.length) (weakInv_fitInit _ _)
  have hpost := fun (s : ImpTopo.Self Wt P) => (Topo.hooks_spec E.toTopoExt s Xs).2
  unfold Art.Gen.TopoFit.fit topoFitEpochs
  simp only [topoFitInit, tstate] at hloop
  simp only [hloop, hpost, TopoSelf.toTopo, TopoSelf.ofTopo]
  rfl

/-- **`fit` with the default `max_iter = 1` is the model's `topoFit`** (the object of the C14 theorems) -/
theorem topo_fit_one (hT : TContract K cfg E th Good own p0 is_none reset vetoF mt eps) (self : TopoSelf Wt P)
    (hown : self.params = own) (hp0 : self.bparams = p0) (Xs : List X) (verbose : Bool) :
    Art.Gen.TopoFit.fit E self Xs is_none reset 1 mt eps verbose =
      (tself self (topoFit K cfg (th p0) (fun _ x c => vetoF x c) self.tau self.phi (tstate self) Xs), ()) := by
  rw [topo_fit_spec K cfg E th Good own p0 is_none reset vetoF mt eps hT self hown hp0 Xs 1 verbose, topoFitEpochs_one]

/-- **The inherited `partial_fit`, executed on a TopoART, is the model's `topoPartialFit`** — what the code does, not
what C06 wishes (finding F11): every sample is one generated `step_fit` and its label is appended after the labels of
the earlier calls, but `BaseART.partial_fit` calls no hook, so `post_step_fit` → `prune` NEVER runs: no category is
ever removed or made permanent by incremental training, and the result differs from `fit` on the same rows
(`topo_partial_fit_never_prunes`).  No hypothesis on the estimator state; on a freshly constructed estimator
(`hasattr(self, "W")` false) the call starts from no categories and no labels. -/
theorem topo_partial_fit_spec (hT : TContract K cfg E th Good own p0 is_none reset vetoF mt eps) (self : TopoSelf Wt P)
    (hown : self.params = own) (hp0 : self.bparams = p0) (Xs : List X) :
    Art.Gen.TopoFit.partial_fit E self Xs is_none reset mt eps =
      (tself self (topoPartialFit K cfg (th p0) (fun _ x c => vetoF x c)
        (if self.hasW then tstate self else { tstate self with W := [], labels := [] }) Xs), ()) := by
  obtain ⟨W, cnt, adj, perm, labels, n, params, bparams, phi, tau, hasW⟩ := self
  unfold Art.Gen.TopoFit.partial_fit
  cases hasW with
  | false =>
    have hl := topo_pfit_loop hT
      ⟨W, cnt, adj, perm, labels, n, params, bparams, phi, tau, false⟩ hown hp0 Xs
      { tstate ⟨W, cnt, adj, perm, labels, n, params, bparams, phi, tau, false⟩ with W := [], labels := [] }
    simp only [topoPFitInit, tstate, List.nil_append, List.length_nil] at hl
    simp only [Bool.not_false, if_true, Bool.false_eq_true, if_false, hl]
    rfl
  | true =>
    have hl := topo_pfit_loop hT
      ⟨W, cnt, adj, perm, labels, n, params, bparams, phi, tau, true⟩ hown hp0 Xs
      (tstate ⟨W, cnt, adj, perm, labels, n, params, bparams, phi, tau, true⟩)
    simp only [topoPFitInit, tstate] at hl
    simp only [Bool.not_true, Bool.false_eq_true, if_false, if_true, hl]
    rfl

/-- **The inherited `predict`, executed on a TopoART, is the row-wise map of the model's `topoPredLabel`** (the
generated `TopoART.step_pred`: `-1` on a model emptied by pruning) and returns the estimator unchanged -/
theorem topo_predict_spec (self : TopoSelf Wt P) (hch : Topo.ChoiceContract K E.toTopoExt self.params) (Xs : List X) :
    Art.Gen.TopoFit.predict E self Xs = (self, Xs.map (topoPredLabel K self.W)) := by
  obtain ⟨W, cnt, adj, perm, labels, n, params, bparams, phi, tau, hasW⟩ := self
  have hsp := fun x => Topo.step_pred_spec K E.toTopoExt ⟨W, cnt, adj, perm, labels, n, params, phi, tau⟩ x hch
  unfold Art.Gen.TopoFit.predict
  simp only [forEach_store (R := TopoSelf Wt P × List Int)
    (fun y : List Int => (W, cnt, adj, perm, labels, n, params, bparams, phi, tau, hasW, y))
    (topoPredLabel K W) (Art.Gen.TopoFit.predict_loop1_body E) Xs
    (fun y x _ i => by
      unfold Art.Gen.TopoFit.predict_loop1_body
      simp only [TopoSelf.toTopo, TopoSelf.ofTopo, hsp])]

/-- the inherited `predict` answers what the model's `topoPredict` answers, for every model (empty ones included) -/
theorem topo_predict_model (self : TopoSelf Wt P) (hch : Topo.ChoiceContract K E.toTopoExt self.params) (Xs : List X) :
    topoPredict K self.W Xs = (Art.Gen.TopoFit.predict E self Xs).2.map some := by
  rw [topo_predict_spec K E self hch]
  simp only [topoPredict, List.map_map]
  apply List.map_congr_left
  intro x _
  simp only [Function.comp, topoPredLabel]
  cases hW : self.W with
  | nil => simp [topoActivations, Topo.argmaxNp_nil]
  | cons w ws =>
    obtain ⟨c, hc⟩ := argmaxNp_isSome (T := topoActivations K (w :: ws) x) (by simp [topoActivations])
    simp [hc]

/-! ### C14 on the generated `fit` -/

/-- **the shape invariant after a whole generated `fit` with pruning** (`topoFit_shape` transported): on at least one
row, from ANY earlier state, the adjacency matrix is square with one row and column per surviving category, counters and
mask have one entry per category, the diagonal is zero -/
theorem topo_fit_shape (hT : TContract K cfg E th Good own p0 is_none reset vetoF mt eps) (self : TopoSelf Wt P)
    (hown : self.params = own) (hp0 : self.bparams = p0) (Xs : List X) (verbose : Bool) (hne : Xs ≠ []) :
    ShapeInv (tstate (Art.Gen.TopoFit.fit E self Xs is_none reset 1 mt eps verbose).1) := by
  rw [topo_fit_one K cfg E th Good own p0 is_none reset vetoF mt eps hT self hown hp0 Xs verbose]
  exact (topoFit_shape K cfg (th p0) _ self.tau self.phi (tstate self) Xs).1 hne

/-- **label validity after a whole generated `fit` with pruning** (`C14.topo_fit_labels_length`, `topoFit_labels`
transported): exactly one label per row, and every label is `-1` or the index of a category that exists at the end —
whatever pruning rounds re-indexed in between -/
theorem topo_fit_labels (hT : TContract K cfg E th Good own p0 is_none reset vetoF mt eps) (self : TopoSelf Wt P)
    (hown : self.params = own) (hp0 : self.bparams = p0) (Xs : List X) (verbose : Bool) :
    (Art.Gen.TopoFit.fit E self Xs is_none reset 1 mt eps verbose).1.labels.length = Xs.length ∧
    ∀ l ∈ (Art.Gen.TopoFit.fit E self Xs is_none reset 1 mt eps verbose).1.labels,
      l = -1 ∨ (0 ≤ l ∧ l < ((Art.Gen.TopoFit.fit E self Xs is_none reset 1 mt eps verbose).1.W.length : Int)) := by
  rw [topo_fit_one K cfg E th Good own p0 is_none reset vetoF mt eps hT self hown hp0 Xs verbose]
  obtain ⟨h1, h2⟩ := topoFit_labels K cfg (th p0) (fun _ x c => vetoF x c) self.tau self.phi (tstate self) Xs
  refine ⟨h1, ?_⟩
  intro l hl
  obtain ⟨i, hi⟩ := List.getElem?_of_mem hl
  exact h2 i l (Nat.lt_of_lt_of_eq (List.getElem?_eq_some_iff.mp hi).1 h1) hi

end Topo

/-! ### every wrapped module with a scalar, non-inverted vigilance and a `beta`-indexed update rule — decision tables as
GENERATED by ktrans -/

section TopoScalar
variable {X Wt β : Type} [Field β] [LinearOrder β] [IsStrictOrderedRing β]

theorem topo_scalar_contract (K : Kernel X Wt β β) (upd : β → X → Wt → Wt) (inf bl beta rho eps : β) (own : β × β)
    (mt : MT) (is_none : Bool) (vetoF : X → Nat → Bool) (hv : is_none = true → ∀ x c, vetoF x c = false) :
    TContract (TopoStep.scalarKernel K upd beta bl) (scalarCfg mt false (· + eps) (· - eps) inf)
      (TopoStep.scalarExt K upd inf bl) Prod.fst (fun p => p.2 = beta) own (rho, beta) is_none
      (fun x _ c _ _ => !vetoF x c) vetoF mt eps := by
  -- as in `dual_scalar_contract`: only `veto_some` consults the reset function, which here takes the sample
  exact ⟨fun W x =>
    { TopoStep.scalar_contract K upd W inf bl beta rho eps own x mt is_none (vetoF x) (fun hn c => hv hn x c) with
      veto_some := fun _ _ _ _ _ _ => rfl }, fun _ _ _ => rfl⟩

/-- **the inherited `fit`, executed on a TopoART that wraps any elementary module with a scalar, non-inverted vigilance
— every decision table taken from the generated code — is the model's `topoFit`** (pruning included) -/
theorem topo_scalar_fit [Inhabited Wt] (K : Kernel X Wt β β) (upd : β → X → Wt → Wt) (inf bl beta eps : β) (mt : MT)
    (is_none : Bool) (vetoF : X → Nat → Bool) (hv : is_none = true → ∀ x c, vetoF x c = false)
    (self : Art.ImpWhole.TopoSelf Wt (β × β)) (hbeta : self.bparams.2 = beta) (Xs : List X) (v : Bool) :
    letI : Inhabited β := ⟨0⟩
    Art.Gen.TopoFit.fit (TopoStep.scalarExt K upd inf bl) self Xs is_none (fun x _ c _ _ => !vetoF x c) 1 mt eps v =
      (tself self (topoFit (TopoStep.scalarKernel K upd beta bl) (scalarCfg mt false (· + eps) (· - eps) inf)
          self.bparams.1 (fun _ x c => vetoF x c) self.tau self.phi (tstate self) Xs), ()) := by
  let _ : Inhabited β := ⟨0⟩
  have hp : self.bparams = (self.bparams.1, beta) := by rw [← hbeta]
  exact topo_fit_one _ _ (TopoStep.scalarExt K upd inf bl) Prod.fst _ self.params (self.bparams.1, beta) is_none _ vetoF mt eps
    (topo_scalar_contract K upd inf bl beta self.bparams.1 eps self.params mt is_none vetoF hv) self rfl hp Xs v

end TopoScalar

/-! ## C. Non-vacuity: the generated whole calls run on concrete data -/

section Examples

/-! DualVigilanceART over Fuzzy ART on ℚ (`rho = 7/8`, `rho_lower_bound = 5/8`), the stream of `C13.fzX1` -/

private def dE : DualExt (List ℚ) (List ℚ) ℚ ℚ ℚ := Dual.scalarExt C13.fzK1 1000

/-- a freshly constructed estimator: the base module has no `W`, `map` is the empty dict -/
private def dInit : DualSelf (List ℚ) ℚ ℚ :=
  { base := { W := [], cnt := [], n := 0, params := 7/8, labels := [], hasW := false }, map := [], n := 0,
    rho_lower_bound := 5/8 }

private def noReset : List ℚ → List ℚ → Nat → ℚ → ℚ → Bool := fun _ _ _ _ _ => true

/-- the inherited `fit` (one epoch, no reset function): labels `[0, 0, 1, 0]`, `map = {0: 0, 1: 0, 2: 1}`, the counters
on the base module `[2, 1, 1]`, `sample_counter_ = 4`, `rho` back at 7/8; `predict` maps the winners through `map` -/
example :
    letI : Inhabited ℚ := ⟨0⟩
    let r := (Art.Gen.DualFit.fit dE dInit C13.fzX1 true noReset 1 MT.plus 0 false).1
    r.base.labels = [0, 0, 1, 0] ∧ r.map = [some 0, some 0, some 1] ∧ r.base.cnt = [2, 1, 1] ∧ r.n = 4 ∧
      r.base.params = 7/8 ∧ r.base.hasW = true ∧
      (Art.Gen.DualFit.predict dE r [[1, 0], [1/4, 3/4], [1/2, 1/2]]).2 = [1, 0, 0] := by
  decide +kernel

/-- a partition into `partial_fit` batches gives the same estimator as one `fit`; a re-fit of the trained estimator
(two epochs, progress bar on) starts from scratch: the counters are those of two passes, not three -/
example :
    letI : Inhabited ℚ := ⟨0⟩
    let r := (Art.Gen.DualFit.fit dE dInit C13.fzX1 true noReset 1 MT.plus 0 false).1
    let p := (Art.Gen.DualFit.partial_fit dE
      (Art.Gen.DualFit.partial_fit dE dInit (C13.fzX1.take 1) true noReset MT.plus 0).1 (C13.fzX1.drop 1) true noReset MT.plus 0).1
    let r2 := (Art.Gen.DualFit.fit dE r C13.fzX1 true noReset 2 MT.plus 0 true).1
    p.base.labels = r.base.labels ∧ p.map = r.map ∧ p.base.cnt = r.base.cnt ∧ p.base.W = r.base.W ∧ p.n = r.n ∧
      r2.base.cnt = [4, 2, 2] ∧ r2.n = 8 ∧ r2.base.labels = [0, 0, 1, 0] ∧ r2.map = [some 0, some 0, some 1] := by
  decide +kernel

/-- a reset function that refuses cluster 0 (MT+, `epsilon = 1/1000`) on a re-fit: four categories, clusters 0, 1, 2, 1 -/
example :
    letI : Inhabited ℚ := ⟨0⟩
    let r := (Art.Gen.DualFit.fit dE dInit C13.fzX1 true noReset 1 MT.plus 0 false).1
    let r4 := (Art.Gen.DualFit.fit dE r C13.fzX1 false (fun _ _ l _ _ => !(l == 0)) 1 MT.plus (1/1000) false).1
    r4.base.labels = [0, 1, 2, 1] ∧ r4.map = [some 0, some 1, some 2, some 1] ∧ r4.base.cnt = [1, 1, 1, 1] ∧
      r4.base.params = 7/8 := by
  decide +kernel

/-- and the contract holds there (so `dual_scalar_fit` / `dual_fit_spec` apply) -/
example : DContract C13.fzK1 (scalarCfg MT.plus false (· + 1/1000) (· - 1/1000) 1000) dE id (5/8) (5/8) false
    (fun _ _ l _ _ => !(l == 0)) (fun _ l => l == 0) MT.plus (1/1000) :=
  dual_scalar_contract _ _ _ _ _ _ _ (by simp)

/-! TopoART over a 1-d module on ℚ (activation and match value `−|x − w|`, update `w + beta·(x − w)`, `beta = 1`,
`beta_lower = 1/2`, vigilance "distance ≤ 2"), `tau = 2`, `phi = 2`, the stream of `C14.exXs` -/

private def tK : Kernel ℚ ℚ ℚ ℚ :=
  { choice := fun _ x w => some (if x ≤ w then x - w else w - x)
    matchv := fun x w => if x ≤ w then x - w else w - x
    update := fun x _ => x
    newW := fun x => x }

private def tUpd (b x w : ℚ) : ℚ := w + b * (x - w)

private def tE : ImpTopoStep.Ext ℚ ℚ (ℚ × ℚ) (ℚ × Option Int × Option Int) ℚ := TopoStep.scalarExt tK tUpd 1000 (1/2)

private def tInit : Art.ImpWhole.TopoSelf ℚ (ℚ × ℚ) :=
  { W := [], cnt := [], adj := [], perm := [], labels := [], n := 0, params := (-2, 1), bparams := (-2, 1), phi := 2,
    tau := 2, hasW := false }

private def tNoReset : ℚ → ℚ → Nat → ℚ × ℚ → ℚ × Option Int × Option Int → Bool := fun _ _ _ _ _ => true

private def tXs : List ℚ := [0, 10, 20, 20, 23, 21, 50, 21]

/-- the inherited `fit` with four pruning rounds (round 1 empties the model and labels every row `-1`; round 4 removes
the category created by 50 and re-predicts its row): two permanent categories, the edge (0, 1) counted twice, one label
per row, all valid; `predict` on the result, and on a model emptied by pruning (`-1` for every row) -/
example :
    letI : Inhabited ℚ := ⟨0⟩
    let r := (Art.Gen.TopoFit.fit tE tInit tXs true tNoReset 1 MT.plus 0 false).1
    r.W = [21, 43/2] ∧ r.cnt = [4, 3] ∧ r.adj = [[0, 2], [0, 0]] ∧ r.perm = [true, true] ∧
      r.labels = [0, 0, 0, 0, 1, 0, 1, 0] ∧ r.n = 8 ∧ r.bparams = (-2, 1) ∧ r.hasW = true ∧
      (Art.Gen.TopoFit.predict tE r [0, 22, 100]).2 = [0, 1, 1] := by
  decide +kernel

/-- **F11 on the generated code: the inherited `partial_fit` never prunes.**  After 4 = 2·tau samples of incremental
training four categories with count 1 < phi = 2 are still there and none is permanent, whereas the inherited `fit` on
the same rows has removed every category and labelled every row `-1` (`C14.topo_schedule_partial_fit_counterexample`
for the generated code); `predict` on the emptied model answers `-1`. -/
theorem topo_partial_fit_never_prunes :
    letI : Inhabited ℚ := ⟨0⟩
    let p := (Art.Gen.TopoFit.partial_fit tE tInit [0, 10, 20, 30] true tNoReset MT.plus 0).1
    let f := (Art.Gen.TopoFit.fit tE tInit [0, 10, 20, 30] true tNoReset 1 MT.plus 0 false).1
    p.W = [0, 10, 20, 30] ∧ p.cnt = [1, 1, 1, 1] ∧ p.perm = [false, false, false, false] ∧ p.labels = [0, 1, 2, 3] ∧
      p.n = 4 ∧ f.W = [] ∧ f.labels = [-1, -1, -1, -1] ∧ f.n = 4 ∧
      (Art.Gen.TopoFit.predict tE f [0, 22, 100]).2 = [-1, -1, -1] := by
  decide +kernel

/-- `partial_fit` after `fit` appends its labels after those of the fit and keeps counting samples (no pruning at
n = 10); a re-fit with two epochs starts from scratch and prunes eight times -/
example :
    letI : Inhabited ℚ := ⟨0⟩
    let r := (Art.Gen.TopoFit.fit tE tInit tXs true tNoReset 1 MT.plus 0 false).1
    let q := (Art.Gen.TopoFit.partial_fit tE r [21, 60] true tNoReset MT.plus 0).1
    let r2 := (Art.Gen.TopoFit.fit tE r tXs true tNoReset 2 MT.plus 0 true).1
    q.W = [21, 85/4, 60] ∧ q.cnt = [5, 4, 1] ∧ q.adj = [[0, 3, 0], [0, 0, 0], [0, 0, 0]] ∧ q.perm = [true, true, false] ∧
      q.labels = [0, 0, 0, 0, 1, 0, 1, 0, 0, 2] ∧ q.n = 10 ∧
      r2.W = [83/4, 21] ∧ r2.cnt = [8, 7] ∧ r2.adj = [[0, 4], [2, 0]] ∧ r2.labels = [0, 0, 0, 0, 1, 1, 1, 1] ∧ r2.n = 16 := by
  decide +kernel

/-- and the contract holds there (so `topo_scalar_fit` / `topo_fit_spec` apply) -/
example : TContract (TopoStep.scalarKernel tK tUpd 1 (1/2)) (scalarCfg MT.plus false (· + 0) (· - 0) 1000) tE Prod.fst
    (fun p => p.2 = 1) (-2, 1) (-2, 1) true (fun _ _ _ _ _ => !false) (fun _ _ => false) MT.plus 0 :=
  topo_scalar_contract _ _ _ _ _ _ _ _ _ _ _ (by simp)

end Examples

end Art.GenSpec.Whole
