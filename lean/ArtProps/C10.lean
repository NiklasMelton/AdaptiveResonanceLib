/-
C10 — Fusion ART is the channel-wise conjunction of its modules.

Model: `ArtModel/Fusion.lean` (`fusionKernel`, `fusionCfg` on top of the generic
`Kernel` / `search` / `stepFit`).  A channel is `(K, width, gamma, wlen)`;
`slice (widths chans) k x` is the Python slice `x[_channel_indices[k][0] : _channel_indices[k][1]]`
of a sample, `slice (wlens chans) k w` the slice `w[_weight_indices[k][0] : _weight_indices[k][1]]`
of a fused weight (`wlen` = the length of the module's own weight vector, which may exceed
the channel width: HypersphereART d+1, EllipsoidART 2d+1, ART1 2d, …).

What is proved, for every number type that is a linearly ordered field (ℚ as executed, ℝ),
every number of channels, all widths and weight lengths, all gammas, every stream, every
batching (`partialFit_flatten`), every match-tracking mode / epsilon / reset function:
  * activation = left-to-right sum of `a_k * gamma_k`, resonance = every channel's own test,
    tracking = every channel tracks;
  * learning is channel-wise and every channel stores, category by category, its own rule
    folded over the channel slices of the category's members — for modules of **any**
    weight length (`Chan.LenOK`: the module's weight vectors have the constant length `wlen`,
    true of every artlib module);
  * the training loop as the code runs it — on the list of module states (`modsRun`) — yields
    exactly the projections of the fused run; hence all channels hold the same number of
    categories and `W` is the concatenation of the module weights;
  * one channel with gamma = 1 = the bare module, state for state;
  * swapping two neighbouring channels (with gammas, widths, vigilances, data columns)
    leaves labels and counters unchanged and permutes the weights.

The fused weight is cut with the modules' own weight lengths (`wlens`).  Until /repo 9bccfb4 the code cut it
with the *data* ranges, so a module with `wlen > width` was stored truncated (finding F07); the model follows the
repaired code, and `fusion_long_weight_example` is a module of that kind.
-/
import ArtProofs.Fusion
import ArtProofs.Kernels

namespace Art.C10
open Art Art.Fusion

set_option linter.unusedSectionVars false

section Core
variable {α : Type} [Field α] [LinearOrder α] [IsStrictOrderedRing α]

/-- **Activation.**  `category_choice` is Python's `sum` of `a_k * gamma_k` over the
channels, left to right from `0` (and NaN as soon as one channel activation is NaN). -/
theorem fusion_choice_def (chans : List (Chan α)) (W : List (List α)) (x w : List α) :
    (fusionKernel chans).choice W x w =
      osum (chans.zipIdx.map (fun ck =>
        (ck.1.K.choice (W.map (slice (wlens chans) ck.2)) (slice (widths chans) ck.2 x)
          (slice (wlens chans) ck.2 w)).map (· * ck.1.gamma))) := by
  show osum (chanTerms chans noSkip W x w) = _
  unfold chanTerms
  congr 1

/-- … hence, when every channel activation `T k` is a number, the gamma-weighted sum `Σ_k T_k γ_k`. -/
theorem fusion_choice_sum (chans : List (Chan α)) (W : List (List α)) (x w : List α) (T : Nat → α)
    (hT : ∀ k c, chans[k]? = some c →
      c.K.choice (W.map (slice (wlens chans) k)) (slice (widths chans) k x) (slice (wlens chans) k w) =
        some (T k)) :
    (fusionKernel chans).choice W x w = some ((chans.zipIdx.map (fun ck => T ck.2 * ck.1.gamma)).sum) := by
  have hterms : chans.zipIdx.map (fun ck =>
        (ck.1.K.choice (W.map (slice (wlens chans) ck.2)) (slice (widths chans) ck.2 x)
          (slice (wlens chans) ck.2 w)).map (· * ck.1.gamma)) =
      (chans.zipIdx.map (fun ck => T ck.2 * ck.1.gamma)).map some := by
    rw [List.map_map]
    refine List.map_congr_left fun ck hck => ?_
    rw [hT ck.2 ck.1 (List.mk_mem_zipIdx_iff_getElem?.1 hck)]
    rfl
  rw [fusion_choice_def, hterms, osum, foldl_oadd_some, zero_add]

/-- **Resonance.**  The fused vigilance test passes iff every channel's own test passes
(`th` = the channels' `rho`, one per channel). -/
theorem fusion_match_all (chans : List (Chan α)) (mode : MT) (adjP adjM : α → α) (top : α)
    (th : List α) (x w : List α) :
    (fusionCfg mode adjP adjM top).passes th ((fusionKernel chans).matchv x w) = true ↔
      ∀ (k : Nat) (c : Chan α) (rho : α), chans[k]? = some c → th[k]? = some rho →
        passesScalar mode false rho
          (c.K.matchv (slice (widths chans) k x) (slice (wlens chans) k w)) = true := by
  show (List.zip th (matchVec chans x w)).all _ = true ↔ _
  have hmv : ∀ k v, (matchVec chans x w)[k]? = some v ↔
      ∃ c : Chan α, chans[k]? = some c ∧ c.K.matchv (slice (widths chans) k x) (slice (wlens chans) k w) = v := by
    intro k v
    rw [matchVec, zipIdx_map_getElem?, Option.map_eq_some_iff]
  rw [List.all_eq_true]
  constructor
  · intro h k c rho hc hr
    exact h (rho, _) (List.mem_of_getElem? (List.getElem?_zip_eq_some.2 ⟨hr, (hmv k _).2 ⟨c, hc, rfl⟩⟩))
  · intro h tv htv
    obtain ⟨k, hk⟩ := List.getElem?_of_mem htv
    obtain ⟨h1, h2⟩ := List.getElem?_zip_eq_some.1 hk
    obtain ⟨c, hc, hv⟩ := (hmv k _).1 h2
    rw [← hv]
    exact h k c tv.1 hc h1

/-- match tracking lets every channel track: the new threshold vector is the channel-wise
`_match_tracking` of the old one -/
theorem fusion_track_all (mode : MT) (adjP adjM : α → α) (top : α) (th m : List α) (k : Nat) :
    ((fusionCfg mode adjP adjM top).track th m)[k]? =
      (th[k]?).bind (fun t => (m[k]?).map (fun v => trackScalar mode adjP adjM top t v)) := by
  show ((List.zip th m).map _)[k]? = _
  rw [List.getElem?_map, List.zip, List.getElem?_zipWith']
  cases th[k]? <;> cases m[k]? <;> rfl

/-- **Learning is channel-wise** (modules of any weight length): channel `k` of the
updated / new fused weight is module `k`'s own rule on the `k`-slices of sample and weight. -/
theorem fusion_update_channelwise (chans : List (Chan α)) (hl : ∀ c ∈ chans, c.LenOK) (x w : List α)
    (hx : x.length = total chans) (hw : w.length = wtotal chans) (k : Nat) (c : Chan α)
    (hc : chans[k]? = some c) :
    slice (wlens chans) k ((fusionKernel chans).update x w) =
      c.K.update (slice (widths chans) k x) (slice (wlens chans) k w) ∧
    slice (wlens chans) k ((fusionKernel chans).newW x) = c.K.newW (slice (widths chans) k x) :=
  ⟨fusion_update_slice chans hl x w hx hw k c hc, fusion_new_slice chans hl x hx k c hc⟩

/-- **Every channel stores exactly what its module alone would compute.**  After any
stream `xs` (any mode, epsilon, reset function), for every channel `k` and every category
index `j`: `modules[k].W[j]` is module `k`'s rule folded over the channel-`k` slices of the
samples labelled `j` (in presentation order, starting from its new-category rule; an equation
of options, `foldMembers` of no members being `none`). -/
theorem fusion_channel_states {θ : Type} (chans : List (Chan α)) (hl : ∀ c ∈ chans, c.LenOK)
    (cfg : SearchCfg (List α) θ) (th0 : θ) (veto : ArtState (List α) → List α → Nat → Bool)
    (xs : List (List α)) (hx : ∀ x ∈ xs, x.length = total chans) (k : Nat) (c : Chan α)
    (hc : chans[k]? = some c) (j : Nat) :
    (chanState (wlens chans) k (partialFit (fusionKernel chans) cfg th0 veto {} xs)).W[j]? =
      foldMembers c.K (members (xs.map (slice (widths chans) k))
        (partialFit (fusionKernel chans) cfg th0 veto {} xs).labels j) := by
  obtain ⟨_, hW⟩ := weights_are_member_folds (fusionKernel chans) cfg th0 veto xs
  show ((partialFit (fusionKernel chans) cfg th0 veto {} xs).W.map (slice (wlens chans) k))[j]? = _
  rw [List.getElem?_map, hW j, members_map]
  exact foldMembers_slice chans hl k c hc _
    (fun m hm => hx m (members_subset xs _ j m hm))

/-- **The modules are the projections of the fused run.**  `modsRun` is the training loop as
the code executes it — on the list of module states, reading the `W` property (re-assembled
from the modules) and writing through `add_weight` / `set_weight`.  After any stream its module
states are exactly the slices of the fused state of `partialFit (fusionKernel chans)`, and the
labels agree.  (Reset function: any function of sample and category.) -/
theorem fusion_modules_are_projections {θ : Type} (chans : List (Chan α)) (hne : chans ≠ [])
    (cfg : SearchCfg (List α) θ) (th0 : θ) (veto : List α → Nat → Bool) (xs : List (List α)) :
    modsRun chans cfg th0 veto (chanStates chans {}, []) xs =
      (chanStates chans (partialFit (fusionKernel chans) cfg th0 (fun _ x c => veto x c) {} xs),
       (partialFit (fusionKernel chans) cfg th0 (fun _ x c => veto x c) {} xs).labels) :=
  modsRun_chanStates chans hne cfg th0 veto {} (fun _ h => nomatch h) xs

/-- **All channels always hold the same number of categories**: after any stream every module
list of the code-level run has exactly `n_clusters` weights and `n_clusters` counters, and there
is one module state per channel. -/
theorem fusion_counts_equal {θ : Type} (chans : List (Chan α)) (hne : chans ≠ [])
    (cfg : SearchCfg (List α) θ) (th0 : θ) (veto : List α → Nat → Bool) (xs : List (List α)) :
    (modsRun chans cfg th0 veto (chanStates chans {}, []) xs).1.length = chans.length ∧
    ∀ m ∈ (modsRun chans cfg th0 veto (chanStates chans {}, []) xs).1,
      m.W.length = (partialFit (fusionKernel chans) cfg th0 (fun _ x c => veto x c) {} xs).W.length ∧
      m.cnt.length = (partialFit (fusionKernel chans) cfg th0 (fun _ x c => veto x c) {} xs).W.length := by
  rw [fusion_modules_are_projections chans hne cfg th0 veto xs]
  refine ⟨chanStates_length _ _, ?_⟩
  intro m hm
  obtain ⟨k, _, rfl⟩ := List.mem_map.1 hm
  exact ⟨List.length_map _, (partialFit_consistent _ cfg th0 _ {} xs consistent_empty).cnt_len⟩

/-- **`W` is the concatenation of the module weights**: reading the `W` property back
from the modules returns the fused list — for every kind of module (no `LenOK` needed). -/
theorem fusion_W_concat {θ : Type} (chans : List (Chan α)) (hne : chans ≠ [])
    (cfg : SearchCfg (List α) θ) (th0 : θ) (veto : ArtState (List α) → List α → Nat → Bool)
    (xs : List (List α)) :
    fusedW (chanStates chans (partialFit (fusionKernel chans) cfg th0 veto {} xs)) =
      (partialFit (fusionKernel chans) cfg th0 veto {} xs).W := by
  apply fusedW_chanStates chans hne
  apply partialFit_W_inv (fusionKernel chans) cfg th0 veto (fun w => w.length ≤ wtotal chans) (fun _ => True)
  · intro x w _ _; exact stored_length_le _ _
  · intro x _; exact stored_length_le _ _
  · exact fun _ h => nomatch h
  · exact fun _ _ => trivial

/-- **One channel, gamma = 1**: `partial_fit` of the FusionART is, state for state (weights,
counters, labels), `partial_fit` of the bare module — any mode, epsilon, reset function,
starting state and stream. -/
theorem fusion_single_channel (c : Chan α) (hγ : c.gamma = 1) (hl : c.LenOK) (mode : MT)
    (adjP adjM : α → α) (top rho : α) (veto : ArtState (List α) → List α → Nat → Bool)
    (s : ArtState (List α)) (xs : List (List α)) (hs : ∀ w ∈ s.W, w.length = c.wlen)
    (hx : ∀ x ∈ xs, x.length = c.width) :
    partialFit (fusionKernel [c]) (fusionCfg mode adjP adjM top) [rho] veto s xs =
      partialFit c.K (scalarCfg mode false adjP adjM top) rho veto s xs := by
  have h := (single_sim c hγ hl mode adjP adjM top).partialFit veto veto
    (by intro s x k; rw [mapState_id]) [rho] rho rfl s xs hs hx
  rw [mapState_id, mapState_id, List.map_id'] at h
  exact h.symm

/-- … and so are its predictions -/
theorem fusion_single_channel_predict (c : Chan α) (hγ : c.gamma = 1) (W : List (List α)) (x : List α)
    (hW : ∀ w ∈ W, w.length = c.wlen) (hx : x.length = c.width) :
    stepPred (fusionKernel [c]) W x = stepPred c.K W x := by
  unfold stepPred activations
  exact congrArg argmaxNp (List.map_congr_left fun w hw => single_choice c hγ W x w hW hx hw)

/-- **Permuting channels.**  Swapping two neighbouring channels together with their gammas,
widths, vigilances and data columns (and handing the reset function the permuted view)
gives the same labels and counters; the weights are the same up to the column swap.  Every
permutation is a product of such swaps.  Ordered field: uses commutativity of the sum. -/
theorem fusion_perm_channels (chans : List (Chan α)) (i : Nat) (hi : i + 1 < chans.length)
    (hl : ∀ c ∈ chans, c.LenOK) (mode : MT) (adjP adjM : α → α) (top : α)
    (th : List α) (hth : th.length = chans.length)
    (veto veto' : ArtState (List α) → List α → Nat → Bool)
    (hv : ∀ s x c, veto' (mapState (swapCols (wlens chans) i) s) (swapCols (widths chans) i x) c = veto s x c)
    (xs : List (List α)) (hx : ∀ x ∈ xs, x.length = total chans) :
    (partialFit (fusionKernel (swapAt i chans)) (fusionCfg mode adjP adjM top) (swapAt i th) veto' {}
        (xs.map (swapCols (widths chans) i))).labels =
      (partialFit (fusionKernel chans) (fusionCfg mode adjP adjM top) th veto {} xs).labels ∧
    (partialFit (fusionKernel (swapAt i chans)) (fusionCfg mode adjP adjM top) (swapAt i th) veto' {}
        (xs.map (swapCols (widths chans) i))).cnt =
      (partialFit (fusionKernel chans) (fusionCfg mode adjP adjM top) th veto {} xs).cnt ∧
    (partialFit (fusionKernel (swapAt i chans)) (fusionCfg mode adjP adjM top) (swapAt i th) veto' {}
        (xs.map (swapCols (widths chans) i))).W =
      (partialFit (fusionKernel chans) (fusionCfg mode adjP adjM top) th veto {} xs).W.map
        (swapCols (wlens chans) i) := by
  have h := perm_partialFit chans i hi hl mode adjP adjM top th hth veto veto' hv {} xs (fun _ h => nomatch h) hx
  rw [show mapState (swapCols (wlens chans) i) ({} : ArtState (List α)) = {} from rfl] at h
  rw [h]
  exact ⟨rfl, rfl, rfl⟩

/-- … and the permuted model predicts the same category for the permuted query -/
theorem fusion_perm_predict (chans : List (Chan α)) (i : Nat) (hi : i + 1 < chans.length)
    (hl : ∀ c ∈ chans, c.LenOK) (W : List (List α)) (x : List α)
    (hW : ∀ w ∈ W, w.length = wtotal chans) (hx : x.length = total chans) :
    stepPred (fusionKernel (swapAt i chans)) (W.map (swapCols (wlens chans) i)) (swapCols (widths chans) i x) =
      stepPred (fusionKernel chans) W x := by
  unfold stepPred
  rw [(perm_sim chans i hi hl MT.plus id id 0).activations W x hW hx]

end Core

/-! ### a module whose weight is longer than its channel (the case of finding F07) -/

/-- a module in the style of HypersphereART: weight = centre ++ [radius] -/
def longKernel : Kernel (List Rat) (List Rat) Rat Rat :=
  { choice := fun _ _ _ => some 0, matchv := fun _ _ => 0, update := fun _ w => w, newW := fun x => x ++ [0] }

def longChans : List (Chan Rat) := [⟨longKernel, 2, 1/2, 3⟩, ⟨fuzzyKernel (1/4) 1 1, 2, 1/2, 2⟩]

/-- Sample `[1/4, 1/2 | 1/10, 9/10]`: channel 0 stores the module's own weight `[1/4, 1/2, 0]`
(three entries for a channel of width two) and channel 1 the FuzzyART weight `[1/10, 9/10]`.
(Before /repo 9bccfb4 the code stored `[1/4, 1/2]` and `[0, 1/10]`: finding F07.) -/
theorem fusion_long_weight_example :
    slice (wlens longChans) 0 ((fusionKernel longChans).newW [1/4, 1/2, 1/10, 9/10]) = [1/4, 1/2, 0] ∧
    slice (wlens longChans) 1 ((fusionKernel longChans).newW [1/4, 1/2, 1/10, 9/10]) = [1/10, 9/10] ∧
    (fusionKernel longChans).newW [1/4, 1/2, 1/10, 9/10] = [1/4, 1/2, 0, 1/10, 9/10] := by
  decide +kernel

/-- the long module satisfies the hypothesis of the channel-wise theorems with `wlen = 3` -/
theorem fusion_long_weight_LenOK : (⟨longKernel, 2, 1/2, 3⟩ : Chan Rat).LenOK :=
  ⟨fun _ _ _ hw => hw, fun x hx => by
    show (x ++ [0]).length = 3
    rw [List.length_append, show x.length = 2 from hx]
    rfl⟩

/-! ### FuzzyART, ART2-A and ART1 channels satisfy `LenOK` -/
section LenOK
variable {α : Type} [Field α] [LinearOrder α] [IsStrictOrderedRing α]

theorem fuzzy_LenOK (alpha beta d gamma : α) (width : Nat) :
    (⟨fuzzyKernel alpha beta d, width, gamma, width⟩ : Chan α).LenOK := by
  refine ⟨fun x w hx hw => ?_, fun x hx => hx⟩
  have hx : x.length = width := hx
  have hw : w.length = width := hw
  show (vadd (smul beta (vmin x w)) (smul (1 - beta) w)).length = width
  rw [vadd, List.length_zipWith, smul, smul, List.length_map, List.length_map, vmin, List.length_zipWith, hx, hw,
    Nat.min_self, Nat.min_self]

theorem art2_LenOK (alpha beta gamma : α) (width : Nat) :
    (⟨art2Kernel alpha beta, width, gamma, width⟩ : Chan α).LenOK := by
  refine ⟨fun x w hx hw => ?_, fun x hx => hx⟩
  have hx : x.length = width := hx
  have hw : w.length = width := hw
  show (vadd (smul beta x) (smul (1 - beta) w)).length = width
  rw [vadd, List.length_zipWith, smul, smul, List.length_map, List.length_map, hx, hw, Nat.min_self]

/-- ART1: weight = bottom-up ++ top-down, twice the channel width -/
theorem art1_LenOK (L gamma : α) (dim : Nat) :
    (⟨art1Kernel L dim, dim, gamma, 2 * dim⟩ : Chan α).LenOK := by
  constructor
  · intro x w hx hw
    have hx : x.length = dim := hx
    have hw : w.length = 2 * dim := hw
    show (smul _ (band' x (w.drop dim)) ++ band' x (w.drop dim)).length = 2 * dim
    rw [List.length_append, smul, List.length_map, band', List.length_zipWith, List.length_drop, hx, hw,
      Nat.two_mul, Nat.add_sub_cancel, Nat.min_self]
  · intro x hx
    have hx : x.length = dim := hx
    show (smul _ x ++ x).length = 2 * dim
    rw [List.length_append, smul, List.length_map, hx, Nat.two_mul]

end LenOK

/-! ### Non-vacuity: concrete runs over ℚ (FuzzyART channels, rho = 3/4, alpha = 1/4, beta = 1) -/
private def cA : Chan Rat := ⟨fuzzyKernel (1/4) 1 1, 2, 1/4, 2⟩
private def cB : Chan Rat := ⟨fuzzyKernel (1/4) 1 1, 2, 3/4, 2⟩
private def cfgQ : SearchCfg (List Rat) (List Rat) := fusionCfg .plus (· + 0) (· - 0) 0
private def data : List (List Rat) := [[0, 1, 0, 1], [1, 0, 1, 0], [1/4, 3/4, 0, 1], [0, 1, 1, 0], [1/8, 7/8, 1/8, 7/8]]
private def runAB := partialFit (fusionKernel [cA, cB]) cfgQ [3/4, 3/4] noVeto {} data
private def runBA := partialFit (fusionKernel [cB, cA]) cfgQ [3/4, 3/4] noVeto {} (data.map (swapCols [2, 2] 0))

-- three categories; the last sample is absorbed by category 0; both channels learn their own slices
example : runAB.labels = [0, 1, 0, 2, 0] := by decide +kernel
example : (chanState [2, 2] 0 runAB).W = [[0, 3/4], [1, 0], [0, 1]] := by decide +kernel
example : (chanState [2, 2] 1 runAB).W = [[0, 7/8], [1, 0], [1, 0]] := by decide +kernel
example : fusedW (chanStates [cA, cB] runAB) = runAB.W := by decide +kernel
-- the code-level run on the module lists: two module states with three categories each
example : ((modsRun [cA, cB] cfgQ [3/4, 3/4] (fun _ _ => false) (chanStates [cA, cB] {}, []) data).1.map
    (fun m => m.W.length)) = [3, 3] := by decide +kernel
example : (modsRun [cA, cB] cfgQ [3/4, 3/4] (fun _ _ => false) (chanStates [cA, cB] {}, []) data).2 =
    [0, 1, 0, 2, 0] := by decide +kernel
-- the permuted FusionART on the permuted columns gives the same labels
example : runBA.labels = runAB.labels := by decide +kernel
example : runBA.W = runAB.W.map (swapCols [2, 2] 0) := by decide +kernel
-- the hypothesis `LenOK` of the theorems is satisfiable
example : ∀ c ∈ [cA, cB], c.LenOK := by
  intro c hc
  simp only [List.mem_cons, List.mem_nil_iff, or_false] at hc
  rcases hc with rfl | rfl <;> exact fuzzy_LenOK _ _ _ _ _
example : ∀ x ∈ data, x.length = total [cA, cB] := by decide
-- one channel with gamma = 1 against the bare module
example : (partialFit (fusionKernel [⟨fuzzyKernel (1/4 : Rat) 1 1, 2, 1, 2⟩]) cfgQ [3/4] noVeto {}
    [[0, 1], [1, 0], [1/4, 3/4]]).labels =
    (partialFit (fuzzyKernel (1/4 : Rat) 1 1) (scalarCfg .plus false (· + 0) (· - 0) 0) (3/4) noVeto {}
      [[0, 1], [1, 0], [1/4, 3/4]]).labels := by decide +kernel
-- an ART1 channel (weight 2·2 = 4 entries) next to a FuzzyART channel: W is the concatenation
example : (partialFit (fusionKernel [⟨art1Kernel (2 : Rat) 2, 2, 1/2, 4⟩, cB]) cfgQ [1/2, 3/4] noVeto {}
    [[1, 0, 0, 1], [1, 1, 0, 1], [0, 1, 1, 0]]).W = [[1, 0, 1, 0, 0, 1], [0, 1, 0, 1, 1, 0]] := by decide +kernel
-- the fused activation is the gamma-weighted sum: 1/4 * (1/(1/4+1)) + 3/4 * (1/(1/4+1)) = 4/5
example : (fusionKernel [cA, cB]).choice [] [0, 1, 0, 1] [0, 1, 0, 1] = some (4/5) := by decide +kernel

end Art.C10
