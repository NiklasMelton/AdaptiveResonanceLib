/-
ArtGenProofs.GateSpec — the validity-index gates of `iCVIFuzzyART` and `CVIART` and the training loops around them, as
translated from the Python source by `harness/artv/gtrans.py` (ArtGen/Gate.lean), compute the definitions of
`ArtModel/ICVI.lean` that the C15 property theorems are stated about — for every dimension, state, sample, kernel, reset
function, match-tracking mode and epsilon, no bounds.

The generated code calls two other generated files: `Art.Gen.ICVI.*` (the `iCVI_CH` object, tied to the model by
ICVISpec through the encoding `RepState` / `RepCand`) and `Art.Gen.BaseART.step_fit` (tied to the model's `stepFit` by
`Control.step_fit_refines` under the kernel contract).  This file composes those ties:

  iCVI_match_defined / iCVI_match_spec     the generated gate = `icviMatch` (a raise of `switch_label` = veto, as in the model;
                                           `iCVI_match_returns_online/offline`: it does not raise where training calls it)
  icvi_lambda_none_spec / _user_spec       the reset functions `fit` builds = the complement of `gateVeto user (icviMatch …)`
  step_fit_labels / step_fit_empty         the generated `step_fit` leaves `labels_` alone and answers 0 on an empty module
  icvi_step_unfold / icvi_step_spec        one generated training step: `step_fit` with the gate, commit `update st cand`, write the label
  icvi_loop, icvi_adds0, fit_unfold        the sample loop follows `offlineLoop` / the `trackOnline` fold on the labels it produces
  fit_online_spec / fit_offline_spec       the generated `fit` does not raise; its object represents `trackOnline` / `trackOffline`
  gen_fit_tracks_online / _offline         C15: after the generated fit, criterion_value = chBatch (X, labels_)
  gen_icvi_gate / _online / _offline       C15 `icvi_gate…`: the generated step joins an existing cluster only if the index strictly improves
  contract_gate                            the kernel contract of ControlSpec carries over to a reset function that is the complement of a veto
  accessors_spec, CVI_match_few / _valid / _invalid / _raises / _spec   `CVIART.CVI_match` = `cviMatch` (sklearn scores abstract, Option-valued)
  cvi_lambda_none_spec / _user_spec, cvi_step_spec, gen_cvi_gate  C15 `cvi_gate` for the generated `CVIART.fit` step
  cvi_fit_labels_length                    `CVIART.fit`: labels_ has one entry per sample when the method returns (F35: it may raise)
-/
import Mathlib.Algebra.Order.Field.Rat
import ArtGen.Gate
import ArtGenProofs.ICVISpec
import ArtGenProofs.ControlSpec
import ArtGenProofs.FitGifSpec
import ArtProps.C15

set_option linter.unusedSectionVars false

namespace Art.GenSpec.Gate
open Art Art.ICVI Art.Imp Art.ImpGate Art.GenSpec.ICVI

/-! ### callbacks -/

/-- `a & b` inside a callback: both operands are evaluated, a raise of the gate counts as `False` -/
theorem callback_and (a : Bool) (m : Option Bool) :
    callback (do pure (a && (← m))) = (a && callback m) := by
  cases m <;> simp [callback]

/-- `a and b` inside a callback: the gate is evaluated only when the user function agrees -/
theorem callback_andalso (a : Bool) (m : Option Bool) :
    callback (do pure (← (if a then (do pure (← m)) else (do pure false)))) = (a && callback m) := by
  cases a <;> cases m <;> simp [callback]

theorem callback_bind_pure (m : Option Bool) : callback (do pure (← m)) = callback m := by
  cases m <;> simp [callback]

/-! ### `iCVIFuzzyART.iCVI_match` -/

section ICVIMatch
variable {Wt P C α : Type} [Field α] [LinearOrder α] [IsStrictOrderedRing α] [Inhabited Wt] [Inhabited C]

open Gen.Gate.iCVIFuzzyART in
/-- the generated gate returns exactly when the model's candidate exists, with the strict comparison of the
candidate criterion and the tracked one -/
theorem iCVI_match_defined {self : Gen.Gate.iCVIFuzzyART.Self Wt P α} {st : State α} (h : RepState self.iCVI st)
    (x : List α) (w : Wt) (c : Nat) (params : P) (cache : C) (cur : Nat)
    (hcur : self.offline = true → self.base.labels[self.index]? = some cur) :
    iCVI_match self x w c params cache =
      (if self.offline then switchLabel st x cur c else some (addSample st x c)).map
        (fun p => decide (st.crit < p.crit)) := by
  unfold iCVI_match
  cases hoff : self.offline with
  | false =>
    obtain ⟨p, hp, hc⟩ := add_sample_spec h x c
    have hcrit := hc.2.2.2.2.2.1
    simp [hp, hcrit, h.crit]
  | true =>
    have hl := hcur hoff
    cases hm : switchLabel st x cur c with
    | none =>
      have := switch_label_none h x cur c hm
      simp [hl, this]
    | some cand =>
      obtain ⟨p, hp, hc⟩ := switch_label_spec h x cur c cand hm
      have hcrit := hc.2.2.2.2.2.1
      simp [hl, hp, hcrit, h.crit]

open Gen.Gate.iCVIFuzzyART in
/-- **`iCVI_match` = the model's `icviMatch`** (as a callback: a raise of `switch_label` is the answer `False`, as in
the model), on every represented state, sample, category and mode. -/
theorem iCVI_match_spec {self : Gen.Gate.iCVIFuzzyART.Self Wt P α} {st : State α} (h : RepState self.iCVI st)
    (x : List α) (w : Wt) (c : Nat) (params : P) (cache : C) (cur : Nat)
    (hcur : self.offline = true → self.base.labels[self.index]? = some cur) :
    callback (iCVI_match self x w c params cache) = icviMatch self.offline st x cur c := by
  rw [iCVI_match_defined h x w c params cache cur hcur]
  unfold icviMatch
  cases (if self.offline then switchLabel st x cur c else some (addSample st x c)) <;> simp [callback]

end ICVIMatch

/-! ### the reset functions `iCVIFuzzyART.fit` hands to `step_fit` -/

section ICVILambda
variable {Wt P C α : Type} [Field α] [LinearOrder α] [IsStrictOrderedRing α] [Inhabited Wt] [Inhabited C]

open Gen.Gate.iCVIFuzzyART in
/-- `match_reset_func is None`: the bound method `self.iCVI_match`, as `step_fit` sees it, is the complement of the
model's veto `gateVeto (fun _ => true) (icviMatch …)` -/
theorem icvi_lambda_none_spec {self : Gen.Gate.iCVIFuzzyART.Self Wt P α} {st : State α} (h : RepState self.iCVI st)
    (cur : Nat) (hcur : self.offline = true → self.base.labels[self.index]? = some cur)
    (x : List α) (w : Wt) (c : Nat) (params : P) (cache : C) :
    (fun (a1 : List α) (a2 : Wt) (a3 : Nat) (a4 : P) (a5 : C) =>
        callback (do pure (← iCVI_match self a1 a2 a3 a4 a5))) x w c params cache
      = !(gateVeto (fun _ => true) (icviMatch self.offline st x cur) c) := by
  simp only [iCVI_match_spec h x w c params cache cur hcur, gateVeto, Bool.true_and, Bool.not_not]

open Gen.Gate.iCVIFuzzyART in
/-- a user reset function: the lambda `match_reset_func(…) & self.iCVI_match(…)` is the complement of
`gateVeto user (icviMatch …)` -/
theorem icvi_lambda_user_spec {self : Gen.Gate.iCVIFuzzyART.Self Wt P α} {st : State α} (h : RepState self.iCVI st)
    (cur : Nat) (hcur : self.offline = true → self.base.labels[self.index]? = some cur)
    (user : List α → Wt → Nat → P → C → Bool) (x : List α) (w : Wt) (c : Nat) (params : P) (cache : C) :
    (fun (x : List α) (w : Wt) (c_ : Nat) (params : P) (cache : C) =>
        callback (do pure ((user x w c_ params cache) && (← iCVI_match self x w c_ params cache)))) x w c params cache
      = !(gateVeto (fun c' => user x w c' params cache) (icviMatch self.offline st x cur) c) := by
  simp only [callback_and, iCVI_match_spec h x w c params cache cur hcur, gateVeto, Bool.not_not]

end ICVILambda

/-! ### facts about the generated `BaseART.step_fit` that need no kernel contract -/

section StepFit
variable {X Wt P C α : Type} [LT α] [DecidableRel (α := α) (· < ·)] [Inhabited Wt] [Inhabited C]

/-- `step_fit` does not touch `labels_` (the caller writes the returned label) -/
theorem step_fit_labels (E : Ext X Wt P C α) (fuel : Nat) (self : Imp.Self Wt P) (x : X) (b : Bool)
    (f : X → Wt → Nat → P → C → Bool) (mt : MT) (eps : α) :
    (Gen.BaseART.step_fit E fuel self x b f mt eps).1.labels = self.labels :=
  congrArg (·.1.labels) (FitGif.step_fit_labels_frame E fuel self self.labels x b f mt eps)

/-- on a module without categories `step_fit` returns label 0 (and never calls the reset function) -/
theorem step_fit_empty (E : Ext X Wt P C α) (fuel : Nat) (self : Imp.Self Wt P) (x : X) (b : Bool)
    (f : X → Wt → Nat → P → C → Bool) (mt : MT) (eps : α) (h : self.W = []) :
    (Gen.BaseART.step_fit E fuel self x b f mt eps).2 = 0 := by
  simp [Gen.BaseART.step_fit, h]

end StepFit

/-- The kernel contract of `ControlSpec`, stated for the trivial reset function (it does not mention the gate), carries
over to any reset function that answers `!veto c` for the existing categories. -/
theorem contract_gate {X Wt P C α μ θ : Type} [LT α] [DecidableRel (α := α) (· < ·)] {K : Kernel X Wt α μ}
    {cfg : SearchCfg μ θ} {E : Ext X Wt P C α} {th : P → θ} {W : List Wt} {x : X} {p0 : P} {mt : MT} {eps : α}
    (hC : Control.Contract K cfg E th W x p0 true (fun _ _ _ _ _ => true) (fun _ => false) mt eps)
    {reset : X → Wt → Nat → P → C → Bool} {veto : Nat → Bool}
    (h : ∀ c w p ch, W[c]? = some w → reset x w c p ch = !veto c) :
    Control.Contract K cfg E th W x p0 false reset veto mt eps :=
  { choice := hC.choice, passes := hC.passes, track := hC.track, keep := hC.keep, update := hC.update,
    newW := hC.newW, tilde := hC.tilde, veto_none := fun h => (nomatch h), veto_some := fun _ => h }

/-! ### one training step of `iCVIFuzzyART.fit` (the body of its sample loop) -/

section ICVIStep
variable {Wt P C α : Type} [Field α] [LinearOrder α] [IsStrictOrderedRing α] [Inhabited Wt] [Inhabited C]

open Gen.Gate.iCVIFuzzyART

/-- the reset function the generated step hands to `step_fit` (the text of the two lambdas of ArtGen/Gate.lean) -/
def icviReset (self : Gen.Gate.iCVIFuzzyART.Self Wt P α) (is_none : Bool) (user : List α → Wt → Nat → P → C → Bool) :
    List α → Wt → Nat → P → C → Bool :=
  if is_none then
    (fun (a1 : List α) (a2 : Wt) (a3 : Nat) (a4 : P) (a5 : C) => callback (do pure (← iCVI_match self a1 a2 a3 a4 a5)))
  else
    (fun (x : List α) (w : Wt) (c_ : Nat) (params : P) (cache : C) =>
      callback (do pure ((user x w c_ params cache) && (← iCVI_match self x w c_ params cache))))

/-- the call of the generated `BaseART.step_fit` inside the generated step -/
def icviStepFit (E : Ext (List α) Wt P C α) (self : Gen.Gate.iCVIFuzzyART.Self Wt P α) (is_none : Bool)
    (user : List α → Wt → Nat → P → C → Bool) (x : List α) (i : Nat) (mt : MT) (eps : α) : Imp.Self Wt P × Nat :=
  Gen.BaseART.step_fit E self.base.W.length self.base x false (icviReset { self with index := i } is_none user) mt eps

/-- the generated loop body, read off: set `index`, run `step_fit` with the gate, commit the candidate, write the label -/
theorem icvi_step_unfold (E : Ext (List α) Wt P C α) (X : List (List α)) (is_none : Bool)
    (user : List α → Wt → Nat → P → C → Bool) (max_iter : Nat) (mt : MT) (eps : α)
    (self : Gen.Gate.iCVIFuzzyART.Self Wt P α) (x : List α) (i : Nat) :
    fit_loop2_body E X is_none user max_iter mt eps self (x, i) =
      (let r := icviStepFit E self is_none user x i mt eps
       do
        let params ← if self.offline then (do
            Gen.ICVI.switch_label self.iCVI x (← r.1.labels[i]?) r.2)
          else Gen.ICVI.add_sample self.iCVI x r.2
        let icvi ← Gen.ICVI.update self.iCVI params
        let labels ← npSet r.1.labels i r.2
        pure { self with index := i, base := { r.1 with labels := labels }, iCVI := icvi }) := by
  cases is_none <;> cases hoff : self.offline <;>
    simp only [fit_loop2_body, icviStepFit, icviReset, hoff, Bool.false_eq_true, ↓reduceIte, bind_pure, pure_bind, bind_assoc]

/-- **one generated training step**, against the model: with `c` the label the generated `step_fit` returned and `cur` the
sample's current label, the step raises exactly when the model's candidate (`switchLabel` offline, `addSample` online) is
`none`; otherwise it commits that candidate with the generated `update` (the new object represents `update st cand`),
writes `labels_[i] = c`, and leaves everything else to `step_fit`. -/
theorem icvi_step_spec (E : Ext (List α) Wt P C α) (X : List (List α)) (is_none : Bool)
    (user : List α → Wt → Nat → P → C → Bool) (max_iter : Nat) (mt : MT) (eps : α)
    (self : Gen.Gate.iCVIFuzzyART.Self Wt P α) {st : State α} (hrep : RepState self.iCVI st) (x : List α) (i cur : Nat)
    (hlab : self.base.labels[i]? = some cur) :
    match (if self.offline then switchLabel st x cur (icviStepFit E self is_none user x i mt eps).2
           else some (addSample st x (icviStepFit E self is_none user x i mt eps).2)) with
    | some cand => ∃ self', fit_loop2_body E X is_none user max_iter mt eps self (x, i) = some self' ∧
        self'.base = { (icviStepFit E self is_none user x i mt eps).1 with
          labels := self.base.labels.set i (icviStepFit E self is_none user x i mt eps).2 } ∧
        RepState self'.iCVI (update st cand) ∧ self'.offline = self.offline ∧ self'.index = i ∧
        self'.is_fitted_ = self.is_fitted_
    | none => fit_loop2_body E X is_none user max_iter mt eps self (x, i) = none := by
  rw [icvi_step_unfold]
  have hl : (icviStepFit E self is_none user x i mt eps).1.labels = self.base.labels := step_fit_labels ..
  have hi : i < self.base.labels.length := (List.getElem?_eq_some_iff.mp hlab).1
  generalize icviStepFit E self is_none user x i mt eps = r at hl ⊢
  cases hoff : self.offline with
  | false =>
    obtain ⟨p, hp, hc⟩ := add_sample_spec hrep x r.2
    obtain ⟨s', hs', hr'⟩ := update_spec hrep hc
    simp only [Bool.false_eq_true, if_false]
    exact ⟨{ self with index := i, base := { r.1 with labels := self.base.labels.set i r.2 }, iCVI := s' },
      by simp only [hp, npSet, hl, hi, ↓reduceIte, Option.pure_def, Option.bind_eq_bind, Option.bind_some, hs', hoff],
      rfl, hr', hoff, rfl, rfl⟩
  | true =>
    simp only [if_true]
    cases hm : switchLabel st x cur r.2 with
    | none =>
      have := switch_label_none hrep x cur r.2 hm
      simp only [hl, hlab, Option.bind_eq_bind, Option.bind_some, this, Option.pure_def, Option.bind_none]
    | some cand =>
      obtain ⟨p, hp, hc⟩ := switch_label_spec hrep x cur r.2 cand hm
      obtain ⟨s', hs', hr'⟩ := update_spec hrep hc
      have hg : self.base.labels[i] = cur := (List.getElem?_eq_some_iff.mp hlab).2
      exact ⟨{ self with index := i, base := { r.1 with labels := self.base.labels.set i r.2 }, iCVI := s' },
        by simp only [hl, hi, getElem?_pos, hg, Option.bind_eq_bind, Option.bind_some, hp, npSet, ↓reduceIte,
          Option.pure_def, hs', hoff], rfl, hr', hoff, rfl, rfl⟩

end ICVIStep

/-! ### `iCVIFuzzyART.fit`: the sample loop and the whole method -/

section ICVIFit
variable {Wt P C α : Type} [Field α] [LinearOrder α] [IsStrictOrderedRing α] [Inhabited Wt] [Inhabited C]

open Gen.Gate.iCVIFuzzyART

/-- what the sample loop does to the model's object, for the labels `step_fit` returned: `offlineLoop` (switch every
sample from 0 to its label) or the fold of `trackOnline` -/
def modelLoop (offline : Bool) (st : State α) (L : List (List α × Nat)) : Option (State α) :=
  if offline then offlineLoop st L else some (L.foldl (fun st p => update st (addSample st p.1 p.2)) st)

theorem modelLoop_nil (offline : Bool) (st : State α) : modelLoop offline st [] = some st := by
  cases offline <;> rfl

theorem modelLoop_cons (offline : Bool) (st : State α) (x : List α) (c : Nat) (r : List (List α × Nat)) :
    modelLoop offline st ((x, c) :: r) =
      (if offline then switchLabel st x 0 c else some (addSample st x c)).bind
        (fun p => modelLoop offline (update st p) r) := by
  cases offline <;> simp [modelLoop, offlineLoop]

/-- **the generated sample loop** follows the model's loop on the labels it produces: it raises exactly when the model
says a `switch_label` call raises, and otherwise ends with `labels_` = those labels and an object that represents the
model's state.  No hypothesis on the kernel: whatever `step_fit` returns. -/
theorem icvi_loop (E : Ext (List α) Wt P C α) (X : List (List α)) (is_none : Bool)
    (user : List α → Wt → Nat → P → C → Bool) (max_iter : Nat) (mt : MT) (eps : α) :
    ∀ (Xs : List (List α)) (k : Nat) (done : List Nat) (self : Gen.Gate.iCVIFuzzyART.Self Wt P α) (st : State α),
      RepState self.iCVI st → self.base.labels = done ++ List.replicate Xs.length 0 → done.length = k →
      ∃ cs : List Nat, cs.length = Xs.length ∧ (self.base.W = [] → ∀ c, cs.head? = some c → c = 0) ∧
        match modelLoop self.offline st (Xs.zip cs) with
        | some st' => ∃ self', (Xs.zipIdx k).foldlM (fit_loop2_body E X is_none user max_iter mt eps) self = some self' ∧
            self'.base.labels = done ++ cs ∧ RepState self'.iCVI st' ∧ self'.offline = self.offline ∧
            self'.is_fitted_ = self.is_fitted_
        | none => (Xs.zipIdx k).foldlM (fit_loop2_body E X is_none user max_iter mt eps) self = none := by
  intro Xs
  induction Xs with
  | nil =>
    intro k done self st hrep hlab hk
    refine ⟨[], rfl, by simp, ?_⟩
    simp only [List.zip_nil_left, modelLoop_nil]
    exact ⟨self, rfl, by simpa using hlab, hrep, rfl, rfl⟩
  | cons x Xs ih =>
    intro k done self st hrep hlab hk
    have hl0 : self.base.labels[k]? = some 0 := by rw [hlab, ← hk]; simp
    have hstep := icvi_step_spec E X is_none user max_iter mt eps self hrep x k 0 hl0
    have hhead : ∀ cs : List Nat, self.base.W = [] →
        ∀ c, ((icviStepFit E self is_none user x k mt eps).2 :: cs).head? = some c → c = 0 :=
      fun _ hW c h => Option.some.inj h ▸ step_fit_empty _ _ _ _ _ _ _ _ hW
    generalize (icviStepFit E self is_none user x k mt eps) = r at hstep hhead
    cases hm : (if self.offline then switchLabel st x 0 r.2 else some (addSample st x r.2)) with
    | none =>
      rw [hm] at hstep
      refine ⟨r.2 :: List.replicate Xs.length 0, by simp, hhead _, ?_⟩
      rw [List.zip_cons_cons, modelLoop_cons, hm, List.zipIdx_cons, List.foldlM_cons, hstep]
      rfl
    | some cand =>
      rw [hm] at hstep
      obtain ⟨self1, hs1, hb1, hr1, ho1, _, hf1⟩ := hstep
      obtain ⟨cs, hcl, _, hmatch⟩ := ih (k + 1) (done ++ [r.2]) self1 (update st cand) hr1
        (by rw [hb1]; simp [hlab, ← hk, List.replicate_succ]) (by simp [hk])
      refine ⟨r.2 :: cs, by simp [hcl], hhead _, ?_⟩
      rw [List.zip_cons_cons, modelLoop_cons, hm, List.zipIdx_cons, List.foldlM_cons, hs1, ← ho1, ← hf1]
      simpa only [List.append_assoc, List.singleton_append, Option.bind_eq_bind, Option.bind_some] using hmatch

/-- the offline pre-labelling pass: every sample is added with label 0 -/
theorem icvi_adds0 (X : List (List α)) (is_none : Bool) (user : List α → Wt → Nat → P → C → Bool) (max_iter : Nat)
    (mt : MT) (eps : α) :
    ∀ (Xs : List (List α)) (self : Gen.Gate.iCVIFuzzyART.Self Wt P α) (st : State α), RepState self.iCVI st →
      ∃ self', Xs.foldlM (fit_loop1_body X is_none user max_iter mt eps) self = some self' ∧
        RepState self'.iCVI (Xs.foldl (fun st x => update st (addSample st x 0)) st) ∧ self'.base = self.base ∧
        self'.offline = self.offline ∧ self'.is_fitted_ = self.is_fitted_ := by
  intro Xs
  induction Xs with
  | nil => intro self st h; exact ⟨self, rfl, h, rfl, rfl, rfl⟩
  | cons x Xs ih =>
    intro self st h
    obtain ⟨p, hp, hc⟩ := add_sample_spec h x 0
    obtain ⟨s1, hs1, hr1⟩ := update_spec h hc
    obtain ⟨self', h1, h2, h3, h4, h5⟩ := ih { self with iCVI := s1 } _ hr1
    refine ⟨self', ?_, h2, h3, h4, h5⟩
    simp only [List.foldlM_cons, fit_loop1_body, hp, hs1, Option.bind_eq_bind, Option.bind_some, Option.pure_def]
    exact h1

/-- the generated `fit`, read off: reset the state, construct the object from the first row, the offline pass, the loop -/
theorem fit_unfold (E : Ext (List α) Wt P C α) (self : Gen.Gate.iCVIFuzzyART.Self Wt P α) (X : List (List α))
    (is_none : Bool) (user : List α → Wt → Nat → P → C → Bool) (max_iter : Nat) (mt : MT) (eps : α) :
    Gen.Gate.iCVIFuzzyART.fit E self X is_none user max_iter mt eps = (do
      let x0 ← X[0]?
      let s0 ← Gen.ICVI.init x0
      let self0 : Gen.Gate.iCVIFuzzyART.Self Wt P α :=
        { base := { W := [], cnt := [], n := 0, params := self.base.params, labels := List.replicate X.length 0, hasW := true },
          offline := self.offline, iCVI := s0, index := self.index, is_fitted_ := true }
      let self1 ← if self.offline then X.foldlM (fit_loop1_body X is_none user max_iter mt eps) self0 else pure self0
      (List.zipIdx X).foldlM (fit_loop2_body E X is_none user max_iter mt eps) self1) := by
  rfl

end ICVIFit

section ICVIFitSpec
variable {Wt P C α : Type} [Field α] [LinearOrder α] [IsStrictOrderedRing α] [Inhabited Wt] [Inhabited C] {d : Nat}

open Gen.Gate.iCVIFuzzyART

theorem fit_start (X : List (List α)) (hX : Rows d X) (hne : X ≠ []) :
    ∃ x0 s0, X[0]? = some x0 ∧ Gen.ICVI.init x0 = some s0 ∧ RepState s0 (init d : State α) := by
  cases X with
  | nil => exact absurd rfl hne
  | cons x0 X' =>
    obtain ⟨s0, hs0, hr0⟩ := init_spec x0
    rw [hX x0 (by simp)] at hr0
    exact ⟨x0, s0, rfl, hs0, hr0⟩

/-- **`iCVIFuzzyART.fit`, online mode**: on non-empty data with rows of one dimension the generated method does not
raise, `labels_` has one entry per sample, and the `iCVI_CH` object it leaves behind represents the model's
`trackOnline d X labels_` — for every kernel, reset function, mode and epsilon. -/
theorem fit_online_spec (E : Ext (List α) Wt P C α) (self : Gen.Gate.iCVIFuzzyART.Self Wt P α) (X : List (List α))
    (is_none : Bool) (user : List α → Wt → Nat → P → C → Bool) (max_iter : Nat) (mt : MT) (eps : α)
    (hX : Rows d X) (hne : X ≠ []) (hoff : self.offline = false) :
    ∃ self', Gen.Gate.iCVIFuzzyART.fit E self X is_none user max_iter mt eps = some self' ∧
      self'.base.labels.length = X.length ∧ RepState self'.iCVI (trackOnline d X self'.base.labels) ∧
      self'.offline = false ∧ self'.is_fitted_ = true := by
  obtain ⟨x0, s0, h0, hs0, hr0⟩ := fit_start X hX hne
  rw [fit_unfold]
  simp only [h0, hs0, hoff, Option.bind_eq_bind, Option.bind_some, Bool.false_eq_true, if_false, Option.pure_def]
  obtain ⟨cs, hcl, _, hmatch⟩ := icvi_loop E X is_none user max_iter mt eps X 0 []
    ⟨⟨[], [], 0, self.base.params, List.replicate X.length 0, true⟩, false, s0, self.index, true⟩ (init d) hr0
    (by simp) rfl
  simp only [modelLoop, Bool.false_eq_true, if_false] at hmatch
  obtain ⟨self', h1, h2, h3, h4, h5⟩ := hmatch
  rw [List.nil_append] at h2
  subst h2
  exact ⟨self', h1, hcl, h3, h4, h5⟩

/-- **`iCVIFuzzyART.fit`, offline mode**: all samples are first added with label 0, then each is switched to the label
`step_fit` returns.  The generated method does not raise (no `switch_label` call raises: the first sample keeps label
0, so cluster 0 never loses its last member), and the object it leaves behind represents the model's
`trackOffline d X labels_`. -/
theorem fit_offline_spec (E : Ext (List α) Wt P C α) (self : Gen.Gate.iCVIFuzzyART.Self Wt P α) (X : List (List α))
    (is_none : Bool) (user : List α → Wt → Nat → P → C → Bool) (max_iter : Nat) (mt : MT) (eps : α)
    (hX : Rows d X) (hne : X ≠ []) (hoff : self.offline = true) :
    ∃ self' st, Gen.Gate.iCVIFuzzyART.fit E self X is_none user max_iter mt eps = some self' ∧
      self'.base.labels.length = X.length ∧ trackOffline d X self'.base.labels = some st ∧ RepState self'.iCVI st ∧
      st.crit = chBatch (X.zip self'.base.labels) ∧ self'.offline = true ∧ self'.is_fitted_ = true := by
  obtain ⟨x0, s0, h0, hs0, hr0⟩ := fit_start X hX hne
  rw [fit_unfold]
  simp only [h0, hs0, hoff, Option.bind_eq_bind, Option.bind_some, if_true]
  obtain ⟨self1, hf1, hr1, hb1, ho1, hi1⟩ := icvi_adds0 X is_none user max_iter mt eps X
    ⟨⟨[], [], 0, self.base.params, List.replicate X.length 0, true⟩, true, s0, self.index, true⟩ (init d) hr0
  rw [hf1]
  simp only [Option.bind_some]
  obtain ⟨cs, hcl, hhead, hmatch⟩ := icvi_loop E X is_none user max_iter mt eps X 0 [] self1 _ hr1
    (by rw [hb1]; simp) rfl
  have hW : self1.base.W = [] := by rw [hb1]
  obtain ⟨st, hst, hcrit⟩ := Art.ICVI.track_offline X cs hX hcl (fun c hc => hhead hW c hc)
  have hml : modelLoop self1.offline (X.foldl (fun st x => update st (addSample st x 0)) (init d)) (X.zip cs) = some st := by
    rw [ho1]; exact hst
  rw [hml] at hmatch
  obtain ⟨self', h1, h2, h3, h4, h5⟩ := hmatch
  rw [List.nil_append] at h2
  subst h2
  exact ⟨self', st, h1, hcl, hst, h3, hcrit, h4.trans ho1, h5.trans hi1⟩

/-- **C15 "after iCVIFuzzyART training the tracked value equals the index of (X, labels_)" for the generated `fit`,
online mode.** -/
theorem gen_fit_tracks_online (E : Ext (List α) Wt P C α) (self : Gen.Gate.iCVIFuzzyART.Self Wt P α) (X : List (List α))
    (is_none : Bool) (user : List α → Wt → Nat → P → C → Bool) (max_iter : Nat) (mt : MT) (eps : α)
    (hX : Rows d X) (hne : X ≠ []) (hoff : self.offline = false) :
    ∃ self', Gen.Gate.iCVIFuzzyART.fit E self X is_none user max_iter mt eps = some self' ∧
      self'.base.labels.length = X.length ∧ self'.iCVI.criterion_value = chBatch (X.zip self'.base.labels) := by
  obtain ⟨self', h1, h2, h3, _, _⟩ := fit_online_spec E self X is_none user max_iter mt eps hX hne hoff
  exact ⟨self', h1, h2, by rw [h3.crit]; exact Art.C15.icvifuzzy_tracks_online X _ hX⟩

/-- … and offline mode: the generated `fit` does not raise and the tracked value is the batch Calinski-Harabasz index of
`(X, labels_)`. -/
theorem gen_fit_tracks_offline (E : Ext (List α) Wt P C α) (self : Gen.Gate.iCVIFuzzyART.Self Wt P α) (X : List (List α))
    (is_none : Bool) (user : List α → Wt → Nat → P → C → Bool) (max_iter : Nat) (mt : MT) (eps : α)
    (hX : Rows d X) (hne : X ≠ []) (hoff : self.offline = true) :
    ∃ self', Gen.Gate.iCVIFuzzyART.fit E self X is_none user max_iter mt eps = some self' ∧
      self'.base.labels.length = X.length ∧ self'.iCVI.criterion_value = chBatch (X.zip self'.base.labels) := by
  obtain ⟨self', st, h1, h2, _, h4, h5, _, _⟩ := fit_offline_spec E self X is_none user max_iter mt eps hX hne hoff
  exact ⟨self', h1, h2, by rw [h4.crit]; exact h5⟩

end ICVIFitSpec

/-! ### the C15 gate theorems, transported to the generated `iCVIFuzzyART` step -/

section ICVIGate
variable {Wt P C α μ θ : Type} [Field α] [LinearOrder α] [IsStrictOrderedRing α] [Inhabited Wt] [Inhabited C] {d : Nat}

open Gen.Gate.iCVIFuzzyART

/-- **C15 `icvi_gate` for the generated step.**  `icviStepFit` is the call of the generated `BaseART.step_fit` with the
generated reset function inside the generated loop body (`icvi_step_unfold`).  Under the kernel contract of
`ControlSpec` (stated for the trivial reset function: it does not mention the gate), if that call assigns the sample to
an *existing* category `c`, then the user function (if any) agreed, the iCVI call did not raise, and the candidate
criterion is strictly larger than the tracked one. -/
theorem gen_icvi_gate (K : Kernel (List α) Wt α μ) (cfg : SearchCfg μ θ) (E : Ext (List α) Wt P C α) (th : P → θ)
    (self : Gen.Gate.iCVIFuzzyART.Self Wt P α) {st : State α} (hrep : RepState self.iCVI st) (is_none : Bool)
    (user : List α → Wt → Nat → P → C → Bool) (userB : Nat → Bool) (x : List α) (i cur : Nat) (mt : MT) (eps : α)
    (hlab : self.offline = true → self.base.labels[i]? = some cur)
    (huser : ∀ c w p ch, (if is_none then true else user x w c p ch) = userB c)
    (hC : Control.Contract K cfg E th self.base.W x self.base.params true (fun _ _ _ _ _ => true) (fun _ => false) mt eps)
    (c : Nat) (h : (icviStepFit E self is_none user x i mt eps).2 = c) (hc : c < self.base.W.length) :
    userB c = true ∧
      ∃ p, (if self.offline then switchLabel st x cur c else some (addSample st x c)) = some p ∧ st.crit < p.crit := by
  have hC' := contract_gate hC (reset := icviReset { self with index := i } is_none user)
    (veto := gateVeto userB (icviMatch self.offline st x cur)) fun c' w p ch _ => by
      have hu := huser c' w p ch
      cases is_none with
      | true =>
        exact (icvi_lambda_none_spec (self := { self with index := i }) hrep cur hlab x w c' p ch).trans
          (by rw [gateVeto, gateVeto, ← hu]; rfl)
      | false =>
        exact (icvi_lambda_user_spec (self := { self with index := i }) hrep cur hlab user x w c' p ch).trans
          (by rw [gateVeto, gateVeto, ← hu]; rfl)
  have href := Control.step_fit_refines K cfg E th self.base x false _ _ mt eps hC'
  unfold icviStepFit at h
  rw [href] at h
  exact Art.C15.icvi_gate K cfg (th self.base.params) ⟨self.base.W, self.base.cnt, self.base.n, self.base.labels⟩ x
    self.offline st x cur userB c h hc

/-- Online mode, in terms of the index itself, for the generated code all the way down: the object was produced by
generated `iCVI_CH` calls (`GenReach`), the step is the generated step — a sample joins an existing cluster `c` only if
the Calinski-Harabasz index of the data *with* `(x, c)` is strictly larger than the index before the step. -/
theorem gen_icvi_gate_online (K : Kernel (List α) Wt α μ) (cfg : SearchCfg μ θ) (E : Ext (List α) Wt P C α) (th : P → θ)
    (self : Gen.Gate.iCVIFuzzyART.Self Wt P α) {D : List (List α × Nat)} (hG : GenReach d self.iCVI D)
    (hoff : self.offline = false) (is_none : Bool)
    (user : List α → Wt → Nat → P → C → Bool) (userB : Nat → Bool) (x : List α) (hx : x.length = d) (i : Nat) (mt : MT) (eps : α)
    (huser : ∀ c w p ch, (if is_none then true else user x w c p ch) = userB c)
    (hC : Control.Contract K cfg E th self.base.W x self.base.params true (fun _ _ _ _ _ => true) (fun _ => false) mt eps)
    (c : Nat) (h : (icviStepFit E self is_none user x i mt eps).2 = c) (hc : c < self.base.W.length) :
    userB c = true ∧ chBatch D < chBatch ((x, c) :: D) := by
  obtain ⟨st, hr, hR⟩ := genReach_rep hG
  obtain ⟨hu, p, hp, hlt⟩ := gen_icvi_gate K cfg E th self hr is_none user userB x i 0 mt eps
    (fun h' => by rw [hoff] at h'; cases h') huser hC c h hc
  simp only [hoff, Bool.false_eq_true, if_false, Option.some.injEq] at hp
  subst hp
  rw [Art.C15.criterion_eq_batch hR, Art.C15.add_candidate_eq_batch hR hx] at hlt
  exact ⟨hu, hlt⟩

/-- Offline mode: the sample `(x, cur)` is relabelled to an existing cluster `c` only if the index of the relabelled
data is strictly larger than the current one. -/
theorem gen_icvi_gate_offline (K : Kernel (List α) Wt α μ) (cfg : SearchCfg μ θ) (E : Ext (List α) Wt P C α) (th : P → θ)
    (self : Gen.Gate.iCVIFuzzyART.Self Wt P α) {D₁ D₂ : List (List α × Nat)} {x : List α} {cur : Nat}
    (hG : GenReach d self.iCVI (D₁ ++ (x, cur) :: D₂)) (hoff : self.offline = true) (is_none : Bool)
    (user : List α → Wt → Nat → P → C → Bool) (userB : Nat → Bool) (i : Nat) (mt : MT) (eps : α)
    (hlab : self.base.labels[i]? = some cur)
    (huser : ∀ c w p ch, (if is_none then true else user x w c p ch) = userB c)
    (hC : Control.Contract K cfg E th self.base.W x self.base.params true (fun _ _ _ _ _ => true) (fun _ => false) mt eps)
    (c : Nat) (hpre : cur ≠ c → 2 ≤ (members (D₁ ++ (x, cur) :: D₂) cur).length)
    (h : (icviStepFit E self is_none user x i mt eps).2 = c) (hc : c < self.base.W.length) :
    userB c = true ∧ chBatch (D₁ ++ (x, cur) :: D₂) < chBatch (D₁ ++ (x, c) :: D₂) := by
  obtain ⟨st, hr, hR⟩ := genReach_rep hG
  obtain ⟨hu, p, hp, hlt⟩ := gen_icvi_gate K cfg E th self hr is_none user userB x i cur mt eps
    (fun _ => hlab) huser hC c h hc
  simp only [hoff, if_true] at hp
  rw [Art.C15.criterion_eq_batch hR, Art.C15.switch_candidate_eq_batch hR hpre hp] at hlt
  exact ⟨hu, hlt⟩

/-- the gate does not raise where training calls it, online: `add_sample` is total -/
theorem iCVI_match_returns_online (self : Gen.Gate.iCVIFuzzyART.Self Wt P α) {st : State α} (hrep : RepState self.iCVI st)
    (hoff : self.offline = false) (x : List α) (w : Wt) (c : Nat) (params : P) (cache : C) :
    iCVI_match self x w c params cache = some (decide (st.crit < (addSample st x c).crit)) := by
  rw [iCVI_match_defined hrep x w c params cache 0 (fun h => by rw [hoff] at h; cases h)]
  simp [hoff]

/-- … and offline, under the API's precondition of `switch_label` (the sample is in the data with its current label; if
it is to leave its cluster, the cluster has another member — in `fit` the first sample keeps label 0 and every
unprocessed sample has label 0, see `fit_offline_spec`): the raise-as-veto rendering of `Art.ImpGate.callback` is never
exercised on the states training reaches. -/
theorem iCVI_match_returns_offline (self : Gen.Gate.iCVIFuzzyART.Self Wt P α) {D₁ D₂ : List (List α × Nat)} {x : List α}
    {cur : Nat} (hG : GenReach d self.iCVI (D₁ ++ (x, cur) :: D₂)) (hoff : self.offline = true)
    (hlab : self.base.labels[self.index]? = some cur) (c : Nat)
    (hpre : cur ≠ c → 2 ≤ (members (D₁ ++ (x, cur) :: D₂) cur).length) (w : Wt) (params : P) (cache : C) :
    ∃ b, iCVI_match self x w c params cache = some b := by
  obtain ⟨st, hr, hR⟩ := genReach_rep hG
  obtain ⟨hwf, hI⟩ := reach_inv hR
  obtain ⟨p, hp, _⟩ := switch_inv hwf hI hpre
  rw [iCVI_match_defined hr x w c params cache cur (fun _ => hlab)]
  simp [hoff, hp]

end ICVIGate

/-! ### `CVIART`: accessors, `CVI_match`, the reset functions of `fit` -/

section CVI
variable {Xt Wt P C α : Type} [LinearOrder α] [Inhabited Wt] [Inhabited C]

open Gen.Gate.CVIART

/-- the score `CVI_match` selects for a validity code -/
def score (MET : Metrics Xt α) (v : Nat) : List Xt → List Nat → Option α :=
  if v = 1 then MET.calinski_harabasz_score else if v = 2 then MET.davies_bouldin_score else MET.silhouette_score

/-- `W`, `labels_` and their setters are the delegation to `base_module` -/
theorem accessors_spec (self : Gen.Gate.CVIART.Self Xt Wt P) (ws : List Wt) (ls : List Nat) :
    W self = some self.base_module.W ∧ labels_ self = some self.base_module.labels ∧
    W_set self ws = some { self with base_module := { self.base_module with W := ws, hasW := true } } ∧
    labels__set self ls = some { self with base_module := { self.base_module with labels := ls } } :=
  ⟨rfl, rfl, rfl, rfl⟩

/-- fewer than two categories: the gate is open, whatever the validity code (no score is computed) -/
theorem CVI_match_few (MET : Metrics Xt α) (self : Gen.Gate.CVIART.Self Xt Wt P) (x : Xt) (w : Wt) (c : Nat) (params : P)
    (ex : Extra) (cache : C) (h : self.base_module.W.length < 2) :
    CVI_match MET self x w c params ex cache = some true :=
  (if_pos h).trans rfl

/-- once two categories exist and the validity code is one of the three known ones: the selected score on the labelling
before the step and on the candidate, compared in the direction of that score -/
theorem CVI_match_valid (MET : Metrics Xt α) (self : Gen.Gate.CVIART.Self Xt Wt P) (x : Xt) (w : Wt) (c : Nat)
    (params : P) (ex : Extra) (cache : C) (h : ¬ self.base_module.W.length < 2)
    (hv : ex.validity = 1 ∨ ex.validity = 2 ∨ ex.validity = 3) :
    CVI_match MET self x w c params ex cache = (do
      let old ← score MET ex.validity self.data self.base_module.labels
      let new ← score MET ex.validity self.data (← npSet self.base_module.labels ex.index c)
      pure (if ex.validity = 2 then decide (new < old) else decide (old < new))) := by
  obtain ⟨index, v⟩ := ex
  -- for a numeral `v` both sides evaluate to the same chain of binds
  rcases hv with rfl | rfl | rfl <;> exact (if_neg h).trans rfl

/-- an unknown validity code raises (`ValueError`) once two categories exist -/
theorem CVI_match_invalid (MET : Metrics Xt α) (self : Gen.Gate.CVIART.Self Xt Wt P) (x : Xt) (w : Wt) (c : Nat)
    (params : P) (ex : Extra) (cache : C) (h : ¬ self.base_module.W.length < 2)
    (hv : ex.validity ≠ 1 ∧ ex.validity ≠ 2 ∧ ex.validity ≠ 3) :
    CVI_match MET self x w c params ex cache = none := by
  refine (if_neg h).trans ((if_neg hv.1).trans ?_)
  rw [DAVIESBOULDIN, SILHOUETTE, if_neg hv.2.1, if_neg hv.2.2]
  rfl

/-- finding F35, as the code has it: when sklearn raises on the labelling before the step, so does the gate -/
theorem CVI_match_raises (MET : Metrics Xt α) (self : Gen.Gate.CVIART.Self Xt Wt P) (x : Xt) (w : Wt) (c : Nat)
    (params : P) (ex : Extra) (cache : C) (h : ¬ self.base_module.W.length < 2)
    (hv : ex.validity = 1 ∨ ex.validity = 2 ∨ ex.validity = 3)
    (hs : score MET ex.validity self.data self.base_module.labels = none) :
    CVI_match MET self x w c params ex cache = none := by
  rw [CVI_match_valid MET self x w c params ex cache h hv, hs]
  rfl

/-- **`CVI_match` = the model's `cviMatch`**: `vi` is the value of the selected sklearn score on a labelling
(hypothesis `hvi`: it returns on the labelling before the step and on the candidate — it is not required when fewer than
two categories exist), `old` = `labels_`, `cand c` = `labels_` with entry `index` set to `c`. -/
theorem CVI_match_spec (MET : Metrics Xt α) (self : Gen.Gate.CVIART.Self Xt Wt P) (x : Xt) (w : Wt) (c : Nat) (params : P)
    (ex : Extra) (cache : C) (vi : List Nat → α)
    (hv : ex.validity = 1 ∨ ex.validity = 2 ∨ ex.validity = 3)
    (hidx : ex.index < self.base_module.labels.length)
    (hvi : ¬ self.base_module.W.length < 2 → ∀ l, l = self.base_module.labels ∨ l = self.base_module.labels.set ex.index c →
      score MET ex.validity self.data l = some (vi l)) :
    CVI_match MET self x w c params ex cache =
      some (cviMatch self.base_module.W.length (ex.validity == 2) vi self.base_module.labels
        (fun c' => self.base_module.labels.set ex.index c') c) := by
  by_cases h : self.base_module.W.length < 2
  · rw [CVI_match_few MET self x w c params ex cache h, cviMatch, if_pos h]
  · rw [CVI_match_valid MET self x w c params ex cache h hv, hvi h _ (Or.inl rfl), npSet, if_pos hidx]
    simp only [Option.bind_eq_bind, Option.bind_some, hvi h _ (Or.inr rfl), Option.pure_def, cviMatch, if_neg h,
      beq_iff_eq]

/-- `match_reset_func is None`: the lambda around `CVI_match`, as `step_fit` sees it -/
theorem cvi_lambda_none_spec (MET : Metrics Xt α) (self : Gen.Gate.CVIART.Self Xt Wt P) (index : Nat) (vi : List Nat → α)
    (hv : self.validity = 1 ∨ self.validity = 2 ∨ self.validity = 3) (hidx : index < self.base_module.labels.length)
    (x : Xt) (w : Wt) (c : Nat) (params : P) (cache : C)
    (hvi : ¬ self.base_module.W.length < 2 → ∀ l, l = self.base_module.labels ∨ l = self.base_module.labels.set index c →
      score MET self.validity self.data l = some (vi l)) :
    (fun (i : Xt) (w : Wt) (cluster_a : Nat) (params : P) (cache : C) =>
        callback (do pure (← CVI_match MET self i w cluster_a params ({ index := index, validity := self.validity } : Extra) cache)))
      x w c params cache
      = !(gateVeto (fun _ => true) (cviMatch self.base_module.W.length (self.validity == 2) vi self.base_module.labels
            (fun c' => self.base_module.labels.set index c')) c) := by
  dsimp only
  rw [CVI_match_spec MET self x w c params ⟨index, self.validity⟩ cache vi hv hidx hvi]
  simp [callback, gateVeto]

/-- a user reset function: the lambda `match_reset_func(…) and self.CVI_match(…)` -/
theorem cvi_lambda_user_spec (MET : Metrics Xt α) (self : Gen.Gate.CVIART.Self Xt Wt P) (index : Nat) (vi : List Nat → α)
    (hv : self.validity = 1 ∨ self.validity = 2 ∨ self.validity = 3) (hidx : index < self.base_module.labels.length)
    (user : Xt → Wt → Nat → P → C → Bool) (x : Xt) (w : Wt) (c : Nat) (params : P) (cache : C)
    (hvi : ¬ self.base_module.W.length < 2 → ∀ l, l = self.base_module.labels ∨ l = self.base_module.labels.set index c →
      score MET self.validity self.data l = some (vi l)) :
    (fun (i : Xt) (w : Wt) (cluster_a : Nat) (params : P) (cache : C) =>
        callback (do pure (← (if (user i w cluster_a params cache) then (do pure (← CVI_match MET self i w cluster_a params
          ({ index := index, validity := self.validity } : Extra) cache)) else (do pure false)))))
      x w c params cache
      = !(gateVeto (fun c' => user x w c' params cache) (cviMatch self.base_module.W.length (self.validity == 2) vi
            self.base_module.labels (fun c' => self.base_module.labels.set index c')) c) := by
  simp only [callback_andalso]
  rw [CVI_match_spec MET self x w c params ⟨index, self.validity⟩ cache vi hv hidx hvi]
  simp [callback, gateVeto]

end CVI

/-! ### `CVIART.fit`: the generated step, the gate, the labels -/

section CVIFit
variable {Xt Wt P C α μ θ : Type} [Field α] [LinearOrder α] [IsStrictOrderedRing α] [Inhabited Wt] [Inhabited C]

open Gen.Gate.CVIART

/-- the reset function the generated step hands to the base module's `step_fit` (the text of the two lambdas) -/
def cviReset (MET : Metrics Xt α) (self : Gen.Gate.CVIART.Self Xt Wt P) (index : Nat) (is_none : Bool)
    (user : Xt → Wt → Nat → P → C → Bool) : Xt → Wt → Nat → P → C → Bool :=
  if is_none then
    (fun (i : Xt) (w : Wt) (cluster_a : Nat) (params : P) (cache : C) =>
      callback (do pure (← CVI_match MET self i w cluster_a params ({ index := index, validity := self.validity } : Extra) cache)))
  else
    (fun (i : Xt) (w : Wt) (cluster_a : Nat) (params : P) (cache : C) =>
      callback (do pure (← (if (user i w cluster_a params cache) then (do pure (← CVI_match MET self i w cluster_a params
        ({ index := index, validity := self.validity } : Extra) cache)) else (do pure false)))))

/-- the call of the generated `BaseART.step_fit` inside the generated step -/
def cviStepFit (E : Ext Xt Wt P C α) (MET : Metrics Xt α) (self : Gen.Gate.CVIART.Self Xt Wt P) (is_none : Bool)
    (user : Xt → Wt → Nat → P → C → Bool) (x : Xt) (index : Nat) (mt : MT) (eps : α) : Imp.Self Wt P × Nat :=
  Gen.BaseART.step_fit E self.base_module.W.length self.base_module x false (cviReset MET self index is_none user) mt eps

/-- **one generated training step of `CVIART.fit`**: the base module's `step_fit` with the gate as reset function, then
`labels_[index] = c` written through the `labels_` property into the base module. -/
theorem cvi_step_spec (E : Ext Xt Wt P C α) (MET : Metrics Xt α) (X : List Xt) (is_none : Bool)
    (user : Xt → Wt → Nat → P → C → Bool) (max_iter : Nat) (mt : MT) (eps : α) (it_ : Nat)
    (self : Gen.Gate.CVIART.Self Xt Wt P) (x : Xt) (index : Nat) :
    fit_loop2_body E MET X is_none user max_iter mt eps it_ self (x, index) =
      (npSet (cviStepFit E MET self is_none user x index mt eps).1.labels index
          (cviStepFit E MET self is_none user x index mt eps).2).map
        (fun l => { self with base_module := { (cviStepFit E MET self is_none user x index mt eps).1 with labels := l } }) := by
  cases is_none <;>
    simp [fit_loop2_body, labels_, labels__set, cviStepFit, cviReset, Option.map_eq_bind]

/-- **C15 `cvi_gate` for the generated step.**  `vi` is the value of the selected sklearn score (hypothesis `hvi`: it
returns on the labelling before the step and on the candidate labellings of the existing categories; not needed while
fewer than two categories exist).  If the generated call of `step_fit` assigns the sample to an existing category `c`,
the user function agreed and either fewer than two categories exist or the candidate labelling's index is strictly
better (`<` for Davies-Bouldin, `>` otherwise). -/
theorem gen_cvi_gate (K : Kernel Xt Wt α μ) (cfg : SearchCfg μ θ) (E : Ext Xt Wt P C α) (th : P → θ) (MET : Metrics Xt α)
    (self : Gen.Gate.CVIART.Self Xt Wt P) (is_none : Bool) (user : Xt → Wt → Nat → P → C → Bool) (userB : Nat → Bool)
    (x : Xt) (index : Nat) (mt : MT) (eps : α) (vi : List Nat → α)
    (hv : self.validity = 1 ∨ self.validity = 2 ∨ self.validity = 3) (hidx : index < self.base_module.labels.length)
    (hvi : ¬ self.base_module.W.length < 2 → ∀ l, (l = self.base_module.labels ∨
      ∃ c' < self.base_module.W.length, l = self.base_module.labels.set index c') →
      score MET self.validity self.data l = some (vi l))
    (huser : ∀ c w p ch, (if is_none then true else user x w c p ch) = userB c)
    (hC : Control.Contract K cfg E th self.base_module.W x self.base_module.params true (fun _ _ _ _ _ => true)
      (fun _ => false) mt eps)
    (c : Nat) (h : (cviStepFit E MET self is_none user x index mt eps).2 = c) (hc : c < self.base_module.W.length) :
    userB c = true ∧ (self.base_module.W.length < 2 ∨
      (if (self.validity == 2) then vi (self.base_module.labels.set index c) < vi self.base_module.labels
       else vi self.base_module.labels < vi (self.base_module.labels.set index c))) := by
  have hC' := contract_gate hC (reset := cviReset MET self index is_none user)
    (veto := gateVeto userB (cviMatch self.base_module.W.length (self.validity == 2) vi self.base_module.labels
      (fun c' => self.base_module.labels.set index c'))) fun c' w p ch hw => by
      have hc' : c' < self.base_module.W.length := (List.getElem?_eq_some_iff.mp hw).1
      have hvi' : ¬ self.base_module.W.length < 2 → ∀ l, l = self.base_module.labels ∨
          l = self.base_module.labels.set index c' → score MET self.validity self.data l = some (vi l) :=
        fun h2 l hl => hvi h2 l (hl.imp_right fun hl => ⟨c', hc', hl⟩)
      have hu := huser c' w p ch
      cases is_none with
      | true =>
        exact (cvi_lambda_none_spec MET self index vi hv hidx x w c' p ch hvi').trans
          (by rw [gateVeto, gateVeto, ← hu]; rfl)
      | false =>
        exact (cvi_lambda_user_spec MET self index vi hv hidx user x w c' p ch hvi').trans
          (by rw [gateVeto, gateVeto, ← hu]; rfl)
  have href := Control.step_fit_refines K cfg E th self.base_module x false _ _ mt eps hC'
  unfold cviStepFit at h
  rw [href] at h
  exact Art.C15.cvi_gate K cfg (th self.base_module.params)
    ⟨self.base_module.W, self.base_module.cnt, self.base_module.n, self.base_module.labels⟩ x (self.validity == 2) vi
    self.base_module.labels (fun c' => self.base_module.labels.set index c') userB c h hc

/-- a quantity that every step of a loop keeps is kept by the loop -/
theorem foldlM_keeps {σ β ι : Type} (φ : σ → ι) (f : σ → β → Option σ) (hf : ∀ s b s', f s b = some s' → φ s' = φ s) :
    ∀ (l : List β) (s s' : σ), l.foldlM f s = some s' → φ s' = φ s
  | [], s, s', h => by cases h; rfl
  | b :: l, s, s', h => by
    rw [List.foldlM_cons] at h
    cases h1 : f s b with
    | none => rw [h1] at h; cases h
    | some s1 => rw [h1] at h; exact (foldlM_keeps φ f hf l s1 s' h).trans (hf _ _ _ h1)

/-- what the loops of `CVIART.fit` leave as it is -/
def cviKept (s : Gen.Gate.CVIART.Self Xt Wt P) :=
  (s.base_module.labels.length, s.data, s.validity, s.is_fitted_)

/-- **`CVIART.fit`**: when the generated method returns (the sklearn score may raise: F35), `labels_` has one entry per
sample, `data` is the training set, and the validity code is unchanged — for every number of epochs. -/
theorem cvi_fit_labels_length (E : Ext Xt Wt P C α) (MET : Metrics Xt α) (self self' : Gen.Gate.CVIART.Self Xt Wt P)
    (X : List Xt) (is_none : Bool) (user : Xt → Wt → Nat → P → C → Bool) (max_iter : Nat) (mt : MT) (eps : α)
    (h : Gen.Gate.CVIART.fit E MET self X is_none user max_iter mt eps = some self') :
    self'.base_module.labels.length = X.length ∧ self'.data = X ∧ self'.validity = self.validity ∧
      self'.is_fitted_ = true := by
  -- one sample: `step_fit` leaves `labels_` alone, the step overwrites one entry
  have step2 : ∀ it_ s (q : Xt × Nat) s',
      fit_loop2_body E MET X is_none user max_iter mt eps it_ s q = some s' → cviKept s' = cviKept s := by
    intro it_ s q s' h
    obtain ⟨l, hl, rfl⟩ := Option.map_eq_some_iff.mp ((cvi_step_spec ..).symm.trans h)
    rw [cviStepFit, step_fit_labels, npSet] at hl
    split at hl
    · cases hl
      exact Prod.ext List.length_set rfl
    · cases hl
  have step1 : ∀ s it_ s', fit_loop1_body E MET X is_none user max_iter mt eps s it_ = some s' → cviKept s' = cviKept s :=
    fun s it_ s' h => foldlM_keeps cviKept _ (step2 it_) _ s s' (by simpa [fit_loop1_body] using h)
  have hk := foldlM_keeps cviKept _ step1 (List.range max_iter) _ self'
    (by simpa [Gen.Gate.CVIART.fit, W_set, labels__set] using h)
  simp only [cviKept, Prod.mk.injEq] at hk
  obtain ⟨c1, c2, c3, c4⟩ := hk
  exact ⟨by simpa using c1, c2, c3, c4⟩

end CVIFit

/-! ### non-vacuity: the generated code runs -/

section Example

/-- a two-category module whose activations are the first weight coordinates, vigilance always passing -/
def exE : Ext (List ℚ) (List ℚ) Unit Unit ℚ :=
  { category_choice := fun _ _ w _ => (some (w.headD 0), ()), match_criterion_bin := fun _ _ _ _ _ => (true, ()),
    update := fun _ w _ _ => w, new_weight := fun x _ => x, match_tracking := fun _ _ p _ => (true, p),
    operator := fun _ => false, noneC := () }

/-- the generated `iCVI_CH` object after `{0, 1} → 0`, `{4} → 1` (criterion 49/3) -/
def exI : Option (Gen.ICVI.Self ℚ) := do
  let s ← Gen.ICVI.init [0]
  let s ← genAdd s [0] 0
  let s ← genAdd s [1] 0
  genAdd s [4] 1

def exSelf (off : Bool) (labels : List Nat) (s : Gen.ICVI.Self ℚ) : Gen.Gate.iCVIFuzzyART.Self (List ℚ) Unit ℚ :=
  { base := { W := [[0], [1]], cnt := [2, 1], n := 3, params := (), labels := labels }, offline := off, iCVI := s,
    index := 0, is_fitted_ := true }

/-- one generated training step (`labels_`, tracked criterion, number of categories afterwards) -/
def exRun (off : Bool) (labels : List Nat) (x : List ℚ) (i : Nat) (isn : Bool)
    (user : List ℚ → List ℚ → Nat → Unit → Unit → Bool) : Option (List Nat × ℚ × Nat) :=
  exI.bind (fun s => (Gen.Gate.iCVIFuzzyART.fit_loop2_body exE [] isn user 1 MT.plus 0 (exSelf off labels s) (x, i)).map
    (fun s => (s.base.labels, s.iCVI.criterion_value, s.base.W.length)))

/-- the generated gate allows `4 → cluster 1` (index 49/3 → 49) and vetoes `6 → cluster 1` -/
example : exI.map (fun s => (Gen.Gate.iCVIFuzzyART.iCVI_match (C := Unit) (exSelf false [0, 0, 1, 0] s) [4] [1] 1 () (),
    Gen.Gate.iCVIFuzzyART.iCVI_match (C := Unit) (exSelf false [0, 0, 1, 0] s) [6] [1] 1 () ())) =
    some (some true, some false) := by decide +kernel

/-- the generated step, online: the sample `4` joins the existing category 1 and the tracked value becomes 49 … -/
example : exRun false [0, 0, 1, 0] [4] 3 true (fun _ _ _ _ _ => true) = some ([0, 0, 1, 1], 49, 2) := by decide +kernel

/-- … `6` is vetoed for both categories: the search goes on and a new cluster (label 2) is created … -/
example : exRun false [0, 0, 1, 0] [6] 3 true (fun _ _ _ _ _ => true) = some ([0, 0, 1, 2], 89 / 4, 3) := by decide +kernel

/-- … and a user reset function that forbids category 1 sends `4` to a new cluster as well -/
example : exRun false [0, 0, 1, 0] [4] 3 false (fun _ _ c _ _ => c != 1) = some ([0, 0, 1, 2], 49 / 4, 3) := by
  decide +kernel

/-- offline mode (`switch_label`): the sample `1` (currently label 0) is vetoed for both categories — relabelling it does
not strictly improve the index — and moves to a new cluster 2 (three singletons: the index is 0 by convention) … -/
example : exRun true [0, 0, 1] [1] 1 true (fun _ _ _ _ _ => true) = some ([0, 2, 1], 0, 3) := by decide +kernel

/-- … while the sample `4`, the only member of cluster 1, cannot leave it: inside the gate the explicit `raise` of
`switch_label` counts as a veto, the search ends with a new category, and the commit `switch_label(x, 1, 2)` raises -/
example : exRun true [0, 0, 1] [4] 2 true (fun _ _ _ _ _ => true) = none := by decide +kernel

/-- five complement-coded points on the line -/
def exX : List (List ℚ) := [[0, 1], [1/10, 9/10], [1, 0], [9/10, 1/10], [1/2, 1/2]]

def exFresh (off : Bool) : Gen.Gate.iCVIFuzzyART.Self (List ℚ) ℚ ℚ :=
  { base := { W := [], cnt := [], n := 0, params := 1/2 }, offline := off, iCVI := ⟨0, 0, [], [], 0, 0⟩, index := 0,
    is_fitted_ := false }

/-- the whole generated `fit` with the Fuzzy ART kernel (rho = 1/2, alpha = 1/100, beta = 1), online and offline: the
labels, the tracked index and the number of categories are those `iCVIFuzzyART(0.5, 0.01, 1.0, 1, offline=…).fit(X)`
of the real library produces on this data (`[0, 1, 2, 2, 3]`, 54.33…, 4 and `[0, 1, 2, 2, 1]`, 8.647…, 3) -/
example : ((Gen.Gate.iCVIFuzzyART.fit (Control.scalarExt (fuzzyKernel (1/100 : ℚ) 1 1) 1000) (exFresh false) exX true
    (fun _ _ _ _ _ => true) 1 MT.plus 0).map (fun s => (s.base.labels, s.iCVI.criterion_value, s.base.W.length, s.is_fitted_)))
    = some ([0, 1, 2, 2, 3], 163 / 3, 4, true) := by decide +kernel
example : ((Gen.Gate.iCVIFuzzyART.fit (Control.scalarExt (fuzzyKernel (1/100 : ℚ) 1 1) 1000) (exFresh true) exX true
    (fun _ _ _ _ _ => true) 1 MT.plus 0).map (fun s => (s.base.labels, s.iCVI.criterion_value, s.base.W.length, s.is_fitted_)))
    = some ([0, 1, 2, 2, 1], 147 / 17, 3, true) := by decide +kernel

/-- an empty data set: `X[0]` raises -/
example : (Gen.Gate.iCVIFuzzyART.fit exE (exSelf true [] ⟨0, 0, [], [], 0, 0⟩) [] true (fun _ _ _ _ _ => true) 1
    MT.plus 0).isNone = true := by decide +kernel

/-- stand-ins for the sklearn scores; the silhouette raises on a single label (F35) -/
def exMET : Metrics (List ℚ) ℚ :=
  { calinski_harabasz_score := fun _ l => some (l.sum : ℚ), davies_bouldin_score := fun _ l => some (l.sum : ℚ),
    silhouette_score := fun _ l => if l.eraseDups.length < 2 then none else some (l.sum : ℚ) }

def exC (v : Nat) (labels : List Nat) : Gen.Gate.CVIART.Self (List ℚ) (List ℚ) Unit :=
  { base_module := { W := [[0], [1]], cnt := [1, 1], n := 2, params := (), labels := labels }, validity := v,
    data := [[0], [1], [4]], is_fitted_ := true }

/-- the generated CVIART gate allows (larger is better), vetoes (Davies-Bouldin: smaller is better), raises on an
unknown validity code, on an index past the end, and when sklearn raises -/
example : Gen.Gate.CVIART.CVI_match (C := Unit) exMET (exC 1 [0, 1, 0]) [4] [1] 1 () ⟨2, 1⟩ () = some true := by
  decide +kernel
example : Gen.Gate.CVIART.CVI_match (C := Unit) exMET (exC 2 [0, 1, 0]) [4] [1] 1 () ⟨2, 2⟩ () = some false := by
  decide +kernel
example : Gen.Gate.CVIART.CVI_match (C := Unit) exMET (exC 4 [0, 1, 0]) [4] [1] 1 () ⟨2, 4⟩ () = none := by
  decide +kernel
example : Gen.Gate.CVIART.CVI_match (C := Unit) exMET (exC 3 [0, 1, 0]) [4] [1] 1 () ⟨7, 3⟩ () = none := by
  decide +kernel
example : Gen.Gate.CVIART.CVI_match (C := Unit) exMET (exC 3 [0, 0, 0]) [4] [1] 1 () ⟨2, 3⟩ () = none := by
  decide +kernel

/-- the generated `CVIART.fit`, two epochs: while fewer than two categories exist the gate is open -/
example : ((Gen.Gate.CVIART.fit exE exMET (exC 1 []) [[0], [1], [4]] true (fun _ _ _ _ _ => true) 2 MT.plus 0).map
    (fun s => (s.base_module.labels, s.base_module.W.length, s.data.length))) = some ([0, 0, 0], 1, 3) := by
  decide +kernel

end Example

end Art.GenSpec.Gate
