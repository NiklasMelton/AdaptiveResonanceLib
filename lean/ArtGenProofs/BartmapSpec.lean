/-
ArtGenProofs.BartmapSpec — BARTMAP (`artlib/biclustering/BARTMAP.py`), as translated from the Python source by
`harness/artv/btrans.py` (ArtGen/Bartmap.lean), computes the definitions of `ArtModel/Bartmap.lean` that the C17
property theorems are stated about — for all matrices, all states of the two nested modules, every `eta`, every
`pearsonr` / `np.mean`.  The two nested ART modules are abstract objects (`ModOps`); what is assumed of them is the
structure `Tie` (their `fit` / `step_fit` / attribute reads and writes are the generic training functions of
ArtModel/Search on the state read off by `st`); `exTie` shows the assumptions satisfiable and the section
`Example` runs the generated code.

  get_x_cb_spec, average_pearson_corr_spec, match_criterion_bin_spec, match_reset_func_spec
        the translated correlation test = the reference definitions `selCols`, `avgCorr`, `critOf`, `resetOf` below
        (the model has no definition for it: the veto is an oracle parameter of `bartmapFit`)
  average_pearson_corr_nonsquare, gen_reset_nonsquare_raises
        finding F13 as a theorem about the generated code: the column mask indexes the *rows* of the matrix, so on a
        matrix with #rows ≠ #columns the correlation test raises whenever it is asked
  step_fit_spec         BARTMAP.step_fit = module_a.step_fit under the (row-index dependent, category independent) test
  properties_spec       row_labels_ / column_labels_ / n_row_clusters / n_column_clusters read the modules
  fit_epochs_spec       fit(X, max_iter) : module_b = fitEpochs alone, module_a = fitEpochs of the row kernel under the
                        veto `vetoOf (resetOf …)`, rows_ / columns_ = rowsOf / columnsOf
  fit_spec              fit(X, 1) = the model's `bartmapFit`
  gen_fit_shapes, gen_fit_partition, gen_fit_membership, gen_fit_columns_alone   C17 transported to the generated `fit`
Hypotheses of `fit_spec` (outside them the generated code is `none` = the Python code raises, where the model has no
exception): the matrix has at least one row and the prepared transpose at least one row (`np.vstack([])`); the
correlation test is defined for every row index (F13: it is not on non-square matrices, nor when `pearsonr` raises).
-/
import ArtGen.Bartmap
import ArtProps.C17
import ArtProofs.Imp
import ArtProofs.Map
import Mathlib.Data.Nat.Basic

set_option linter.unusedSectionVars false

namespace Art.GenSpec.Bartmap
open Art Art.Bartmap Art.ImpBartmap Art.Gen.BARTMAP

/-! ### small facts about the target language -/

section Basics
variable {β γ : Type}

theorem mapM_congr (f g : β → Option γ) (l : List β) (h : ∀ a ∈ l, f a = g a) : l.mapM f = l.mapM g := by
  induction l with
  | nil => rfl
  | cons a l ih =>
    simp only [List.mapM_cons]
    rw [h a List.mem_cons_self, ih (fun b hb => h b (List.mem_cons_of_mem _ hb))]

theorem npVstack_uniform (rows : List (List β)) (w : Nat) (hne : rows ≠ []) (h : ∀ r ∈ rows, r.length = w) :
    npVstack rows = some rows := by
  cases rows with
  | nil => exact absurd rfl hne
  | cons r rs =>
    have hall : rs.all (fun r' => r'.length == r.length) = true :=
      List.all_eq_true.mpr fun r' hr' =>
        beq_iff_eq.mpr ((h r' (List.mem_cons_of_mem _ hr')).trans (h r List.mem_cons_self).symm)
    rw [npVstack, if_pos hall]

/-- `np.vstack` of the masks of `rows_` / `columns_`: defined as soon as there is a pair of clusters -/
theorem npVstack_rowsOf {na nb : Nat} (hna : 0 < na) (hnb : 0 < nb) (L : List Nat) :
    npVstack (rowsOf na nb L) = some (rowsOf na nb L) :=
  npVstack_uniform _ L.length
    (List.ne_nil_of_length_pos (by rw [rowsOf_length]; exact Nat.mul_pos hna hnb))
    (Art.C17.bartmap_shapes na nb L []).2.2.1

theorem npVstack_columnsOf {na nb : Nat} (hna : 0 < na) (hnb : 0 < nb) (C : List Nat) :
    npVstack (columnsOf na nb C) = some (columnsOf na nb C) :=
  npVstack_uniform _ C.length
    (List.ne_nil_of_length_pos (by rw [columnsOf_length]; exact Nat.mul_pos hna hnb))
    (Art.C17.bartmap_shapes na nb [] C).2.2.2

end Basics

/-! ### the correlation test: reference definitions (hand-written) and `generated = reference` -/

section Ref
variable {α : Type} [LE α] [DecidableRel (α := α) (· ≤ ·)]

/-- `_get_x_cb`: the entries of `x` in the columns that carry label `c_b` -/
def selCols (colLabels : List Nat) (x : List α) (c_b : Nat) : Option (List α) :=
  npMask x (colLabels.map (· == c_b))

/-- `_average_pearson_corr(X, k, c_b)`: the mean, over the members of the cluster, of the correlation between row `k`
and the member, both restricted to the columns of cluster `c_b`.  As in the code (finding F13) the *members* are the
rows of `X` selected by the *column* mask. -/
def avgCorr (pearsonr : List α → List α → Option (α × α)) (mean : List α → α) (colLabels : List Nat)
    (X : List (List α)) (k c_b : Nat) : Option α :=
  match npMask X (colLabels.map (· == c_b)) with
  | none => none
  | some members =>
    if members.length = 0 then none
    else
      match X[k]? with
      | none => none
      | some xk =>
        match selCols colLabels xk c_b with
        | none => none
        | some xkc =>
          (members.mapM (fun xa => (selCols colLabels xa c_b).bind (fun xac => (pearsonr xkc xac).map (·.1)))).map mean

/-- `match_criterion_bin`: `M >= eta` -/
def critOf (pearsonr : List α → List α → Option (α × α)) (mean : List α → α) (eta : α) (colLabels : List Nat)
    (X : List (List α)) (k c_b : Nat) : Option Bool :=
  (avgCorr pearsonr mean colLabels X k c_b).map (fun M => decide (eta ≤ M))

/-- the loop of `match_reset_func`: the first column cluster that raises makes the call raise, the first one that
passes answers `True`; none passes: `False` -/
def anyCrit (crit : Nat → Option Bool) : List Nat → Option Bool
  | [] => some false
  | c :: cs =>
    match crit c with
    | none => none
    | some true => some true
    | some false => anyCrit crit cs

/-- `match_reset_func` with `extra = {"k": k}`, for `nb` column clusters -/
def resetOf (pearsonr : List α → List α → Option (α × α)) (mean : List α → α) (eta : α) (colLabels : List Nat)
    (nb : Nat) (X : List (List α)) (k : Nat) : Option Bool :=
  anyCrit (critOf pearsonr mean eta colLabels X k) (List.range nb)

/-- F13 in the reference definitions: a column mask cannot select rows of a matrix that is not square -/
theorem avgCorr_nonsquare (pearsonr : List α → List α → Option (α × α)) (mean : List α → α) (colLabels : List Nat)
    (X : List (List α)) (k c_b : Nat) (h : X.length ≠ colLabels.length) :
    avgCorr pearsonr mean colLabels X k c_b = none := by
  have hmask : npMask X (colLabels.map (· == c_b)) = none := by rw [npMask, List.length_map, if_neg h]
  rw [avgCorr, hmask]

/-- … so the reset function raises as soon as there is a column cluster to ask about -/
theorem resetOf_nonsquare (pearsonr : List α → List α → Option (α × α)) (mean : List α → α) (eta : α)
    (colLabels : List Nat) {nb : Nat} (hnb : 0 < nb) (X : List (List α)) (k : Nat)
    (h : X.length ≠ colLabels.length) : resetOf pearsonr mean eta colLabels nb X k = none := by
  obtain ⟨n, rfl⟩ := Nat.exists_eq_succ_of_ne_zero (Nat.ne_of_gt hnb)
  rw [resetOf, List.range_succ_eq_map, anyCrit, critOf, avgCorr_nonsquare pearsonr mean colLabels X k 0 h]
  rfl

variable {MA MB SA SB WA WB P C : Type}
variable (opsA : ModOps MA SA WA P C α) (opsB : ModOps MB SB WB P C α)
  (pearsonr : List α → List α → Option (α × α)) (mean : List α → α) (eta : α)

/-- **`_get_x_cb`** -/
theorem get_x_cb_spec (mb : MB) (x : List α) (c_b : Nat) :
    p_get_x_cb opsB mb x c_b = selCols (opsB.labels_ mb) x c_b := by
  unfold p_get_x_cb selCols npEqMask
  cases npMask x ((opsB.labels_ mb).map (· == c_b)) <;> rfl

/-- **`_average_pearson_corr`** = the reference `avgCorr` on the column labels of `module_b` -/
theorem average_pearson_corr_spec (mb : MB) (X : List (List α)) (k c_b : Nat) :
    p_average_pearson_corr opsB pearsonr mean mb X k c_b = avgCorr pearsonr mean (opsB.labels_ mb) X k c_b := by
  unfold p_average_pearson_corr avgCorr column_labels_ p_pearsonr
  simp only [get_x_cb_spec, npEqMask, Option.pure_def, Option.bind_eq_bind, Option.bind_some]
  cases npMask X ((opsB.labels_ mb).map (· == c_b)) with
  | none => rfl
  | some members =>
    dsimp only [Option.bind_some, pyRaiseIf]
    by_cases hm : members.length = 0
    · simp only [hm, decide_true, ↓reduceIte]
      rfl
    · simp only [hm, decide_false, Bool.false_eq_true, ↓reduceIte]
      cases X[k]? with
      | none => rfl
      | some xk =>
        dsimp only [Option.bind_some]
        cases selCols (opsB.labels_ mb) xk c_b with
        | none => rfl
        | some xkc =>
          dsimp only [Option.bind_some]
          -- what is left differs in `o.map f` written as `o.bind (some ∘ f)`
          simp only [Option.map_eq_bind, Function.comp_def]

/-- **F13 for the generated code**: the boolean mask `column_labels_ == c_b` (one entry per matrix *column*) indexes
the *rows* of `X`; when the matrix is not square this raises, for every row and every column cluster. -/
theorem average_pearson_corr_nonsquare (mb : MB) (X : List (List α)) (k c_b : Nat)
    (h : X.length ≠ (opsB.labels_ mb).length) :
    p_average_pearson_corr opsB pearsonr mean mb X k c_b = none := by
  rw [average_pearson_corr_spec]
  exact avgCorr_nonsquare pearsonr mean _ X k c_b h

/-- **`match_criterion_bin`** = `avgCorr ≥ eta` -/
theorem match_criterion_bin_spec (mb : MB) (X : List (List α)) (k c_b : Nat) (params : P) :
    match_criterion_bin opsB pearsonr mean eta mb X k c_b params
      = critOf pearsonr mean eta (opsB.labels_ mb) X k c_b := by
  unfold match_criterion_bin critOf
  rw [average_pearson_corr_spec]
  cases avgCorr pearsonr mean (opsB.labels_ mb) X k c_b <;> rfl

theorem forRet_anyCrit (crit : Nat → Option Bool) (l : List Nat) :
    (forRet l (fun c => (crit c).bind fun b => if b = true then some (some true) else some none)).bind
        (fun r => match r with
          | some v => some v
          | none => some false)
      = anyCrit crit l := by
  induction l with
  | nil => rfl
  | cons c l ih =>
    simp only [forRet, anyCrit]
    cases hc : crit c with
    | none => rfl
    | some b =>
      cases b with
      | true => rfl
      | false => exact ih

/-- **`match_reset_func`**: independent of the sample, the weight, the row cluster, `params` and `cache`; with
`extra = {"k": k}` it is `resetOf … k` on the column labels and the number of weights of `module_b` -/
theorem match_reset_func_spec (mb : MB) (X : List (List α)) (i : SA) (w : WA) (cluster_a : Nat) (params : P)
    (extra : List (String × Nat)) (cache : Option C) :
    match_reset_func opsB pearsonr mean eta mb X i w cluster_a params extra cache
      = (dictGet extra "k").bind
          (resetOf pearsonr mean eta (opsB.labels_ mb) (opsB.W mb).length X) := by
  unfold match_reset_func resetOf
  cases dictGet extra "k" with
  | none => rfl
  | some k =>
    simp only [Option.bind_eq_bind, Option.bind_some, match_criterion_bin_spec, Option.pure_def]
    rw [← forRet_anyCrit]
    congr 1

/-- **`BARTMAP.step_fit`**: `module_a.step_fit` on row `k` of the prepared matrix, under a reset function that
answers `resetOf … k` whatever it is asked -/
theorem step_fit_spec (ma : MA) (mb : MB) (X : List (List α)) (Xa : List SA) (k : Nat) :
    step_fit opsA opsB pearsonr mean eta ma mb X Xa k
      = (Xa[k]?).bind (fun x => opsA.step_fit ma x
          (fun _ _ _ _ _ => resetOf pearsonr mean eta (opsB.labels_ mb) (opsB.W mb).length X k)) := by
  unfold step_fit
  simp only [match_reset_func_spec, dictGet, List.lookup, beq_self_eq_true, Option.bind_eq_bind, Option.bind_some,
    Option.pure_def]
  cases Xa[k]? with
  | none => rfl
  | some x =>
    simp only [Option.bind_some]
    cases opsA.step_fit ma x _ with
    | none => rfl
    | some r => rfl

/-- **the four properties** read the nested modules -/
theorem properties_spec (ma : MA) (mb : MB) :
    row_labels_ opsA ma = some (opsA.labels_ ma) ∧ column_labels_ opsB mb = some (opsB.labels_ mb) ∧
    n_row_clusters opsA ma = some (opsA.n_clusters ma) ∧ n_column_clusters opsB mb = some (opsB.n_clusters mb) :=
  ⟨rfl, rfl, rfl, rfl⟩

end Ref

/-! ### loops of the generated code against folds of the model -/

section Loops
variable {M σ A : Type}

/-- a monadic loop over abstract objects simulates a pure fold over the states read off them, as long as every step
does (on states that satisfy an invariant the step preserves) -/
theorem foldlM_sim (st : M → σ) (I : σ → Prop) (body : M → A → Option M) (step : σ → A → σ) (l : List A)
    (h : ∀ m a, a ∈ l → I (st m) → ∃ m', body m a = some m' ∧ st m' = step (st m) a ∧ I (st m'))
    (m : M) (hm : I (st m)) :
    ∃ m', l.foldlM body m = some m' ∧ st m' = l.foldl step (st m) ∧ I (st m') := by
  induction l generalizing m with
  | nil => exact ⟨m, rfl, rfl, hm⟩
  | cons a l ih =>
    obtain ⟨m1, hb, hs, hi⟩ := h m a List.mem_cons_self hm
    obtain ⟨m2, h2, hs2, hi2⟩ := ih (fun m a ha => h m a (List.mem_cons_of_mem _ ha)) m1 hi
    refine ⟨m2, ?_, ?_, hi2⟩
    · rw [List.foldlM_cons, hb]; exact h2
    · rw [List.foldl_cons, ← hs]; exact hs2

/-- `for k in range(len(l)): … l[k] …` is a fold over the indexed list -/
theorem foldl_range_lookup {β : Type} (l : List β) (h : σ → β → Nat → σ) (s : σ) :
    (List.range l.length).foldl (fun s k => match l[k]? with
        | some x => h s x k
        | none => s) s
      = l.zipIdx.foldl (fun s xk => h s xk.1 xk.2) s := by
  have e : List.range l.length = l.zipIdx.map Prod.snd := by
    rw [List.zipIdx_map_snd, List.range_eq_range']
  rw [e, List.foldl_map]
  refine List.foldl_ext _ _ _ fun s xk hxk => ?_
  rw [List.mk_mem_zipIdx_iff_getElem?.mp hxk]

theorem zipIdx_zipIdx {β : Type} (l : List β) (n : Nat) :
    (l.zipIdx n).zipIdx n = (l.zipIdx n).map (fun xk => (xk, xk.2)) := by
  induction l generalizing n with
  | nil => rfl
  | cons a l ih => rw [List.zipIdx_cons, List.zipIdx_cons, List.map_cons, ih]

end Loops

/-! ### the model's training fold: facts the tie needs -/

section Model
variable {X Wt α μ θ : Type} [LinearOrder α]

/-- a sample that carries its row index: the kernel ignores the index (the veto reads it) -/
def liftK (K : Kernel X Wt α μ) : Kernel (X × Nat) Wt α μ :=
  { choice := fun W xk w => K.choice W xk.1 w
    matchv := fun xk w => K.matchv xk.1 w
    update := fun xk w => K.update xk.1 w
    newW := fun xk => K.newW xk.1 }

theorem stepFit_liftK (K : Kernel X Wt α μ) (cfg : SearchCfg μ θ) (th : θ) (v : Nat → Bool) (s : ArtState Wt)
    (x : X) (k : Nat) : stepFit (liftK K) cfg th v s (x, k) = stepFit K cfg th v s x := rfl

/-- the veto of the row module: the reset function of row `k` answered `False` (an undefined answer reads as "no
veto"; `fit_spec` assumes the answers defined) -/
def vetoOf (r : Nat → Option Bool) : X × Nat → Nat → Bool := fun xk _ => !((r xk.2).getD true)

/-- one epoch of `fitEpochs` is the model's `fit`: writing the labels into a pre-allocated vector is appending them
(the `partialFit` fold) -/
theorem fitEpochs_one (K : Kernel X Wt α μ) (cfg : SearchCfg μ θ) (th0 : θ) (vetoF : X → Nat → Bool)
    (s : ArtState Wt) (xs : List X) :
    fitEpochs K cfg th0 (fun _ x c => vetoF x c) 1 xs = Art.fit K cfg th0 (fun _ x c => vetoF x c) s xs :=
  Art.Imp.foldl_zipIdx_write (epochStep K cfg th0 (fun _ x c => vetoF x c))
    (trainStep K cfg th0 (fun _ x c => vetoF x c)) (fun m L => { m with labels := L })
    ArtState.labels (fun m x => (stepFit K cfg th0 (vetoF x) m x).2) 0
    (fun m L x i => by rw [epochStep_eq, stepFit_with_labels, trainStep_eq]; rfl)
    (fun m x => congrArg ArtState.labels (trainStep_eq K cfg th0 _ m x))
    xs 0 {} (List.replicate xs.length 0) rfl List.length_replicate

/-- training on at least one sample leaves at least one category -/
theorem fit_W_pos (K : Kernel X Wt α μ) (cfg : SearchCfg μ θ) (th0 : θ) (veto : ArtState Wt → X → Nat → Bool)
    (s0 : ArtState Wt) (xs : List X) (h : xs ≠ []) : 0 < (Art.fit K cfg th0 veto s0 xs).W.length := by
  obtain ⟨h1, h2, _⟩ := fit_labels_lt K cfg th0 veto s0 xs
  have hpos : 0 < (Art.fit K cfg th0 veto s0 xs).labels.length := h2 ▸ List.length_pos_iff.mpr h
  exact Nat.zero_lt_of_lt (h1 _ (List.getElem_mem hpos))

end Model

/-! ### the tie of a nested module to the generic training functions, and `fit` -/

section TieSec

/-- what ties an abstract nested module to the model of an elementary ART module (`ArtModel/Search`): `st` reads the
observable training state off the object; the kernel, search configuration and threshold are the module's -/
structure Tie {M S Wt P C α β μ θ : Type} [LinearOrder β]
    (ops : ModOps M S Wt P C α) (st : M → ArtState Wt) (K : Kernel S Wt β μ) (cfg : SearchCfg μ θ) (th : θ) : Prop where
  /-- `prepare_data` works row by row -/
  prep_len : ∀ m X, (ops.prepare_data m X).length = X.length
  /-- `fit(X, max_iter)` without a reset function: the model's `fitEpochs`, whatever the estimator held before -/
  fit : ∀ m Xs it, st (ops.fit m Xs it) = fitEpochs K cfg th noVeto it Xs
  W : ∀ m, (ops.W m).length = (st m).W.length
  labels : ∀ m, ops.labels_ m = (st m).labels
  n_clusters : ∀ m, ops.n_clusters m = (st m).W.length
  set_W : ∀ m w, st (ops.set_W m w) = { st m with W := w }
  set_cnt : ∀ m c, st (ops.set_weight_sample_counter_ m c) = { st m with cnt := c }
  set_n : ∀ m n, st (ops.set_sample_counter_ m n) = { st m with n := n }
  set_labels : ∀ m l, st (ops.set_labels_ m l) = { st m with labels := l }
  setitem : ∀ m k c, k < (st m).labels.length →
    ∃ m', ops.labels_setitem m k c = some m' ∧ st m' = { st m with labels := (st m).labels.set k c }
  pre : ∀ m Xs, st (ops.pre_step_fit m Xs) = st m
  post : ∀ m Xs, st (ops.post_step_fit m Xs) = st m
  /-- `step_fit(x, match_reset_func=f)` with a reset function that never raises and answers `g c` for category `c`
  (whatever else it is given): the model's `stepFit` under the veto `¬ g c` -/
  step_fit : ∀ m x (f : S → Wt → Nat → P → Option C → Option Bool) (g : Nat → Bool),
    (∀ i w c p ca, f i w c p ca = some (g c)) →
    ∃ m', ops.step_fit m x f = some (m', (stepFit K cfg th (fun c => !g c) (st m) x).2) ∧
      st m' = (stepFit K cfg th (fun c => !g c) (st m) x).1

variable {MA MB SA SB WA WB P C α αa αb μa μb θa θb : Type} [LE α] [DecidableRel (α := α) (· ≤ ·)]
  [LinearOrder αa] [LinearOrder αb]
variable {opsA : ModOps MA SA WA P C α} {opsB : ModOps MB SB WB P C α}
  {stA : MA → ArtState WA} {stB : MB → ArtState WB}
  {Ka : Kernel SA WA αa μa} {cfga : SearchCfg μa θa} {tha : θa}
  {Kb : Kernel SB WB αb μb} {cfgb : SearchCfg μb θb} {thb : θb}

/-- one pass of the inner loop of `fit`, with the labels `L` and the number `nb` of categories of the (fitted) column
module and the number `n` of rows as `fit` has them at hand -/
theorem fit_inner_loop_of (TA : Tie opsA stA Ka cfga tha) (pearsonr : List α → List α → Option (α × α))
    (mean : List α → α) (eta : α) (mb : MB) (X : List (List α)) (Xa : List SA) {L : List Nat} {nb n : Nat}
    (hL : opsB.labels_ mb = L) (hW : (opsB.W mb).length = nb) (hn : Xa.length = n)
    (hdef : ∀ k, k < n → (resetOf pearsonr mean eta L nb X k).isSome)
    (m : MA) (hm : (stA m).labels.length = n) :
    ∃ m', (List.range n).foldlM (fun module_a k =>
        (step_fit opsA opsB pearsonr mean eta (opsA.pre_step_fit module_a Xa) mb X Xa k).bind fun r =>
          (opsA.labels_setitem r.1 k r.2).bind fun module_a => some (opsA.post_step_fit module_a Xa)) m = some m' ∧
      stA m' = (Xa.zipIdx.zipIdx).foldl (epochStep (liftK Ka) cfga tha
        (fun _ xk c => vetoOf (resetOf pearsonr mean eta L nb X) xk c)) (stA m) ∧
      (stA m').labels.length = n := by
  subst hL hW hn
  rw [zipIdx_zipIdx, List.foldl_map, ← foldl_range_lookup Xa (fun s x k => epochStep (liftK Ka) cfga tha
        (fun _ xk c => vetoOf (resetOf pearsonr mean eta (opsB.labels_ mb) (opsB.W mb).length X) xk c) s ((x, k), k))]
  apply foldlM_sim stA (fun s => s.labels.length = Xa.length)
  · intro m k hk hI
    have hk' : k < Xa.length := List.mem_range.mp hk
    obtain ⟨b, hb⟩ := Option.isSome_iff_exists.mp (hdef k hk')
    rw [step_fit_spec, List.getElem?_eq_getElem hk', hb]
    obtain ⟨m2, h2, hs2⟩ := TA.step_fit (opsA.pre_step_fit m Xa) Xa[k] (fun _ _ _ _ _ => some b) (fun _ => b)
      (fun _ _ _ _ _ => rfl)
    rw [TA.pre] at h2 hs2
    have hlab := (stepFit_frame Ka cfga tha (fun _ => !b) (stA m) Xa[k]).2.1
    obtain ⟨m3, h3, hs3⟩ := TA.setitem m2 k (stepFit Ka cfga tha (fun _ => !b) (stA m) Xa[k]).2
      (by rw [hs2, hlab, hI]; exact hk')
    refine ⟨opsA.post_step_fit m3 Xa, ?_, ?_, ?_⟩
    · simp only [Option.bind_some, h2, h3]
    · rw [TA.post, hs3, hs2]
      simp only [epochStep, vetoOf, hb, Option.getD_some, stepFit_liftK]
    · rw [TA.post, hs3, hs2]
      simp only [List.length_set, hlab, hI]
  · exact hm

/-- one pass of the inner loop of `fit` (`for k in range(n)`) = one epoch of the model's `fitEpochs` on the indexed
prepared rows -/
theorem fit_inner_loop (TA : Tie opsA stA Ka cfga tha) (pearsonr : List α → List α → Option (α × α))
    (mean : List α → α) (eta : α) (mb : MB) (X : List (List α)) (Xa : List SA)
    (hdef : ∀ k, k < Xa.length →
      (resetOf pearsonr mean eta (opsB.labels_ mb) (opsB.W mb).length X k).isSome)
    (m : MA) (hm : (stA m).labels.length = Xa.length) :
    ∃ m', (List.range Xa.length).foldlM (fun module_a k =>
        (step_fit opsA opsB pearsonr mean eta (opsA.pre_step_fit module_a Xa) mb X Xa k).bind fun r =>
          (opsA.labels_setitem r.1 k r.2).bind fun module_a => some (opsA.post_step_fit module_a Xa)) m = some m' ∧
      stA m' = (Xa.zipIdx.zipIdx).foldl (epochStep (liftK Ka) cfga tha
        (fun _ xk c => vetoOf (resetOf pearsonr mean eta (opsB.labels_ mb) (opsB.W mb).length X) xk c)) (stA m) ∧
      (stA m').labels.length = Xa.length :=
  fit_inner_loop_of TA pearsonr mean eta mb X Xa rfl rfl rfl hdef m hm

/-- **`BARTMAP.fit(X, max_iter)`**: the column module is `fitEpochs` alone on the prepared transpose; the row module,
emptied, is `fitEpochs` of the row kernel on the prepared rows (each carrying its index) under the veto that the
translated reset function computes from the fitted column module; `rows_` / `columns_` are the model's `rowsOf` /
`columnsOf`.  Hypotheses: the reset function is defined for every row index (F13), both modules end with at least one
category (`np.vstack([])` raises). -/
theorem fit_epochs_spec (TA : Tie opsA stA Ka cfga tha) (TB : Tie opsB stB Kb cfgb thb)
    (pearsonr : List α → List α → Option (α × α)) (mean : List α → α) (eta : α) (ma : MA) (mb : MB)
    (X : List (List α)) (it : Nat) :
    let Xa := opsA.prepare_data ma X
    let Xb := opsB.prepare_data mb (npT X)
    let b := fitEpochs Kb cfgb thb noVeto it Xb
    let r := resetOf pearsonr mean eta b.labels b.W.length X
    let a := fitEpochs (liftK Ka) cfga tha (fun _ xk c => vetoOf r xk c) it Xa.zipIdx
    (∀ k, k < X.length → (r k).isSome) → 0 < a.W.length → 0 < b.W.length →
    ∃ res, Art.Gen.BARTMAP.fit opsA opsB pearsonr mean eta ma mb X it = some res ∧
      stA res.module_a = a ∧ stB res.module_b = b ∧ res.X = X ∧
      res.rows_ = rowsOf a.W.length b.W.length a.labels ∧
      res.columns_ = columnsOf a.W.length b.W.length b.labels := by
  intro Xa Xb b r a hdef hna hnb
  have hXa : Xa.length = X.length := TA.prep_len ma X
  -- the fitted column module
  have hb : stB (opsB.fit mb Xb it) = b := TB.fit mb Xb it
  have hbl : opsB.labels_ (opsB.fit mb Xb it) = b.labels := by rw [TB.labels, hb]
  have hbw : (opsB.W (opsB.fit mb Xb it)).length = b.W.length := by rw [TB.W, hb]
  -- the emptied row module
  have h0 : stA (opsA.set_labels_ (opsA.set_sample_counter_ (opsA.set_weight_sample_counter_
      (opsA.set_W ma []) []) 0) (List.replicate X.length 0))
      = { W := [], cnt := [], n := 0, labels := List.replicate Xa.zipIdx.length 0 } := by
    rw [TA.set_labels, TA.set_n, TA.set_cnt, TA.set_W, List.length_zipIdx, hXa]
  -- the two loops
  have houter := foldlM_sim stA (fun s => s.labels.length = X.length) _
    (fun s _ => (Xa.zipIdx.zipIdx).foldl (epochStep (liftK Ka) cfga tha (fun _ xk c => vetoOf r xk c)) s)
    (List.range it)
    (fun m _ _ hI => fit_inner_loop_of TA pearsonr mean eta (opsB.fit mb Xb it) X Xa hbl hbw hXa hdef m hI)
    (opsA.set_labels_ (opsA.set_sample_counter_ (opsA.set_weight_sample_counter_
      (opsA.set_W ma []) []) 0) (List.replicate X.length 0))
    (by rw [h0]; exact List.length_replicate.trans (List.length_zipIdx.trans hXa))
  obtain ⟨ma', hloop, hsa, _⟩ := houter
  rw [h0] at hsa
  have ha : stA ma' = a := hsa
  have hal : opsA.labels_ ma' = a.labels := by rw [TA.labels, ha]
  have han : opsA.n_clusters ma' = a.W.length := by rw [TA.n_clusters, ha]
  have hbn : opsB.n_clusters (opsB.fit mb Xb it) = b.W.length := by rw [TB.n_clusters, hb]
  refine ⟨⟨ma', opsB.fit mb Xb it, X, rowsOf a.W.length b.W.length a.labels,
    columnsOf a.W.length b.W.length b.labels⟩, ?_, ha, hb, rfl, rfl, rfl⟩
  unfold Art.Gen.BARTMAP.fit
  simp only [Option.bind_eq_bind, Option.pure_def] at hloop ⊢
  rw [hloop, show opsB.prepare_data mb (npT X) = Xb from rfl]
  simp only [Option.bind_some, row_labels_, column_labels_, Option.pure_def, hal, hbl, han, hbn, npEqMask, mapM_some,
    ← List.flatMap_def]
  rw [← rowsOf, ← columnsOf, npVstack_rowsOf hna hnb, npVstack_columnsOf hna hnb]
  rfl

/-- the answers of the translated reset function, row index by row index, once the column module is fitted (one
epoch) on the prepared transpose -/
def rowReset (opsB : ModOps MB SB WB P C α) (Kb : Kernel SB WB αb μb) (cfgb : SearchCfg μb θb) (thb : θb)
    (pearsonr : List α → List α → Option (α × α)) (mean : List α → α) (eta : α) (mb : MB) (X : List (List α)) :
    Nat → Option Bool :=
  resetOf pearsonr mean eta (Art.fit Kb cfgb thb noVeto {} (opsB.prepare_data mb (npT X))).labels
    (Art.fit Kb cfgb thb noVeto {} (opsB.prepare_data mb (npT X))).W.length X

/-- the instance of the model's `bartmapFit` that the generated `fit` computes: row kernel on the indexed prepared
rows, column kernel on the prepared transpose, veto = the translated reset function answered `False` -/
def modelOf (opsA : ModOps MA SA WA P C α) (opsB : ModOps MB SB WB P C α)
    (Ka : Kernel SA WA αa μa) (cfga : SearchCfg μa θa) (tha : θa)
    (Kb : Kernel SB WB αb μb) (cfgb : SearchCfg μb θb) (thb : θb)
    (pearsonr : List α → List α → Option (α × α)) (mean : List α → α) (eta : α) (ma : MA) (mb : MB)
    (X : List (List α)) : BartState WA WB :=
  bartmapFit (liftK Ka) cfga tha Kb cfgb thb (vetoOf (rowReset opsB Kb cfgb thb pearsonr mean eta mb X))
    (opsA.prepare_data ma X).zipIdx (opsB.prepare_data mb (npT X))

/-- **`BARTMAP.fit(X)`** (one epoch, the default) **= the model's `bartmapFit`** on the indexed prepared rows and the
prepared transpose, with the veto that the translated reset function computes from the fitted column module.
Hypotheses: at least one matrix row and one prepared column sample; the reset function is defined for every row (F13). -/
theorem fit_spec (TA : Tie opsA stA Ka cfga tha) (TB : Tie opsB stB Kb cfgb thb)
    (pearsonr : List α → List α → Option (α × α)) (mean : List α → α) (eta : α) (ma : MA) (mb : MB)
    (X : List (List α)) (hX : X ≠ []) (hXb : opsB.prepare_data mb (npT X) ≠ [])
    (hdef : ∀ k, k < X.length → (rowReset opsB Kb cfgb thb pearsonr mean eta mb X k).isSome) :
    ∃ res, Art.Gen.BARTMAP.fit opsA opsB pearsonr mean eta ma mb X 1 = some res ∧
      stA res.module_a = (modelOf opsA opsB Ka cfga tha Kb cfgb thb pearsonr mean eta ma mb X).a ∧
      stB res.module_b = (modelOf opsA opsB Ka cfga tha Kb cfgb thb pearsonr mean eta ma mb X).b ∧
      res.X = X ∧
      res.rows_ = (modelOf opsA opsB Ka cfga tha Kb cfgb thb pearsonr mean eta ma mb X).rows ∧
      res.columns_ = (modelOf opsA opsB Ka cfga tha Kb cfgb thb pearsonr mean eta ma mb X).cols := by
  have hrows : (opsA.prepare_data ma X).zipIdx ≠ [] :=
    List.ne_nil_of_length_pos (by rw [List.length_zipIdx, TA.prep_len]; exact List.length_pos_iff.mpr hX)
  have h := fit_epochs_spec TA TB pearsonr mean eta ma mb X 1
  dsimp only at h
  -- one epoch is the model's `fit`, for the column module and then for the row module
  have eb : fitEpochs Kb cfgb thb noVeto 1 _ = Art.fit Kb cfgb thb noVeto {} _ :=
    fitEpochs_one Kb cfgb thb (fun _ _ => false) {} (opsB.prepare_data mb (npT X))
  rw [eb, fitEpochs_one (liftK Ka) cfga tha (vetoOf _) {}] at h
  exact h hdef (fit_W_pos (liftK Ka) cfga tha _ {} _ hrows) (fit_W_pos Kb cfgb thb noVeto {} _ hXb)

/-! ### the C17 property theorems, transported to the generated `fit` -/

/-- **Shapes of the generated `fit`** (transport of `C17.bartmap_fit_partition`, shape part): the call succeeds;
`rows_` / `columns_` have one row per (row cluster, column cluster) pair; every row of `rows_` is as wide as the matrix
has rows, every row of `columns_` as wide as the transposed matrix has rows. -/
theorem gen_fit_shapes (TA : Tie opsA stA Ka cfga tha) (TB : Tie opsB stB Kb cfgb thb)
    (pearsonr : List α → List α → Option (α × α)) (mean : List α → α) (eta : α) (ma : MA) (mb : MB)
    (X : List (List α)) (hX : X ≠ []) (hXb : opsB.prepare_data mb (npT X) ≠ [])
    (hdef : ∀ k, k < X.length → (rowReset opsB Kb cfgb thb pearsonr mean eta mb X k).isSome) :
    ∃ res, Art.Gen.BARTMAP.fit opsA opsB pearsonr mean eta ma mb X 1 = some res ∧
      res.rows_.length = opsA.n_clusters res.module_a * opsB.n_clusters res.module_b ∧
      res.columns_.length = opsA.n_clusters res.module_a * opsB.n_clusters res.module_b ∧
      (∀ row ∈ res.rows_, row.length = X.length) ∧
      (∀ row ∈ res.columns_, row.length = (npT X).length) := by
  obtain ⟨res, hres, ha, hb, _, hr, hc⟩ := fit_spec TA TB pearsonr mean eta ma mb X hX hXb hdef
  obtain ⟨p1, p2, p3, p4, _⟩ := Art.C17.bartmap_fit_partition (liftK Ka) cfga tha Kb cfgb thb
    (vetoOf (rowReset opsB Kb cfgb thb pearsonr mean eta mb X))
    (opsA.prepare_data ma X).zipIdx (opsB.prepare_data mb (npT X))
  refine ⟨res, hres, ?_, ?_, ?_, ?_⟩
  · rw [hr, TA.n_clusters, TB.n_clusters, ha, hb]; exact p1
  · rw [hc, TA.n_clusters, TB.n_clusters, ha, hb]; exact p2
  · intro row hrow; rw [hr] at hrow; rw [p3 row hrow, List.length_zipIdx, TA.prep_len]
  · intro row hrow; rw [hc] at hrow; rw [p4 row hrow, TB.prep_len]

/-- **Every cell in exactly one bicluster** (transport of `C17.bartmap_fit_partition`): after the generated `fit`,
cell `(i, j)` of the matrix lies in exactly the bicluster `row_labels_[i] · n_column_clusters + column_labels_[j]`. -/
theorem gen_fit_partition (TA : Tie opsA stA Ka cfga tha) (TB : Tie opsB stB Kb cfgb thb)
    (pearsonr : List α → List α → Option (α × α)) (mean : List α → α) (eta : α) (ma : MA) (mb : MB)
    (X : List (List α)) (hX : X ≠ []) (hXb : opsB.prepare_data mb (npT X) ≠ [])
    (hdef : ∀ k, k < X.length → (rowReset opsB Kb cfgb thb pearsonr mean eta mb X k).isSome)
    (i j : Nat) (hi : i < X.length) (hj : j < (npT X).length) :
    ∃ res la lb, Art.Gen.BARTMAP.fit opsA opsB pearsonr mean eta ma mb X 1 = some res ∧
      (opsA.labels_ res.module_a)[i]? = some la ∧ (opsB.labels_ res.module_b)[j]? = some lb ∧
      cellBiclusters res.rows_ res.columns_ i j = [la * opsB.n_clusters res.module_b + lb] := by
  obtain ⟨res, hres, ha, hb, _, hr, hc⟩ := fit_spec TA TB pearsonr mean eta ma mb X hX hXb hdef
  obtain ⟨_, _, _, _, p5⟩ := Art.C17.bartmap_fit_partition (liftK Ka) cfga tha Kb cfgb thb
    (vetoOf (rowReset opsB Kb cfgb thb pearsonr mean eta mb X))
    (opsA.prepare_data ma X).zipIdx (opsB.prepare_data mb (npT X))
  rw [modelOf] at ha hb hr hc
  -- each module has one label per sample it was fitted on: matrix rows, matrix columns
  have hi' : i < (stA res.module_a).labels.length := by
    rw [ha]
    exact hi.trans_eq ((fit_labels_lt _ _ _ _ {} _).2.1.trans (List.length_zipIdx.trans (TA.prep_len ma X))).symm
  have hj' : j < (stB res.module_b).labels.length := by
    rw [hb]
    exact hj.trans_eq ((fit_labels_lt _ _ _ _ {} _).2.1.trans (TB.prep_len mb _)).symm
  refine ⟨res, (stA res.module_a).labels[i], (stB res.module_b).labels[j], hres, ?_, ?_, ?_⟩
  · rw [TA.labels]; exact List.getElem?_eq_getElem hi'
  · rw [TB.labels]; exact List.getElem?_eq_getElem hj'
  · simp only [hr, hc, TB.n_clusters, ha, hb]
    exact (p5 i j (ha ▸ hi') (hb ▸ hj')).2.2

/-- **Membership agrees with the labels** (transport of `C17.bartmap_membership_agrees`): bicluster `(a, b)` of the
generated `fit` sits at index `a · n_column_clusters + b`; matrix row `i` is in it iff `row_labels_[i] = a`, matrix
column `j` iff `column_labels_[j] = b`. -/
theorem gen_fit_membership (TA : Tie opsA stA Ka cfga tha) (TB : Tie opsB stB Kb cfgb thb)
    (pearsonr : List α → List α → Option (α × α)) (mean : List α → α) (eta : α) (ma : MA) (mb : MB)
    (X : List (List α)) (hX : X ≠ []) (hXb : opsB.prepare_data mb (npT X) ≠ [])
    (hdef : ∀ k, k < X.length → (rowReset opsB Kb cfgb thb pearsonr mean eta mb X k).isSome) :
    ∃ res, Art.Gen.BARTMAP.fit opsA opsB pearsonr mean eta ma mb X 1 = some res ∧
      ∀ a b, a < opsA.n_clusters res.module_a → b < opsB.n_clusters res.module_b →
        (∀ i, memberAt res.rows_ (a * opsB.n_clusters res.module_b + b) i = true
            ↔ (opsA.labels_ res.module_a)[i]? = some a) ∧
        (∀ j, memberAt res.columns_ (a * opsB.n_clusters res.module_b + b) j = true
            ↔ (opsB.labels_ res.module_b)[j]? = some b) := by
  obtain ⟨res, hres, ha, hb, _, hr, hc⟩ := fit_spec TA TB pearsonr mean eta ma mb X hX hXb hdef
  refine ⟨res, hres, ?_⟩
  intro a b hlt_a hlt_b
  rw [TA.n_clusters, ha] at hlt_a
  rw [TB.n_clusters, hb] at hlt_b
  rw [hr, hc, TA.labels, TB.labels, TB.n_clusters, ha, hb]
  exact Art.C17.bartmap_membership_agrees _ _ _ _ a b hlt_a hlt_b

/-- **The column clustering is the column module alone** (transport of `C17.bartmap_columns_alone`): after the
generated `fit` the column module is in the state that `fit` of the column kernel — no reset function, any previous
state `s0` — reaches on the prepared transposed matrix, and `columns_` is built from its labels. -/
theorem gen_fit_columns_alone (TA : Tie opsA stA Ka cfga tha) (TB : Tie opsB stB Kb cfgb thb)
    (pearsonr : List α → List α → Option (α × α)) (mean : List α → α) (eta : α) (ma : MA) (mb : MB)
    (X : List (List α)) (hX : X ≠ []) (hXb : opsB.prepare_data mb (npT X) ≠ [])
    (hdef : ∀ k, k < X.length → (rowReset opsB Kb cfgb thb pearsonr mean eta mb X k).isSome) (s0 : ArtState WB) :
    ∃ res, Art.Gen.BARTMAP.fit opsA opsB pearsonr mean eta ma mb X 1 = some res ∧
      stB res.module_b = Art.fit Kb cfgb thb noVeto s0 (opsB.prepare_data mb (npT X)) ∧
      opsB.labels_ res.module_b = (Art.fit Kb cfgb thb noVeto s0 (opsB.prepare_data mb (npT X))).labels ∧
      res.columns_ = columnsOf (opsA.n_clusters res.module_a) (opsB.n_clusters res.module_b)
        (Art.fit Kb cfgb thb noVeto s0 (opsB.prepare_data mb (npT X))).labels := by
  obtain ⟨res, hres, ha, hb, _, _, hc⟩ := fit_spec TA TB pearsonr mean eta ma mb X hX hXb hdef
  obtain ⟨c1, c2⟩ := Art.C17.bartmap_columns_alone (liftK Ka) cfga tha Kb cfgb thb
    (vetoOf (rowReset opsB Kb cfgb thb pearsonr mean eta mb X))
    (opsA.prepare_data ma X).zipIdx (opsB.prepare_data mb (npT X)) s0
  refine ⟨res, hres, ?_, ?_, ?_⟩
  · rw [hb]; exact c1
  · rw [TB.labels, hb]; exact congrArg ArtState.labels c1
  · rw [hc, TA.n_clusters, TB.n_clusters, ha, hb]; exact c2

end TieSec

/-- **F13 for the generated reset function**: on a matrix whose number of rows differs from its number of columns
(= the number of column labels) the reset function raises for every row index, as soon as the column module has a
category to ask about. -/
theorem gen_reset_nonsquare_raises {MB SB WB SA WA P C α : Type} [LE α] [DecidableRel (α := α) (· ≤ ·)]
    (opsB : ModOps MB SB WB P C α) (pearsonr : List α → List α → Option (α × α)) (mean : List α → α) (eta : α)
    (mb : MB) (X : List (List α)) (i : SA) (w : WA) (cluster_a : Nat) (params : P) (k : Nat) (cache : Option C)
    (hsq : X.length ≠ (opsB.labels_ mb).length) (hnb : 0 < (opsB.W mb).length) :
    match_reset_func opsB pearsonr mean eta mb X i w cluster_a params [("k", k)] cache = none := by
  rw [match_reset_func_spec]
  exact resetOf_nonsquare pearsonr mean eta _ hnb X k hsq

/-! ### the hypotheses are satisfiable, and the generated code runs: a toy one-dimensional module over an integer
matrix — the nested estimator is the model state itself, `prepare_data` = row sums -/
section Example

/-- a category is a prototype, the activation is `100 − |x − w|`, the match value is `|x − w|` -/
def toyK : Kernel Nat Nat Nat Nat :=
  { choice := fun _ x w => some (100 - (x - w) - (w - x))
    matchv := fun x w => (x - w) + (w - x)
    update := fun _ w => w
    newW := fun x => x }

/-- vigilance accepts a distance up to the threshold -/
def toyCfg : SearchCfg Nat Nat :=
  { passes := fun th m => decide (m ≤ th), track := fun _ m => m, keep := true, tilde := false }

/-- an elementary module as an object: its model state -/
def exOps : ModOps (ArtState Nat) Nat Nat Unit Unit Int :=
  { prepare_data := fun _ X => X.map (fun r => r.sum.toNat)
    fit := fun _ Xs it => fitEpochs toyK toyCfg 2 noVeto it Xs
    W := fun s => s.W
    labels_ := fun s => s.labels
    n_clusters := fun s => s.W.length
    set_W := fun s w => { s with W := w }
    set_weight_sample_counter_ := fun s c => { s with cnt := c }
    set_sample_counter_ := fun s n => { s with n := n }
    set_labels_ := fun s l => { s with labels := l }
    labels_setitem := fun s k c => if k < s.labels.length then some { s with labels := s.labels.set k c } else none
    pre_step_fit := fun s _ => s
    post_step_fit := fun s _ => s
    step_fit := fun s x f =>
      some (stepFit toyK toyCfg 2 (fun c => !((f x (s.W.getD c 0) c () none).getD true)) s x) }

/-- the toy module satisfies every assumption of `Tie` (it serves as row module and as column module) -/
theorem exTie : Tie exOps id toyK toyCfg 2 :=
  { prep_len := fun _ X => List.length_map _
    fit := fun _ _ _ => rfl
    W := fun _ => rfl
    labels := fun _ => rfl
    n_clusters := fun _ => rfl
    set_W := fun _ _ => rfl
    set_cnt := fun _ _ => rfl
    set_n := fun _ _ => rfl
    set_labels := fun _ _ => rfl
    setitem := by
      intro m k c hk
      exact ⟨{ m with labels := m.labels.set k c }, if_pos hk, rfl⟩
    pre := fun _ _ => rfl
    post := fun _ _ => rfl
    step_fit := by
      intro m x f g h
      refine ⟨(stepFit toyK toyCfg 2 (fun c => !g c) m x).1, ?_, rfl⟩
      simp only [exOps, h, Option.getD_some, id] }

/-- a stand-in for scipy's `pearsonr`: the dot product (and a p-value that is dropped); vectors of different length raise -/
def exPearson (a b : List Int) : Option (Int × Int) :=
  if a.length = b.length then some ((List.zipWith (· * ·) a b).sum, 0) else none
def exMean (l : List Int) : Int := l.sum / (l.length : Int)

/-- rows sum to 6, 7, 26; columns to 11, 14, 14 -/
def exX : List (List Int) := [[1, 2, 3], [1, 3, 3], [9, 9, 8]]

/-- what an observer reads off the fitted estimator -/
def obs (r : Fitted (ArtState Nat) (ArtState Nat) Int) : List Nat × List Nat × List (List Bool) × List (List Bool) :=
  (r.module_a.labels, r.module_b.labels, r.rows_, r.columns_)

-- eta = 5: row 1 resonates with row cluster 0 and the correlation test lets it (column cluster 1 has mean "correlation" 34)
example : (Art.Gen.BARTMAP.fit exOps exOps exPearson exMean 5 {} {} exX 1).map obs
    = some ([0, 0, 1], [0, 1, 1],
        [[true, true, false], [true, true, false], [false, false, true], [false, false, true]],
        [[true, false, false], [false, true, true], [true, false, false], [false, true, true]]) := by decide +kernel
-- eta = 100: no column cluster passes, the reset function vetoes the resonance and row 1 opens its own cluster
example : (Art.Gen.BARTMAP.fit exOps exOps exPearson exMean 100 {} {} exX 1).map (fun r => (obs r).1)
    = some [0, 1, 2] := by decide +kernel
example : ((Art.Gen.BARTMAP.fit exOps exOps exPearson exMean 100 {} {} exX 1).map (fun r => r.rows_.length))
    = some 6 := by decide +kernel
-- the state the row module was in before does not matter (fit empties it); two epochs give the same labels here
example : (Art.Gen.BARTMAP.fit exOps exOps exPearson exMean 5 { W := [3, 4], cnt := [1, 1], n := 2, labels := [1, 0] } {} exX 2).map obs
    = (Art.Gen.BARTMAP.fit exOps exOps exPearson exMean 5 {} {} exX 1).map obs := by decide +kernel
-- the reset function of the generated code, asked about row 1 after the column module is fitted
example : match_reset_func exOps exPearson exMean 5 (exOps.fit {} (exOps.prepare_data {} (npT exX)) 1) exX
    (7 : Nat) (6 : Nat) 0 () [("k", 1)] none = some true := by decide +kernel
example : p_average_pearson_corr exOps exPearson exMean (exOps.fit {} (exOps.prepare_data {} (npT exX)) 1) exX 1 1
    = some 34 := by decide +kernel
-- F13 on a 2 x 3 matrix: the column mask (length 3) cannot index the 2 rows
example : match_reset_func exOps exPearson exMean 5 (exOps.fit {} (exOps.prepare_data {} (npT [[1, 2, 3], [1, 3, 3]])) 1)
    [[1, 2, 3], [1, 3, 3]] (7 : Nat) (6 : Nat) 0 () [("k", 1)] none = none := by decide +kernel
-- the hypotheses of `fit_spec` hold on the example: `gen_fit_partition` applies to it
example : ∃ res la lb, Art.Gen.BARTMAP.fit exOps exOps exPearson exMean 5 {} {} exX 1 = some res ∧
    (exOps.labels_ res.module_a)[2]? = some la ∧ (exOps.labels_ res.module_b)[1]? = some lb ∧
    cellBiclusters res.rows_ res.columns_ 2 1 = [la * exOps.n_clusters res.module_b + lb] :=
  gen_fit_partition exTie exTie exPearson exMean 5 {} {} exX (by decide) (by decide) (by decide +kernel) 2 1
    (by decide) (by decide)

end Example

end Art.GenSpec.Bartmap
