import ArtProofs.Order
import ArtProofs.ArgMin
import ArtProofs.Search
import ArtProofs.VAT
import ArtProofs.Prep
import ArtProofs.Bartmap
import ArtProofs.Fit
import ArtProofs.Map
import ArtProofs.Predict
import ArtProofs.DualVig
import ArtProofs.ICVI
import ArtProofs.Params
import ArtProofs.Topo
import ArtProofs.Deep
import ArtProofs.Fusion
import ArtProofs.Falcon
import ArtProofs.Coherence
import ArtProofs.Sphere
import ArtProofs.Imp
