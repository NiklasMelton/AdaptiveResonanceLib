/-
ArtProofs.Topo — helper lemmas for the TopoART model (`ArtModel.Topo`):
the two-winner loop (its runs as an inductive relation, and what follows by
induction on a run), the equations of `topoStep` / `applyTopo`, the shape
invariant of the five parallel structures, the gather/re-index lemmas of
`prune`, and the label-range invariant of the training loops.
-/
import Mathlib.Order.Basic
import Mathlib.Order.Defs.LinearOrder
import Mathlib.Data.Int.Order.Basic
import ArtProofs.Order
import ArtProofs.Search
import ArtModel.Topo

namespace Art

set_option linter.unusedSectionVars false

/-! ## A. the two-winner loop -/

section Loop
variable {α μ θ : Type} [LinearOrder α]

@[simp] theorem TopoResult.cons_best (v : Visit θ) (r : TopoResult θ) : (r.cons v).best = r.best := rfl
@[simp] theorem TopoResult.cons_second (v : Visit θ) (r : TopoResult θ) :
    (r.cons v).second = r.second := rfl
@[simp] theorem TopoResult.cons_visits (v : Visit θ) (r : TopoResult θ) :
    (r.cons v).visits = v :: r.visits := rfl
@[simp] theorem TopoResult.cons_th (v : Visit θ) (r : TopoResult θ) : (r.cons v).th = r.th := rfl

/-- Termination: any fuel ≥ the number of live candidates gives the same result
(every iteration that continues strikes one candidate). -/
theorem topoSearch_fuel_irrelevant (cfg : SearchCfg μ θ) (M : Nat → μ) (veto : Nat → Bool)
    (f₁ f₂ : Nat) (T : List (Option α)) (th : θ) (best : Option Nat)
    (h₁ : liveCount T ≤ f₁) (h₂ : liveCount T ≤ f₂) :
    topoSearch cfg M veto f₁ T th best = topoSearch cfg M veto f₂ T th best := by
  induction f₁ generalizing f₂ T th best with
  | zero =>
    cases f₂ with
    | zero => rfl
    | succ f₂ => rw [topoSearch, topoSearch, liveCount_eq_zero (Nat.le_zero.mp h₁)]
  | succ f₁ ih =>
    cases f₂ with
    | zero => rw [topoSearch, topoSearch, liveCount_eq_zero (Nat.le_zero.mp h₂)]
    | succ f₂ =>
      rw [topoSearch, topoSearch]
      cases hc : nanargmax T with
      | none => rfl
      | some c =>
        obtain ⟨v, hv⟩ := nanargmax_isSome_at hc
        have hl := Nat.le_of_eq (liveCount_set_none hv)
        have e1 : ∀ th' b', topoSearch cfg M veto f₁ (T.set c none) th' b' =
            topoSearch cfg M veto f₂ (T.set c none) th' b' :=
          fun th' b' => ih f₂ _ th' b' (Nat.le_of_succ_le_succ (Nat.le_trans hl h₁))
            (Nat.le_of_succ_le_succ (Nat.le_trans hl h₂))
        simp only [e1]

section
variable (cfg : SearchCfg μ θ) (M : Nat → μ) (veto : Nat → Bool)

/-- The runs of the loop: `TopoRuns cfg M veto T th best r` when the loop started on
activations `T` with threshold `th` and best winner `best` ends with `r`; one
constructor for each of the six ways an iteration can go. -/
inductive TopoRuns : List (Option α) → θ → Option Nat → TopoResult θ → Prop
  | done {T th best} : nanargmax T = none → TopoRuns T th best ⟨best, none, th, []⟩
  | first {T th c r} : nanargmax T = some c → cfg.passes th (M c) = true → veto c = false →
      TopoRuns (T.set c none) th (some c) r → TopoRuns T th none (r.cons ⟨c, th, true, true⟩)
  | second {T th b c} : nanargmax T = some c → cfg.passes th (M c) = true → veto c = false →
      TopoRuns T th (some b) ⟨some b, some c, th, [⟨c, th, true, true⟩]⟩
  | abandon {T th best c} : nanargmax T = some c → cfg.passes th (M c) = true → veto c = true →
      cfg.keep = false → TopoRuns T th best ⟨best, none, cfg.track th (M c), [⟨c, th, true, false⟩]⟩
  | track {T th best c r} : nanargmax T = some c → cfg.passes th (M c) = true → veto c = true →
      cfg.keep = true → TopoRuns (T.set c none) (cfg.track th (M c)) best r →
      TopoRuns T th best (r.cons ⟨c, th, true, false⟩)
  | fail {T th best c r} : nanargmax T = some c → cfg.passes th (M c) = false →
      TopoRuns (T.set c none) th best r → TopoRuns T th best (r.cons ⟨c, th, false, !veto c⟩)

theorem topoSearch_runs (fuel : Nat) (T : List (Option α)) (th : θ) (best : Option Nat)
    (hf : liveCount T ≤ fuel) :
    TopoRuns cfg M veto T th best (topoSearch cfg M veto fuel T th best) := by
  induction fuel generalizing T th best with
  | zero => exact .done (liveCount_eq_zero (Nat.le_zero.mp hf))
  | succ fuel ih =>
    rw [topoSearch]
    cases hc : nanargmax T with
    | none => exact .done hc
    | some c =>
      obtain ⟨a, ha⟩ := nanargmax_isSome_at hc
      have ih := fun th' best' => ih (T.set c none) th' best'
        (Nat.le_of_succ_le_succ (Nat.le_trans (Nat.le_of_eq (liveCount_set_none ha)) hf))
      dsimp only
      cases hm : cfg.passes th (M c) with
      | false => exact .fail hc hm (ih th best)
      | true =>
        cases hv : veto c with
        | false =>
          cases best with
          | none => exact .first hc hm hv (ih th _)
          | some b => exact .second hc hm hv
        | true =>
          cases hk : cfg.keep with
          | false => exact .abandon hc hm hv hk
          | true => exact .track hc hm hv hk (ih _ best)

variable {cfg M veto} {T : List (Option α)} {th : θ} {best : Option Nat} {r : TopoResult θ}

theorem TopoRuns.best_kept (h : TopoRuns cfg M veto T th best r) :
    ∀ b, best = some b → r.best = some b := by
  induction h with
  | done _ | second _ _ _ | abandon _ _ _ _ => exact fun _ h => h
  | first _ _ _ _ _ => exact fun _ h => nomatch h
  | track _ _ _ _ _ ih | fail _ _ _ ih => exact ih

/-- categories whose visit resonated (passed the threshold in force and were not vetoed) -/
def resonantCs (r : TopoResult θ) : List Nat :=
  (r.visits.filter (fun v => v.m && v.ok)).map (·.c)

/-- **The resonating visits are exactly the winners, in order.**  Started with
no best, the visits that passed the threshold in force and were not vetoed are
`[best, second]` (resp. `[best]`, `[]`): every other visited category failed
the vigilance test or was vetoed, the best is the *first* resonating visit and
the second the *next* one. -/
theorem TopoRuns.resonant (h : TopoRuns cfg M veto T th best r) :
    resonantCs r = (if best.isSome then [] else r.best.toList) ++ r.second.toList := by
  induction h with
  | @done _ _ best _ | @abandon _ _ best _ _ _ _ _ => cases best <;> rfl
  | @first _ _ c r _ _ _ hr ih =>
    show c :: resonantCs r = r.best.toList ++ r.second.toList
    rw [ih, hr.best_kept c rfl]
    rfl
  | second _ _ _ => rfl
  | track _ _ _ _ _ ih | fail _ _ _ ih => exact ih

theorem TopoRuns.second_none (h : TopoRuns cfg M veto T th best r) :
    r.best = none → r.second = none := by
  induction h with
  | done _ | abandon _ _ _ _ => exact fun _ => rfl
  | first _ _ _ hr _ => exact fun h => nomatch (hr.best_kept _ rfl).symm.trans h
  | second _ _ _ => exact fun h => nomatch h
  | track _ _ _ _ _ ih | fail _ _ _ ih => exact ih

/-- Every visit records exactly the test results for its category. -/
theorem TopoRuns.faithful (h : TopoRuns cfg M veto T th best r) :
    ∀ v ∈ r.visits, v.m = cfg.passes v.th (M v.c) ∧ v.ok = !veto v.c := by
  induction h with
  | done _ => exact List.forall_mem_nil _
  | second _ hm hv | abandon _ hm hv _ =>
    exact List.forall_mem_singleton.mpr ⟨hm.symm, by rw [hv]; rfl⟩
  | first _ hm hv _ ih | track _ hm hv _ _ ih =>
    exact List.forall_mem_cons.mpr ⟨⟨hm.symm, by rw [hv]; rfl⟩, ih⟩
  | fail _ hm _ ih => exact List.forall_mem_cons.mpr ⟨⟨hm.symm, rfl⟩, ih⟩

variable (cfg M) in
/-- threshold after a visit: tracked exactly when a *passing* category was vetoed -/
def topoNextTh (v : Visit θ) : θ := if v.m && !v.ok then cfg.track v.th (M v.c) else v.th

variable (cfg M) in
/-- `vs` is a visit list whose thresholds thread from `th` to `thEnd` -/
def TopoThreads : θ → List (Visit θ) → θ → Prop
  | th, [], thEnd => thEnd = th
  | th, v :: vs, thEnd => v.th = th ∧ TopoThreads (topoNextTh cfg M v) vs thEnd

/-- **Threshold trace.**  The first visit sees the configured threshold; it
changes exactly after a visit that passed and was vetoed, to `track th (M c)`. -/
theorem TopoRuns.threshold_trace (h : TopoRuns cfg M veto T th best r) :
    TopoThreads cfg M th r.visits r.th := by
  induction h with
  | done _ => exact rfl
  | second _ _ _ | abandon _ _ _ _ => exact ⟨rfl, rfl⟩
  | first _ _ _ _ ih | track _ _ _ _ _ ih | fail _ _ _ ih => exact ⟨rfl, ih⟩

/-- Any invariant of the threshold that survives the tracking of a *passing* match
value holds at every visit (e.g. "not below the configured vigilance" under MT+, MT0). -/
theorem TopoRuns.threshold_inv (h : TopoRuns cfg M veto T th best r) (Q : θ → Prop)
    (hQ : ∀ th m, Q th → cfg.passes th m = true → Q (cfg.track th m)) :
    Q th → ∀ v ∈ r.visits, Q v.th := by
  induction h with
  | done _ => exact fun _ => List.forall_mem_nil _
  | second _ _ _ | abandon _ _ _ _ => exact fun h0 => List.forall_mem_singleton.mpr h0
  | first _ _ _ _ ih | fail _ _ _ ih => exact fun h0 => List.forall_mem_cons.mpr ⟨h0, ih h0⟩
  | track _ hm _ _ _ ih => exact fun h0 => List.forall_mem_cons.mpr ⟨h0, ih (hQ _ _ h0 hm)⟩

theorem Before.ne {T : List (Option α)} {i j : Nat} (h : Before T i j) : i ≠ j := by
  rintro rfl
  obtain ⟨a, b, ha, hb, hab⟩ := h
  cases Option.some.inj (Option.some.inj (ha.symm.trans hb))
  rcases hab with h | h
  · exact lt_irrefl _ h
  · exact Nat.lt_irrefl _ h.2

theorem visitOrder_cons {T : List (Option α)} {c : Nat} {cs : List Nat} (hc : nanargmax T = some c)
    (h : cs.Pairwise (Before (T.set c none)) ∧ ∀ j ∈ cs, ∃ a, (T.set c none)[j]? = some (some a)) :
    (c :: cs).Pairwise (Before T) ∧ ∀ j ∈ c :: cs, ∃ a, T[j]? = some (some a) := by
  obtain ⟨a, ha⟩ := nanargmax_eq_some_iff.mp hc
  refine ⟨List.pairwise_cons.mpr ⟨fun j hj => ?_, h.1.imp ?_⟩,
    List.forall_mem_cons.mpr ⟨⟨a, ha.at_k⟩, fun j hj => (h.2 j hj).imp fun _ hb => (live_of_live_set hb).1⟩⟩
  · obtain ⟨b, hb⟩ := h.2 j hj
    obtain ⟨hb, hne⟩ := live_of_live_set hb
    exact ha.before hb hne
  · rintro i j ⟨p, q, hp, hq, hpq⟩
    exact ⟨p, q, (live_of_live_set hp).1, (live_of_live_set hq).1, hpq⟩

/-- **Visiting order.**  Categories are visited by decreasing activation, ties
by increasing index; only live candidates are visited, each at most once. -/
theorem TopoRuns.visit_order (h : TopoRuns cfg M veto T th best r) :
    (r.visits.map (·.c)).Pairwise (Before T) ∧
      ∀ j ∈ r.visits.map (·.c), ∃ a, T[j]? = some (some a) := by
  induction h with
  | done _ => exact ⟨List.Pairwise.nil, List.forall_mem_nil _⟩
  | second hc _ _ | abandon hc _ _ _ =>
    exact visitOrder_cons hc ⟨List.Pairwise.nil, List.forall_mem_nil _⟩
  | first hc _ _ _ ih | track hc _ _ _ _ ih | fail hc _ _ ih => exact visitOrder_cons hc ih

/-- **Winners.**  Started with no best, the winners are live candidates of `T` and
differ: both are visits that resonated, and no category is visited twice. -/
theorem TopoRuns.winners (h : TopoRuns cfg M veto T th none r) :
    (∀ b, r.best = some b → ∃ v, T[b]? = some (some v)) ∧
    (∀ c, r.second = some c → ∃ v, T[c]? = some (some v)) ∧
    (∀ b c, r.best = some b → r.second = some c → b ≠ c) := by
  have hsub : (r.best.toList ++ r.second.toList).Sublist (r.visits.map (·.c)) :=
    h.resonant ▸ (List.filter_sublist).map _
  obtain ⟨hord, hlive⟩ := h.visit_order
  refine ⟨fun b hb => hlive b (hsub.subset ?_), fun c hc => hlive c (hsub.subset ?_),
    fun b c hb hc => ?_⟩
  · rw [hb]; exact List.mem_append_left _ (List.mem_singleton_self b)
  · rw [hc]; exact List.mem_append_right _ (List.mem_singleton_self c)
  · rw [hb, hc] at hsub
    exact (List.pairwise_pair.mp (hord.sublist hsub)).ne

/-- **Exhaustion.**  If the loop ends without a second winner and was not
abandoned (MT1), every live candidate was visited. -/
theorem TopoRuns.exhaustive (h : TopoRuns cfg M veto T th best r) (hkeep : cfg.keep = true) :
    r.second = none → ∀ c a, T[c]? = some (some a) → c ∈ r.visits.map (·.c) := by
  have step : ∀ {T : List (Option α)} {c : Nat} {cs : List Nat},
      (∀ j a, (T.set c none)[j]? = some (some a) → j ∈ cs) →
      ∀ j a, T[j]? = some (some a) → j ∈ c :: cs := by
    intro T c cs h j a hj
    by_cases e : j = c
    · exact e ▸ List.mem_cons_self
    · exact List.mem_cons_of_mem _ (h j a (live_set_of_live hj e))
  induction h with
  | done hn => exact fun _ c a hc => nomatch nanargmax_eq_none_iff.mp hn _ (List.mem_of_getElem? hc)
  | second _ _ _ => exact fun h => nomatch h
  | abandon _ _ _ hk => exact nomatch hkeep.symm.trans hk
  | first _ _ _ _ ih | track _ _ _ _ _ ih | fail _ _ _ ih => exact fun h => step (ih h)

/-! ### without a reset function -/

theorem qualifying_none_of_none (hn : nanargmax T = none) :
    nanargmax (qualifying cfg M th T) = none := by
  cases h : nanargmax (qualifying cfg M th T) with
  | none => rfl
  | some k =>
    obtain ⟨v, hv⟩ := nanargmax_isSome_at h
    exact nomatch nanargmax_eq_none_iff.mp hn _ (List.mem_of_getElem? ((qualifying_live cfg M).mp hv).1)

theorem qualifying_best_of_pass {c : Nat} (hc : nanargmax T = some c)
    (hm : cfg.passes th (M c) = true) : nanargmax (qualifying cfg M th T) = some c :=
  nanargmax_of_live_subset hc (fun j u hj => ((qualifying_live cfg M).mp hj).1)
    fun a ha => (qualifying_live cfg M).mpr ⟨ha, hm⟩

theorem qualifying_set_of_fail {c : Nat} (hm : cfg.passes th (M c) = false) (T : List (Option α)) :
    qualifying cfg M th (T.set c none) = qualifying cfg M th T := by
  apply List.ext_getElem?
  intro j
  rw [qualifying_getElem?, qualifying_getElem?]
  by_cases e : c = j
  · subst e
    rw [List.getElem?_set_self']
    cases T[c]? <;> simp [hm]
  · rw [List.getElem?_set_ne e]

/-- **No reset function: best and second-best vigilance-passing categories.**
Without vetoes the threshold never moves, the best winner is the first index of
maximal activation among the candidates whose match value passes the configured
threshold, and the second winner is the first index of maximal activation among
the *remaining* passing candidates. -/
theorem TopoRuns.no_veto (h : TopoRuns cfg M (fun _ => false) T th best r) :
    (∀ b, best = some b → r.second = nanargmax (qualifying cfg M th T)) ∧
    (best = none → r.best = nanargmax (qualifying cfg M th T) ∧
      r.second = r.best.bind (fun b => nanargmax (qualifying cfg M th (T.set b none)))) := by
  induction h with
  | @done T th _ hn =>
    have hq : nanargmax (qualifying cfg M th T) = none := qualifying_none_of_none hn
    exact ⟨fun _ _ => hq.symm, fun hb => ⟨hb.trans hq.symm, by rw [hb]; rfl⟩⟩
  | @first _ _ c r hc hm _ hr ih =>
    have hb := hr.best_kept c rfl
    refine ⟨fun _ h => (nomatch h), fun _ => ⟨hb.trans (qualifying_best_of_pass hc hm).symm, ?_⟩⟩
    show r.second = r.best.bind _
    rw [hb]
    exact ih.1 c rfl
  | second hc hm _ => exact ⟨fun _ _ => (qualifying_best_of_pass hc hm).symm, fun h => nomatch h⟩
  | abandon _ _ hv _ | track _ _ hv _ _ _ => exact absurd hv Bool.false_ne_true
  | @fail T _ _ c r _ hm _ ih =>
    -- the failing `c` can be struck from `T` before or after the best winner
    have hq := qualifying_set_of_fail (α := α) hm
    refine ⟨fun b hb => hq T ▸ ih.1 b hb, fun hb => ⟨hq T ▸ (ih.2 hb).1, ?_⟩⟩
    refine (ih.2 hb).2.trans (congrArg _ (funext fun b => ?_))
    by_cases e : c = b
    · rw [e, List.set_set]
    · rw [List.set_comm _ _ e, hq]

end

end Loop

/-! ## B. shapes of the five parallel structures -/

section Shape
variable {Wt : Type}

/-- `adjacency`, counters, mask and weights have one row / entry per category,
every adjacency row has one column per category, and the diagonal is zero. -/
structure ShapeInv (s : TopoState Wt) : Prop where
  cnt_len : s.cnt.length = s.W.length
  perm_len : s.perm.length = s.W.length
  adj_len : s.adj.length = s.W.length
  row_len : ∀ (i : Nat) (r : List Nat), s.adj[i]? = some r → r.length = s.W.length
  diag : ∀ i, adjAt s.adj i i = 0

/-- What holds between calls even right after `fit` has reset `W` (but not the
adjacency matrix): counters match, and the full invariant whenever the model
is non-empty. -/
def WeakInv (s : TopoState Wt) : Prop :=
  s.cnt.length = s.W.length ∧ (s.W ≠ [] → ShapeInv s)

theorem ShapeInv.weak {s : TopoState Wt} (h : ShapeInv s) : WeakInv s := ⟨h.cnt_len, fun _ => h⟩

theorem ShapeInv.row_mem {s : TopoState Wt} (h : ShapeInv s) {r : List Nat} (hr : r ∈ s.adj) :
    r.length = s.W.length := by
  obtain ⟨i, hi⟩ := List.getElem?_of_mem hr
  exact h.row_len i r hi

theorem ShapeInv.of_rows {s : TopoState Wt} (hc : s.cnt.length = s.W.length)
    (hp : s.perm.length = s.W.length) (ha : s.adj.length = s.W.length)
    (hr : ∀ r ∈ s.adj, r.length = s.W.length) (hd : ∀ i, adjAt s.adj i i = 0) : ShapeInv s :=
  ⟨hc, hp, ha, fun _ r h => hr r (List.mem_of_getElem? h), hd⟩

/-- the invariant does not mention `labels_` and the sample counter -/
theorem ShapeInv.congr {s s' : TopoState Wt} (h : ShapeInv s) (hW : s'.W = s.W)
    (hc : s'.cnt = s.cnt) (ha : s'.adj = s.adj) (hp : s'.perm = s.perm) : ShapeInv s' :=
  ⟨by rw [hc, hW]; exact h.cnt_len, by rw [hp, hW]; exact h.perm_len,
   by rw [ha, hW]; exact h.adj_len, by rw [ha, hW]; exact h.row_len, by rw [ha]; exact h.diag⟩

theorem WeakInv.congr {s s' : TopoState Wt} (h : WeakInv s) (hW : s'.W = s.W)
    (hc : s'.cnt = s.cnt) (ha : s'.adj = s.adj) (hp : s'.perm = s.perm) : WeakInv s' :=
  ⟨by rw [hc, hW]; exact h.1, fun hne => (h.2 (by rwa [hW] at hne)).congr hW hc ha hp⟩

theorem shapeInv_empty : ShapeInv ({} : TopoState Wt) :=
  ⟨rfl, rfl, rfl, fun _ _ h => (nomatch h), fun _ => rfl⟩

theorem adjAt_eq (adj : List (List Nat)) (i j : Nat) :
    adjAt adj i j = ((adj[i]?).getD [])[j]?.getD 0 := by
  simp only [adjAt, List.getD_eq_getElem?_getD]

theorem adjAt_of_length_le {adj : List (List Nat)} {i : Nat} (h : adj.length ≤ i) (j : Nat) :
    adjAt adj i j = 0 := by
  rw [adjAt_eq, List.getElem?_eq_none h]
  rfl

theorem padAdj_length (adj : List (List Nat)) : (padAdj adj).length = adj.length + 1 := by
  simp only [padAdj, List.length_append, List.length_map, List.length_singleton]

theorem padAdj_getElem? (adj : List (List Nat)) (i : Nat) :
    (padAdj adj)[i]? =
      if i < adj.length then (adj[i]?).map (· ++ [0])
      else if i = adj.length then
        some (List.replicate (adjCols adj + 1) 0)
      else none := by
  rw [padAdj, List.getElem?_append, List.length_map, List.getElem?_map]
  split
  · rfl
  · next h =>
    by_cases e : i = adj.length
    · rw [if_pos e, e, Nat.sub_self]
      rfl
    · rw [if_neg e]
      exact List.getElem?_eq_none
        (Nat.sub_pos_of_lt (Nat.lt_of_le_of_ne (Nat.le_of_not_lt h) (Ne.symm e)))

theorem padAdj_row_length {adj : List (List Nat)} {n : Nat} (hrow : ∀ r ∈ adj, r.length = n)
    (hcols : adjCols adj = n) : ∀ r ∈ padAdj adj, r.length = n + 1 := by
  intro r hr
  rcases List.mem_append.mp hr with h | h
  · obtain ⟨r0, h0, rfl⟩ := List.mem_map.mp h
    rw [List.length_append, hrow r0 h0]
    rfl
  · rw [List.mem_singleton.mp h, List.length_replicate, hcols]

theorem getD_append_default {β : Type} (l : List β) (d : β) (j : Nat) :
    (l ++ [d])[j]?.getD d = l[j]?.getD d := by
  rw [List.getElem?_append]
  split
  · rfl
  · next h =>
    rw [List.getElem?_eq_none (Nat.le_of_not_lt h)]
    cases j - l.length <;> rfl

/-- padding adds only zeros: every entry (inside or outside) is unchanged -/
theorem adjAt_padAdj (adj : List (List Nat)) (i j : Nat) :
    adjAt (padAdj adj) i j = adjAt adj i j := by
  rw [adjAt_eq, adjAt_eq, padAdj_getElem?]
  by_cases h : i < adj.length
  · rw [if_pos h, List.getElem?_eq_getElem h]
    exact getD_append_default adj[i] 0 j
  · rw [if_neg h, List.getElem?_eq_none (Nat.le_of_not_lt h)]
    by_cases e : i = adj.length
    · rw [if_pos e]
      show (List.replicate _ 0)[j]?.getD 0 = 0
      rw [List.getElem?_replicate]
      split <;> rfl
    · rw [if_neg e]

theorem incAdj_length (b c : Nat) (adj : List (List Nat)) : (incAdj b c adj).length = adj.length :=
  List.length_modify ..

theorem incAdj_row_length {adj : List (List Nat)} {n : Nat} (hrow : ∀ r ∈ adj, r.length = n)
    (b c : Nat) : ∀ r ∈ incAdj b c adj, r.length = n := by
  intro r hr
  obtain ⟨i, hi⟩ := List.getElem?_of_mem hr
  rw [incAdj, List.getElem?_modify] at hi
  cases h0 : adj[i]? with
  | none => rw [h0] at hi; exact nomatch hi
  | some r0 =>
    rw [h0] at hi
    cases Option.some.inj hi
    have := hrow r0 (List.mem_of_getElem? h0)
    split
    · rwa [List.length_modify]
    · exact this

theorem getD_modify_succ (r : List Nat) (c j : Nat) :
    (r.modify c (· + 1))[j]?.getD 0 = r[j]?.getD 0 + if j = c ∧ c < r.length then 1 else 0 := by
  rw [List.getElem?_modify]
  by_cases e : c = j
  · subst e
    by_cases h : c < r.length <;> simp [h]
  · simp [e, Ne.symm e]

theorem incAdj_getD (b c : Nat) (adj : List (List Nat)) (i : Nat) :
    ((incAdj b c adj)[i]?).getD [] =
      if b = i then ((adj[i]?).getD []).modify c (· + 1) else (adj[i]?).getD [] := by
  rw [incAdj, List.getElem?_modify]
  cases adj[i]? with
  | none => simp only [Option.map_eq_map, Option.map_none, Option.getD_none, List.modify_nil, ite_self]
  | some r => rfl

/-- `adjacency[b, c] += 1` changes exactly the cell `(b, c)` -/
theorem adjAt_incAdj (b c : Nat) (adj : List (List Nat)) (i j : Nat) :
    adjAt (incAdj b c adj) i j =
      adjAt adj i j + (if i = b ∧ j = c ∧ c < ((adj[b]?).getD []).length then 1 else 0) := by
  rw [adjAt_eq, adjAt_eq, incAdj_getD]
  by_cases e : b = i
  · subst e
    rw [if_pos rfl, getD_modify_succ]
    simp only [true_and]
  · rw [if_neg e, if_neg fun h => e h.1.symm]
    rfl

/-! ### gather -/

theorem topo_filterMap_getElem? {β γ : Type} {f : β → Option γ} :
    ∀ {l : List β}, (∀ x ∈ l, (f x).isSome) → ∀ a : Nat, (l.filterMap f)[a]? = (l[a]?).bind f
  | [], _, a => rfl
  | x :: xs, h, a => by
    obtain ⟨y, hy⟩ := Option.isSome_iff_exists.mp (h x List.mem_cons_self)
    rw [List.filterMap_cons_some hy]
    cases a with
    | zero => exact hy.symm
    | succ a => exact topo_filterMap_getElem? (fun z hz => h z (List.mem_cons_of_mem _ hz)) a

theorem topo_filterMap_length {β γ : Type} {f : β → Option γ} :
    ∀ {l : List β}, (∀ x ∈ l, (f x).isSome) → (l.filterMap f).length = l.length
  | [], _ => rfl
  | x :: xs, h => by
    obtain ⟨y, hy⟩ := Option.isSome_iff_exists.mp (h x List.mem_cons_self)
    rw [List.filterMap_cons_some hy, List.length_cons, List.length_cons,
      topo_filterMap_length fun z hz => h z (List.mem_cons_of_mem _ hz)]

section Gather
variable {β : Type} {keep : List Nat} {l : List β} {n : Nat}

theorem gather_isSome (hk : ∀ i ∈ keep, i < n) (hl : l.length = n) : ∀ i ∈ keep, (l[i]?).isSome :=
  fun i hi => by rw [List.getElem?_eq_getElem (hl ▸ hk i hi)]; rfl

theorem gather_length (hk : ∀ i ∈ keep, i < n) (hl : l.length = n) :
    (gather keep l).length = keep.length :=
  topo_filterMap_length (gather_isSome hk hl)

theorem gather_getElem? (hk : ∀ i ∈ keep, i < n) (hl : l.length = n) (j : Nat) :
    (gather keep l)[j]? = (keep[j]?).bind (l[·]?) :=
  topo_filterMap_getElem? (gather_isSome hk hl) j

theorem mem_gather {r : β} (h : r ∈ gather keep l) : r ∈ l := by
  obtain ⟨a, _, ha⟩ := List.mem_filterMap.mp h
  exact List.mem_of_getElem? ha

end Gather

theorem mem_keepIdx {mask : List Bool} {i : Nat} :
    i ∈ keepIdx mask ↔ i < mask.length ∧ mask[i]? = some true := by
  rw [keepIdx, List.mem_filter, List.mem_range]
  refine and_congr_right fun hl => ?_
  rw [List.getD_eq_getElem?_getD, List.getElem?_eq_getElem hl, Option.getD_some, Option.some.injEq]

theorem keepIdx_sorted (mask : List Bool) : (keepIdx mask).Pairwise (· < ·) :=
  List.Pairwise.filter _ List.pairwise_lt_range

theorem pruneMask_length (phi : Nat) (s : TopoState Wt) :
    (pruneMask phi s).length = min s.perm.length s.cnt.length :=
  List.length_zipWith

theorem pruneMask_getElem? (phi : Nat) (s : TopoState Wt) (i : Nat) (p : Bool) (c : Nat)
    (hp : s.perm[i]? = some p) (hc : s.cnt[i]? = some c) :
    (pruneMask phi s)[i]? = some (p || decide (phi ≤ c)) := by
  rw [pruneMask, List.getElem?_zipWith, hp, hc]

theorem ShapeInv.pruneMask_length {s : TopoState Wt} (hs : ShapeInv s) (phi : Nat) :
    (pruneMask phi s).length = s.W.length := by
  rw [Art.pruneMask_length, hs.perm_len, hs.cnt_len, Nat.min_self]

theorem pruneKeep_lt {phi : Nat} {s : TopoState Wt} (hs : ShapeInv s) :
    ∀ i ∈ pruneKeep phi s, i < s.W.length :=
  fun i hi => hs.pruneMask_length phi ▸ (mem_keepIdx.mp hi).1

/-! ### one training step -/

section Step
variable {X α μ θ : Type} [LinearOrder α]

section
variable (K : TopoKernel X Wt α μ) (cfg : SearchCfg μ θ) (th0 : θ) (veto : Nat → Bool) (s : TopoState Wt) (x : X)

theorem topoStep_of_nil (hW : s.W = []) :
    topoStep K cfg th0 veto s x =
      ({ s with W := [K.newW x], cnt := s.cnt ++ [1], adj := [[0]], perm := [false], n := s.n + 1 }, 0) := by
  rw [topoStep, hW]
  rfl

theorem topoStep_of_ne (hne : s.W ≠ []) :
    topoStep K cfg th0 veto s x =
      applyTopo K s x (topoStepSearch K cfg th0 veto s.W x).best
        (topoStepSearch K cfg th0 veto s.W x).second := by
  rw [topoStep, if_neg (by rwa [List.isEmpty_iff])]

theorem applyTopo_none (second : Option Nat) :
    applyTopo K s x none second =
      ({ s with W := s.W ++ [K.newW x], cnt := s.cnt ++ [1], adj := padAdj s.adj,
                perm := s.perm ++ [false], n := s.n + 1 }, s.W.length) := rfl

theorem applyTopo_one (b : Nat) :
    applyTopo K s x (some b) none =
      ({ s with W := s.W.modify b (K.update x), cnt := s.cnt.modify b (· + 1), n := s.n + 1 }, b) := rfl

theorem applyTopo_two (b c : Nat) :
    applyTopo K s x (some b) (some c) =
      ({ s with W := (s.W.modify b (K.update x)).modify c (K.updateLower x),
                cnt := (s.cnt.modify b (· + 1)).modify c (· + 1), adj := incAdj b c s.adj,
                n := s.n + 1 }, b) := rfl

theorem applyTopo_n (best second : Option Nat) :
    (applyTopo K s x best second).1.n = s.n + 1 := by
  cases best with
  | none => rfl
  | some b => cases second <;> rfl

theorem applyTopo_labels (best second : Option Nat) : (applyTopo K s x best second).1.labels = s.labels := by
  cases best with
  | none => rfl
  | some b => cases second <;> rfl

theorem applyTopo_W_length (best second : Option Nat) :
    (applyTopo K s x best second).1.W.length =
      if best.isSome then s.W.length else s.W.length + 1 := by
  cases best with
  | none => exact List.length_append
  | some b =>
    cases second with
    | none => exact List.length_modify ..
    | some c => exact (List.length_modify ..).trans (List.length_modify ..)

theorem applyTopo_label (best second : Option Nat) (hb : ∀ b, best = some b → b < s.W.length) :
    (applyTopo K s x best second).2 < (applyTopo K s x best second).1.W.length ∧
      s.W.length ≤ (applyTopo K s x best second).1.W.length := by
  rw [applyTopo_W_length]
  cases best with
  | none => exact ⟨Nat.lt_succ_self _, Nat.le_succ _⟩
  | some b => cases second <;> exact ⟨hb b rfl, Nat.le_refl _⟩

end

theorem adjCols_of_shape {s : TopoState Wt} (hs : ShapeInv s) (hne : s.W ≠ []) :
    adjCols s.adj = s.W.length := by
  cases ha : s.adj with
  | nil =>
    have hl := hs.adj_len
    rw [ha] at hl
    exact absurd (List.length_eq_zero_iff.mp hl.symm) hne
  | cons r rs => exact hs.row_mem (ha ▸ List.mem_cons_self)

theorem applyTopo_shape (K : TopoKernel X Wt α μ) (s : TopoState Wt) (x : X)
    (best second : Option Nat) (hs : ShapeInv s) (hne : s.W ≠ [])
    (hbs : ∀ b c, best = some b → second = some c → b ≠ c) :
    ShapeInv (applyTopo K s x best second).1 := by
  cases best with
  | none =>
    rw [applyTopo_none]
    have hW : (s.W ++ [K.newW x]).length = s.W.length + 1 := List.length_append
    refine ShapeInv.of_rows ?_ ?_ ?_ (fun r hr => ?_) (fun i => (adjAt_padAdj _ _ _).trans (hs.diag i))
    · exact List.length_append.trans ((congrArg (· + 1) hs.cnt_len).trans hW.symm)
    · exact List.length_append.trans ((congrArg (· + 1) hs.perm_len).trans hW.symm)
    · exact (padAdj_length _).trans ((congrArg (· + 1) hs.adj_len).trans hW.symm)
    · exact (padAdj_row_length (fun _ => hs.row_mem) (adjCols_of_shape hs hne) r hr).trans hW.symm
  | some b =>
    cases second with
    | none =>
      rw [applyTopo_one]
      exact ⟨(List.length_modify ..).trans (hs.cnt_len.trans (List.length_modify ..).symm),
        hs.perm_len.trans (List.length_modify ..).symm, hs.adj_len.trans (List.length_modify ..).symm,
        fun i r h => (hs.row_len i r h).trans (List.length_modify ..).symm, hs.diag⟩
    | some c =>
      rw [applyTopo_two]
      have hW : ((s.W.modify b (K.update x)).modify c (K.updateLower x)).length = s.W.length := by
        rw [List.length_modify, List.length_modify]
      refine ShapeInv.of_rows ?_ (hs.perm_len.trans hW.symm)
        ((incAdj_length ..).trans (hs.adj_len.trans hW.symm))
        (fun r hr => (incAdj_row_length (fun _ => hs.row_mem) b c r hr).trans hW.symm) (fun i => ?_)
      · show ((s.cnt.modify b _).modify c _).length = _
        rw [List.length_modify, List.length_modify, hW]
        exact hs.cnt_len
      · have hne' : ¬ (i = b ∧ i = c ∧ c < ((s.adj[b]?).getD []).length) :=
          fun h => hbs b c rfl rfl (h.1.symm.trans h.2.1)
        show adjAt (incAdj b c s.adj) i i = 0
        rw [adjAt_incAdj, if_neg hne', hs.diag i]

theorem topoActivations_length (K : TopoKernel X Wt α μ) (W : List Wt) (x : X) :
    (topoActivations K W x).length = W.length :=
  List.length_map _

/-- the winners of a step's search: best and second are different categories of `W` -/
theorem topoStepSearch_winners (K : TopoKernel X Wt α μ) (cfg : SearchCfg μ θ) (th0 : θ)
    (veto : Nat → Bool) (W : List Wt) (x : X) :
    let r := topoStepSearch K cfg th0 veto W x
    (∀ b, r.best = some b → b < W.length) ∧ (∀ c, r.second = some c → c < W.length) ∧
    (∀ b c, r.best = some b → r.second = some c → b ≠ c) ∧ (r.best = none → r.second = none) := by
  have h := topoSearch_runs cfg (topoMatchAt K W x) veto _ _ th0 none
    (liveCount_le_length (topoActivations K W x))
  obtain ⟨h1, h2, h3⟩ := h.winners
  have lt : ∀ {c : Nat}, (∃ v, (topoActivations K W x)[c]? = some (some v)) → c < W.length :=
    fun ⟨_, hv⟩ => topoActivations_length K W x ▸ (List.getElem?_eq_some_iff.mp hv).1
  exact ⟨fun b hb => lt (h1 b hb), fun c hc => lt (h2 c hc), h3, h.second_none⟩

/-- **A step establishes the full shape invariant** (from the weak one: the
first sample of an empty model re-initialises adjacency and mask). -/
theorem topoStep_shape (K : TopoKernel X Wt α μ) (cfg : SearchCfg μ θ) (th0 : θ)
    (veto : Nat → Bool) (s : TopoState Wt) (x : X) (hs : WeakInv s) :
    ShapeInv (topoStep K cfg th0 veto s x).1 := by
  by_cases hW : s.W = []
  · have hc : s.cnt = [] := List.length_eq_zero_iff.mp (by rw [hs.1, hW]; rfl)
    rw [topoStep_of_nil K cfg th0 veto s x hW]
    refine ShapeInv.of_rows (by rw [hc]; rfl) rfl rfl (fun r hr => ?_) (fun i => ?_)
    · rw [List.mem_singleton.mp hr]; rfl
    · cases i <;> rfl
  · rw [topoStep_of_ne K cfg th0 veto s x hW]
    exact applyTopo_shape K s x _ _ (hs.2 hW) hW (topoStepSearch_winners K cfg th0 veto s.W x).2.2.1

section
variable (K : TopoKernel X Wt α μ) (cfg : SearchCfg μ θ) (th0 : θ) (veto : Nat → Bool) (s : TopoState Wt) (x : X)

theorem topoStep_n : (topoStep K cfg th0 veto s x).1.n = s.n + 1 := by
  by_cases hW : s.W = []
  · rw [topoStep_of_nil K cfg th0 veto s x hW]
  · rw [topoStep_of_ne K cfg th0 veto s x hW, applyTopo_n]

theorem topoStep_labels : (topoStep K cfg th0 veto s x).1.labels = s.labels := by
  by_cases hW : s.W = []
  · rw [topoStep_of_nil K cfg th0 veto s x hW]
  · rw [topoStep_of_ne K cfg th0 veto s x hW, applyTopo_labels]

/-- the label returned by a step indexes a category of the new state; the model only grows -/
theorem topoStep_label :
    (topoStep K cfg th0 veto s x).2 < (topoStep K cfg th0 veto s x).1.W.length ∧
    s.W.length ≤ (topoStep K cfg th0 veto s x).1.W.length := by
  by_cases hW : s.W = []
  · rw [topoStep_of_nil K cfg th0 veto s x hW, hW]
    exact ⟨Nat.zero_lt_one, Nat.zero_le _⟩
  · rw [topoStep_of_ne K cfg th0 veto s x hW]
    exact applyTopo_label K s x _ _ (topoStepSearch_winners K cfg th0 veto s.W x).1

end

theorem topoStep_W_ne (K : TopoKernel X Wt α μ) (cfg : SearchCfg μ θ) (th0 : θ)
    (veto : Nat → Bool) (s : TopoState Wt) (x : X) :
    (topoStep K cfg th0 veto s x).1.W ≠ [] := by
  intro h
  have := (topoStep_label K cfg th0 veto s x).1
  rw [h] at this
  exact Nat.not_lt_zero _ this

end Step

/-! ### pruning -/

section Prune
variable {X α μ : Type} [LT α] [DecidableRel (α := α) (· < ·)]

/-- the adjacency sub-matrix `adjacency[keep][:, keep]` -/
theorem adjAt_gather {keep : List Nat} {adj : List (List Nat)} {n : Nat}
    (hk : ∀ i ∈ keep, i < n) (hlen : adj.length = n)
    (hrow : ∀ (i : Nat) (r : List Nat), adj[i]? = some r → r.length = n)
    (j k : Nat) (hj : j < keep.length) (hk' : k < keep.length) :
    adjAt ((gather keep adj).map (gather keep)) j k = adjAt adj keep[j] keep[k] := by
  have hjn : keep[j] < adj.length := hlen ▸ hk _ (List.getElem_mem hj)
  have hr := hrow keep[j] _ (List.getElem?_eq_getElem hjn)
  rw [adjAt_eq, adjAt_eq, List.getElem?_map, gather_getElem? hk hlen, List.getElem?_eq_getElem hj,
    Option.bind_some, List.getElem?_eq_getElem hjn]
  show (gather keep adj[keep[j]])[k]?.getD 0 = adj[keep[j]][keep[k]]?.getD 0
  rw [gather_getElem? hk hr, List.getElem?_eq_getElem hk', Option.bind_some]

/-- **Pruning preserves the shape invariant.** -/
theorem prune_shape (K : TopoKernel X Wt α μ) (phi : Nat) (s : TopoState Wt) (xs : List X)
    (hs : ShapeInv s) : ShapeInv (prune K phi s xs) := by
  have hk := pruneKeep_lt (phi := phi) hs
  have hW : (prune K phi s xs).W.length = (pruneKeep phi s).length := gather_length hk rfl
  have hadj : (prune K phi s xs).adj.length = (pruneKeep phi s).length :=
    (List.length_map _).trans (gather_length hk hs.adj_len)
  refine ShapeInv.of_rows ((gather_length hk hs.cnt_len).trans hW.symm)
    ((gather_length hk (hs.pruneMask_length phi)).trans hW.symm) (hadj.trans hW.symm)
    (fun r hr => ?_) (fun i => ?_)
  · obtain ⟨r0, h0, rfl⟩ := List.mem_map.mp hr
    exact (gather_length hk (hs.row_mem (mem_gather h0))).trans hW.symm
  · by_cases hi : i < (pruneKeep phi s).length
    · exact (adjAt_gather hk hs.adj_len hs.row_len i i hi hi).trans (hs.diag _)
    · exact adjAt_of_length_le (hadj ▸ Nat.le_of_not_lt hi) i

theorem prune_perm_all_true (K : TopoKernel X Wt α μ) (phi : Nat) (s : TopoState Wt) (xs : List X) :
    ∀ b ∈ (prune K phi s xs).perm, b = true := by
  intro b hb
  obtain ⟨i, hi, hib⟩ := List.mem_filterMap.mp hb
  exact (Option.some.inj ((mem_keepIdx.mp hi).2.symm.trans hib)).symm

end Prune

end Shape

/-! ## C. the training loops -/

section Loops
variable {Wt X α μ θ : Type} [LinearOrder α]

/-- invariants of a left fold: `I` before, `J` after at least one step -/
theorem topo_foldl_inv {S P : Type} (f : S → P → S) (I J : S → Prop) (hJI : ∀ s, J s → I s)
    (hstep : ∀ s p, I s → J (f s p)) :
    ∀ (l : List P) (s : S), I s → (l ≠ [] → J (l.foldl f s)) ∧ I (l.foldl f s)
  | [], s, h => ⟨fun h => absurd rfl h, h⟩
  | p :: ps, s, h => by
    have hj := hstep s p h
    have ih := topo_foldl_inv f I J hJI hstep ps (f s p) (hJI _ hj)
    refine ⟨fun _ => ?_, ih.2⟩
    cases ps with
    | nil => exact hj
    | cons q qs => exact ih.1 (List.cons_ne_nil _ _)

/-- an invariant indexed by the number of samples presented so far -/
theorem topo_foldl_zipIdx_inv {S P : Type} (f : S → P × Nat → S) (I : Nat → S → Prop)
    (hstep : ∀ k s p, I k s → I (k + 1) (f s (p, k))) :
    ∀ (l : List P) (k : Nat) (s : S), I k s → I (k + l.length) ((l.zipIdx k).foldl f s)
  | [], k, s, h => h
  | p :: ps, k, s, h => by
    have := topo_foldl_zipIdx_inv f I hstep ps (k + 1) _ (hstep k s p h)
    rw [Nat.add_right_comm] at this
    exact this

theorem topo_trace_inv {S P : Type} (f : S → P → S) (I J : S → Prop) (hJI : ∀ s, J s → I s)
    (hstep : ∀ s p, I s → J (f s p)) :
    ∀ (l : List P) (s : S), I s → ∀ t ∈ topoTrace f s l, J t
  | [], _, _ => List.forall_mem_nil _
  | p :: ps, s, h =>
    List.forall_mem_cons.mpr ⟨hstep s p h, topo_trace_inv f I J hJI hstep ps (f s p) (hJI _ (hstep s p h))⟩

theorem topo_foldl_trace_inv {S P : Type} (f : S → P → S) (Q G : S → Prop)
    (hstep : ∀ s p, Q s → G (f s p) → Q (f s p)) :
    ∀ (l : List P) (s : S), Q s → (∀ t ∈ topoTrace f s l, G t) → Q (l.foldl f s)
  | [], s, h, _ => h
  | p :: ps, s, h, hg =>
    have hg := List.forall_mem_cons.mp hg
    topo_foldl_trace_inv f Q G hstep ps (f s p) (hstep s p h hg.1) hg.2

variable (K : TopoKernel X Wt α μ) (cfg : SearchCfg μ θ) (th0 : θ)
  (veto : TopoState Wt → X → Nat → Bool) (tau phi : Nat)

theorem topoPFitStep_eq (s : TopoState Wt) (xi : X × Nat) :
    topoPFitStep K cfg th0 veto s xi =
      { (topoStep K cfg th0 (veto s xi.1) s xi.1).1 with
        labels := (topoStep K cfg th0 (veto s xi.1) s xi.1).1.labels.set xi.2
          ((topoStep K cfg th0 (veto s xi.1) s xi.1).2 : Int) } := rfl

/-- an iteration of `fit` is an iteration of `partial_fit` followed by the pruning hook -/
theorem topoFitStep_eq (xs : List X) (s : TopoState Wt) (xi : X × Nat) :
    topoFitStep K cfg th0 veto tau phi xs s xi =
      if (topoPFitStep K cfg th0 veto s xi).n % tau == 0 then
        prune K phi (topoPFitStep K cfg th0 veto s xi) xs
      else topoPFitStep K cfg th0 veto s xi := rfl

theorem topoPFitStep_shape (s : TopoState Wt) (xi : X × Nat) (hs : WeakInv s) :
    ShapeInv (topoPFitStep K cfg th0 veto s xi) := by
  rw [topoPFitStep_eq]
  exact (topoStep_shape K cfg th0 (veto s xi.1) s xi.1 hs).congr rfl rfl rfl rfl

theorem topoFitStep_shape (xs : List X) (s : TopoState Wt) (xi : X × Nat) (hs : WeakInv s) :
    ShapeInv (topoFitStep K cfg th0 veto tau phi xs s xi) := by
  have h := topoPFitStep_shape K cfg th0 veto s xi hs
  rw [topoFitStep_eq]
  split
  · exact prune_shape K phi _ xs h
  · exact h

theorem weakInv_fitInit (s : TopoState Wt) (n : Nat) : WeakInv (topoFitInit s n) :=
  ⟨rfl, fun h => absurd rfl h⟩

/-- `fit` on at least one row ends in a state with the full shape invariant,
whatever the state before; on zero rows only the weak invariant holds (the
adjacency matrix of the previous fit is still there). -/
theorem topoFit_shape (s : TopoState Wt) (xs : List X) :
    (xs ≠ [] → ShapeInv (topoFit K cfg th0 veto tau phi s xs)) ∧
      WeakInv (topoFit K cfg th0 veto tau phi s xs) := by
  have := topo_foldl_inv (topoFitStep K cfg th0 veto tau phi xs) WeakInv ShapeInv
    (fun _ h => h.weak) (topoFitStep_shape K cfg th0 veto tau phi xs)
    xs.zipIdx (topoFitInit s xs.length) (weakInv_fitInit s _)
  exact ⟨fun hne => this.1 (mt List.zipIdx_eq_nil_iff.mp hne), this.2⟩

theorem topoPartialFit_shape (s : TopoState Wt) (xs : List X) :
    (WeakInv s → WeakInv (topoPartialFit K cfg th0 veto s xs)) ∧
      (ShapeInv s → ShapeInv (topoPartialFit K cfg th0 veto s xs)) := by
  have key := topo_foldl_inv (topoPFitStep K cfg th0 veto) WeakInv ShapeInv
    (fun _ h => h.weak) (topoPFitStep_shape K cfg th0 veto)
    (xs.zipIdx s.labels.length) (topoPFitInit s xs.length)
  refine ⟨fun h => (key (h.congr rfl rfl rfl rfl)).2, fun h => ?_⟩
  cases xs with
  | nil => exact h.congr rfl rfl rfl rfl
  | cons x xs => exact (key (h.weak.congr rfl rfl rfl rfl)).1 (List.cons_ne_nil _ _)

/-- no `fit` call of the history has zero rows -/
def FitsNonempty : List (TopoCall X) → Prop
  | [] => True
  | .fit xs :: cs => xs ≠ [] ∧ FitsNonempty cs
  | .pfit _ :: cs => FitsNonempty cs

theorem topoRun_weak (s : TopoState Wt) (calls : List (TopoCall X)) (hs : WeakInv s) :
    WeakInv (topoRun K cfg th0 veto tau phi s calls) := by
  induction calls generalizing s with
  | nil => exact hs
  | cons c cs ih =>
    cases c with
    | fit xs => exact ih _ (topoFit_shape K cfg th0 veto tau phi s xs).2
    | pfit xs => exact ih _ ((topoPartialFit_shape K cfg th0 veto s xs).1 hs)

theorem topoRun_shape (s : TopoState Wt) (calls : List (TopoCall X)) (hs : ShapeInv s)
    (hc : FitsNonempty calls) : ShapeInv (topoRun K cfg th0 veto tau phi s calls) := by
  induction calls generalizing s with
  | nil => exact hs
  | cons c cs ih =>
    cases c with
    | fit xs => exact ih _ ((topoFit_shape K cfg th0 veto tau phi s xs).1 hc.1) hc.2
    | pfit xs => exact ih _ ((topoPartialFit_shape K cfg th0 veto s xs).2 hs) hc

/-! ### labels -/

/-- a label is −1 or the index of a category -/
def LabelOk (n : Nat) (l : Int) : Prop := l = -1 ∨ (0 ≤ l ∧ l < (n : Int))

theorem LabelOk.mono {n m : Nat} {l : Int} (h : LabelOk n l) (hnm : n ≤ m) : LabelOk m l :=
  h.imp_right fun ⟨h0, h1⟩ => ⟨h0, Int.lt_of_lt_of_le h1 (Int.ofNat_le.mpr hnm)⟩

theorem LabelOk.of_lt {n c : Nat} (h : c < n) : LabelOk n (c : Int) :=
  Or.inr ⟨Int.natCast_nonneg c, Int.ofNat_lt.mpr h⟩

/-- the first `k` labels are in range -/
def LabelsInv (k : Nat) (s : TopoState Wt) : Prop :=
  ∀ (i : Nat) (l : Int), i < k → s.labels[i]? = some l → LabelOk s.W.length l

theorem LabelsInv.set {k c : Nat} {s s' : TopoState Wt} (hl : LabelsInv k s) (hc : c < s'.W.length)
    (hgrow : s.W.length ≤ s'.W.length) (hlab : s'.labels = s.labels.set k (c : Int)) :
    LabelsInv (k + 1) s' := by
  intro i l hi hil
  rw [hlab] at hil
  by_cases e : k = i
  · rw [← e, List.getElem?_set_self'] at hil
    obtain ⟨_, _, rfl⟩ := Option.map_eq_some_iff.mp hil
    exact LabelOk.of_lt hc
  · rw [List.getElem?_set_ne e] at hil
    exact (hl i l (Nat.lt_of_le_of_ne (Nat.le_of_lt_succ hi) (Ne.symm e)) hil).mono hgrow

theorem topoPredLabel_ok (W : List Wt) (x : X) : LabelOk W.length (topoPredLabel K W x) := by
  unfold topoPredLabel
  split
  · next c hc => exact LabelOk.of_lt (topoActivations_length K W x ▸ argmaxNp_lt_length hc)
  · exact Or.inl rfl

theorem topoPredLabel_nonneg (W : List Wt) (x : X) (hne : W ≠ []) : 0 ≤ topoPredLabel K W x := by
  obtain ⟨c, hc⟩ := argmaxNp_isSome (T := topoActivations K W x)
    (fun h => hne (List.map_eq_nil_iff.mp h))
  rw [topoPredLabel, hc]
  exact Int.natCast_nonneg c

theorem relabel_ok (keep : List Nat) (W' : List Wt) (x : X) (l : Int)
    (hlen : W'.length = keep.length) : LabelOk W'.length (relabel K keep W' x l) := by
  unfold relabel
  split
  · next h => exact LabelOk.of_lt (hlen ▸ List.idxOf_lt_length_iff.mpr h.2)
  · split
    · exact topoPredLabel_ok K W' x
    · exact Or.inl rfl

theorem relabel_nonneg (keep : List Nat) (W' : List Wt) (x : X) (l : Int) (hne : W' ≠ []) :
    0 ≤ relabel K keep W' x l := by
  unfold relabel
  split
  · exact Int.natCast_nonneg _
  · rw [if_pos (by rw [List.isEmpty_eq_false_iff.mpr hne]; rfl)]
    exact topoPredLabel_nonneg K W' x hne

theorem prune_labels_getElem? (s : TopoState Wt) (xs : List X) (i : Nat) :
    (prune K phi s xs).labels[i]? = (s.labels[i]?).map fun l =>
      match xs[i]? with
      | some x => relabel K (pruneKeep phi s) (prune K phi s xs).W x l
      | none => l :=
  List.getElem?_mapIdx

/-- all labels of rows of `X` are in range after a pruning round -/
theorem prune_labels_ok (s : TopoState Wt) (xs : List X) (hs : ShapeInv s)
    (hlen : s.labels.length ≤ xs.length) :
    ∀ (i : Nat) (l : Int), (prune K phi s xs).labels[i]? = some l →
      LabelOk (prune K phi s xs).W.length l := by
  intro i l hl
  rw [prune_labels_getElem?] at hl
  obtain ⟨l0, h0, rfl⟩ := Option.map_eq_some_iff.mp hl
  have hi : i < xs.length := Nat.lt_of_lt_of_le (List.getElem?_eq_some_iff.mp h0).1 hlen
  rw [List.getElem?_eq_getElem hi]
  exact relabel_ok K _ _ _ _ (gather_length (pruneKeep_lt hs) rfl)

theorem topoPFitStep_labels (k : Nat) (s : TopoState Wt) (x : X) (hl : LabelsInv k s) :
    (topoPFitStep K cfg th0 veto s (x, k)).labels.length = s.labels.length ∧
      LabelsInv (k + 1) (topoPFitStep K cfg th0 veto s (x, k)) := by
  have hlab := topoStep_labels K cfg th0 (veto s x) s x
  have h := topoStep_label K cfg th0 (veto s x) s x
  rw [topoPFitStep_eq]
  exact ⟨by rw [List.length_set, hlab], hl.set h.1 h.2 (by rw [hlab])⟩

theorem topoFitStep_labels (xs : List X) (k : Nat) (s : TopoState Wt) (x : X)
    (hs : WeakInv s) (hlen : s.labels.length = xs.length) (hl : LabelsInv k s) :
    (topoFitStep K cfg th0 veto tau phi xs s (x, k)).labels.length = xs.length ∧
      LabelsInv (k + 1) (topoFitStep K cfg th0 veto tau phi xs s (x, k)) := by
  have h := topoPFitStep_labels K cfg th0 veto k s x hl
  have hlen' := h.1.trans hlen
  rw [topoFitStep_eq]
  split
  · exact ⟨(List.length_mapIdx).trans hlen', fun i l _ hil =>
      prune_labels_ok K phi _ xs (topoPFitStep_shape K cfg th0 veto s _ hs) (Nat.le_of_eq hlen') i l hil⟩
  · exact ⟨hlen', h.2⟩

/-- **Labels after `fit`**: one per row, each −1 or the index of a category. -/
theorem topoFit_labels (s : TopoState Wt) (xs : List X) :
    (topoFit K cfg th0 veto tau phi s xs).labels.length = xs.length ∧
      LabelsInv xs.length (topoFit K cfg th0 veto tau phi s xs) := by
  have := topo_foldl_zipIdx_inv (topoFitStep K cfg th0 veto tau phi xs)
    (fun k s => WeakInv s ∧ s.labels.length = xs.length ∧ LabelsInv k s)
    (fun k s p ⟨hw, hlen, hl⟩ =>
      ⟨(topoFitStep_shape K cfg th0 veto tau phi xs s (p, k) hw).weak,
       topoFitStep_labels K cfg th0 veto tau phi xs k s p hw hlen hl⟩)
    xs 0 (topoFitInit s xs.length)
    ⟨weakInv_fitInit s _, List.length_replicate, fun i l hi _ => absurd hi (Nat.not_lt_zero i)⟩
  rw [Nat.zero_add] at this
  exact this.2

/-- **Labels after `partial_fit`**: if all labels were in range before, all are after. -/
theorem topoPartialFit_labels (s : TopoState Wt) (xs : List X)
    (hl : LabelsInv s.labels.length s) :
    LabelsInv (topoPartialFit K cfg th0 veto s xs).labels.length
      (topoPartialFit K cfg th0 veto s xs) := by
  have := topo_foldl_zipIdx_inv (topoPFitStep K cfg th0 veto)
    (fun k t => t.labels.length = s.labels.length + xs.length ∧ LabelsInv k t)
    (fun k t p ⟨hlen, hl⟩ =>
      ⟨(topoPFitStep_labels K cfg th0 veto k t p hl).1.trans hlen,
       (topoPFitStep_labels K cfg th0 veto k t p hl).2⟩)
    xs s.labels.length (topoPFitInit s xs.length)
    ⟨by rw [topoPFitInit, List.length_append, List.length_replicate], fun i l hi hil =>
      hl i l hi ((List.getElem?_append_left hi).symm.trans hil)⟩
  exact this.1 ▸ this.2

theorem topoRun_labels (s : TopoState Wt) (calls : List (TopoCall X))
    (hl : LabelsInv s.labels.length s) :
    LabelsInv (topoRun K cfg th0 veto tau phi s calls).labels.length
      (topoRun K cfg th0 veto tau phi s calls) := by
  induction calls generalizing s with
  | nil => exact hl
  | cons c cs ih =>
    cases c with
    | fit xs =>
      have := topoFit_labels K cfg th0 veto tau phi s xs
      exact ih _ (this.1 ▸ this.2)
    | pfit xs => exact ih _ (topoPartialFit_labels K cfg th0 veto s xs hl)

/-! ### −1 only after a wipe-out -/

theorem prune_labels_nonneg (s : TopoState Wt) (xs : List X) (hq : ∀ l ∈ s.labels, (0 : Int) ≤ l)
    (hne : (prune K phi s xs).W ≠ []) : ∀ l ∈ (prune K phi s xs).labels, (0 : Int) ≤ l := by
  intro l hl
  obtain ⟨i, hi, rfl⟩ := List.mem_mapIdx.mp hl
  split
  · exact relabel_nonneg K _ _ _ _ hne
  · exact hq _ (List.getElem_mem _)

theorem topoPFitStep_nonneg (s : TopoState Wt) (xi : X × Nat) (hq : ∀ l ∈ s.labels, (0 : Int) ≤ l) :
    ∀ l ∈ (topoPFitStep K cfg th0 veto s xi).labels, (0 : Int) ≤ l := by
  intro l hl
  rw [topoPFitStep_eq, topoStep_labels] at hl
  rcases List.mem_or_eq_of_mem_set hl with h | h
  · exact hq l h
  · exact h ▸ Int.natCast_nonneg _

theorem topoFitStep_nonneg (xs : List X) (s : TopoState Wt) (xi : X × Nat)
    (hq : ∀ l ∈ s.labels, (0 : Int) ≤ l)
    (hg : (topoFitStep K cfg th0 veto tau phi xs s xi).n % tau = 0 →
      (topoFitStep K cfg th0 veto tau phi xs s xi).W ≠ []) :
    ∀ l ∈ (topoFitStep K cfg th0 veto tau phi xs s xi).labels, (0 : Int) ≤ l := by
  have hq2 := topoPFitStep_nonneg K cfg th0 veto s xi hq
  rw [topoFitStep_eq] at hg ⊢
  split
  · next hp =>
    rw [if_pos hp] at hg
    exact prune_labels_nonneg K phi _ xs hq2 (hg (beq_iff_eq.mp hp))
  · exact hq2

end Loops

end Art
