/-
ArtGenProofs.Params3Spec — the parameter protocol and the constructors of BARTMAP, FusionART, DeepARTMAP, FALCON and
TD_FALCON regenerated from the Python source by `harness/artv/q3trans.py` (`ArtGen/Params3.lean`) equal the reference
semantics of `ArtModel/Params3.lean`, for all instance dicts, call logs, keyword lists and nested estimators; and the
clauses of C19 proved on the generated definitions (lettered as in Params2Spec).
-/
import ArtGen.Params3
import ArtModel.Params3
import ArtGenProofs.Params2Spec

namespace Art.GenSpec.Params3
open Art Art.Params Art.Params2 Art.Params3 Art.Gen.Params3
open Art.GenSpec.Params (bind_apply pure_apply dget_eq dhas_eq dset_eq partition_eq toWorld toSelf vpOf ofSetRes
  dget_attrs outcome dget_toSelf dget_toSelf_params selfParams_of vpOf_cons vpOf_nil L_has L_float)
open Art.GenSpec.Params2 (dupdate_eq ddset2_eq_ginsert route_loop route_body errOf extOf objs fz half selfAttrB_of)

/-! ## BARTMAP -/

/-! ### `__getattr__` / `__setattr__` / `validate_params` / `__init__` -/

/-- BARTMAP's own `__getattr__` / `__setattr__` are, statement for statement, BaseART's: the generated definitions
coincide, so every theorem of `ParamsSpec` about them (`getattr_spec`, `setattr_spec`, `pyGetattr_spec`,
`gen_attr_mirrors`, `gen_attr_write_mirrors`) holds for BARTMAP -/
theorem BARTMAP_getattr_eq : BARTMAP.__getattr__ = Art.Gen.Params.BaseART.__getattr__ := rfl
theorem BARTMAP_setattr_eq : BARTMAP.__setattr__ = Art.Gen.Params.BaseART.__setattr__ := rfl

/-- C19 `attr_mirrors` (ArtProps/C19.lean) transported to BARTMAP: reading a parameter name as an attribute (`__dict__`,
then the generated `BARTMAP.__getattr__`) gives the value the parameter store holds; nothing is written -/
theorem BARTMAP_attr_mirrors (e : Est) (hwf : e.WF) (c : List (Nat × Store)) (k : String)
    (hk : k ∈ keys (getParams e)) (hkp : k ≠ "params") :
    ∃ v, get? (getParams e) k = some v ∧
      Q.pyGetattr BARTMAP.__getattr__ k (toWorld e c) = (.ok (.val v), toWorld e c) := by
  obtain ⟨v, hv, ha⟩ := C19.attr_mirrors e hwf k hk
  refine ⟨v, hv, ?_⟩
  rw [BARTMAP_getattr_eq, Art.GenSpec.Params.pyGetattr_spec e c k hkp, ha]

/-- C19 `attr_write_mirrors` transported: `setattr(est, k, v)` through the generated `BARTMAP.__setattr__` is the
model's `setAttr` — a parameter name writes `params[k]`, any other name the instance `__dict__` -/
theorem BARTMAP_attr_write_mirrors (e : Est) (c : List (Nat × Store)) (k : String) (v : Val) (hk : k ≠ "params") :
    BARTMAP.__setattr__ k (.val v) (toWorld e c) = (.ok (), toWorld (setAttr e k v) c) := by
  rw [BARTMAP_setattr_eq]; exact Art.GenSpec.Params.setattr_spec e c k v (Or.inl hk)

theorem BARTMAP_validate (p : Store) : BARTMAP.validate_params p = vpOf bartmapChecks p := by
  simp only [BARTMAP.validate_params, bartmapChecks, vpOf_cons, vpOf_nil, L_has, L_float]

/-- what a constructor call leaves behind: the reference object, or (rejected) the instance without attributes -/
abbrev ofConstruct := @Art.GenSpec.Params.ofConstruct

/-- **`BARTMAP.__init__`, generated = reference**: validation first (a rejected `eta` leaves an instance without
any attribute), then `params`, `module_a`, `module_b` -/
theorem BARTMAP_init_spec (a b eta : Val) (c : List (Nat × Store)) :
    BARTMAP.__init__ a b eta ⟨[], c⟩ = ofConstruct (constructBartmap a b eta) c := by
  simp only [BARTMAP.__init__, bind_apply, Q.Py.lift, BARTMAP_validate, vpOf, constructBartmap, ofConstruct,
    Art.GenSpec.Params.ofConstruct]
  cases validate bartmapChecks [("eta", eta)] with
  | some x => rfl
  | none =>
    simp only [BARTMAP_setattr_eq, Art.GenSpec.Params.setattr_params_empty "BARTMAP",
      Art.GenSpec.Params.setattr_fresh, ne_eq, String.reduceEq, not_false_eq_true, upsert, get?, Option.isSome_none,
      Bool.false_eq_true, List.nil_append, List.cons_append, ↓reduceIte]
    rfl

/-! ### `get_params` -/

/-- **`BARTMAP.get_params`, generated = reference** (`getParamsFlat`): a copy of `params`, then per module its
parameters as `module_x__k` and the module itself — and the object is NOT touched (the state returned is the state
given: `self.params` in particular is what it was — the former defect F43).  For every instance `__dict__` that holds a
params dict and the two modules, every nested estimator whose `get_params()` returns, whatever `deep`. -/
theorem BARTMAP_get_params_spec (ext : Q2.Ext) (w : Q.World) (p : Store) (a b : Val) (da db : Store) (deep : Bool)
    (hp : Q.dget w.self "params" = some (.dict p))
    (ha : Q.dget w.self "module_a" = some (.val a)) (hb : Q.dget w.self "module_b" = some (.val b))
    (hga : ext.get_params a w = (.ok da, w)) (hgb : ext.get_params b w = (.ok db, w)) :
    BARTMAP.get_params ext deep w
      = (.ok (getParamsFlat p [⟨"module_a", a, da⟩, ⟨"module_b", b, db⟩]), w) := by
  simp only [BARTMAP.get_params, bind_apply, pure_apply, selfParams_of w p hp, selfAttrB_of _ w _ a ha,
    selfAttrB_of _ w _ b hb, hga, hgb, dupdate_eq, dset_eq]
  rfl

/-- a method that never writes: the state it returns is the state it was given, also when it raises -/
def ReadOnly {β : Type} (m : Q.M β) : Prop := ∀ w, (m w).2 = w

theorem ReadOnly.bind {β γ : Type} {m : Q.M β} {f : β → Q.M γ} (hm : ReadOnly m) (hf : ∀ b, ReadOnly (f b)) :
    ReadOnly (m >>= f) := by
  intro w
  rw [bind_apply]
  have h := hm w
  rcases hmw : m w with ⟨r | r, w'⟩
  · rw [hmw] at h; exact h
  · rw [hmw] at h; dsimp only at h ⊢; rw [h]; exact hf r w

theorem ReadOnly.pure {β : Type} (b : β) : ReadOnly (pure b : Q.M β) := fun _ => rfl
theorem ReadOnly.lift {β : Type} (x : Except Err β) : ReadOnly (Q.Py.lift x : Q.M β) := fun _ => rfl
theorem ReadOnly.raise {β : Type} (x : Err) : ReadOnly (Q.Py.raise x : Q.M β) := fun _ => rfl
theorem ReadOnly.selfParams : ReadOnly Q.selfParams := fun _ => rfl

theorem ReadOnly.getattr (k : String) : ReadOnly (BARTMAP.__getattr__ k) := by
  unfold BARTMAP.__getattr__
  refine ReadOnly.bind ReadOnly.selfParams (fun p => ?_)
  split
  · exact ReadOnly.bind ReadOnly.selfParams (fun _ => ReadOnly.lift _)
  · exact ReadOnly.raise _

theorem ReadOnly.selfAttrB (k : String) : ReadOnly (Q2.selfAttrB BARTMAP.__getattr__ k) := by
  intro w
  simp only [Q2.selfAttrB, Q.pyGetattr]
  cases Q.dget w.self k with
  | some s => rfl
  | none =>
    have h := ReadOnly.getattr k w
    rcases hg : BARTMAP.__getattr__ k w with ⟨r | r, w'⟩ <;> rw [hg] at h <;> exact h

/-- C19, in full generality: **`BARTMAP.get_params` writes nothing** — for EVERY state (also one in which it
raises: no params dict, a missing module) and every nested estimator whose own `get_params()` writes nothing, the state
after the call is the state before it.  (F43, fixed by `out = dict(self.params)`: with `out = self.params` the
translator renders the writes `Q3.paramsUpdate` / `Q.paramsSetitem` on the live dict and this proof fails.) -/
theorem BARTMAP_get_params_readonly (ext : Q2.Ext) (hext : ∀ v, ReadOnly (ext.get_params v)) (deep : Bool) :
    ReadOnly (BARTMAP.get_params ext deep) := by
  unfold BARTMAP.get_params
  refine ReadOnly.bind ReadOnly.selfParams (fun _ => ?_)
  refine ReadOnly.bind (ReadOnly.selfAttrB _) (fun _ => ?_)
  refine ReadOnly.bind (hext _) (fun _ => ?_)
  refine ReadOnly.bind (ReadOnly.selfAttrB _) (fun _ => ?_)
  refine ReadOnly.bind (ReadOnly.selfAttrB _) (fun _ => ?_)
  refine ReadOnly.bind (hext _) (fun _ => ?_)
  refine ReadOnly.bind (ReadOnly.selfAttrB _) (fun _ => ?_)
  exact ReadOnly.pure _

/-! ### `set_params`: generated = `bSetParams` -/

/-- `(local_params, plain_params, nested_params)` -/
abbrev Carried := Store × Store × List (String × Store)

/-- what one pass of the collecting loop does -/
def BStep (valid : Store) (body : String × Val → Carried → Q.M Carried) : Prop :=
  ∀ key v loc plain nested (w : Q.World), body (key, v) (loc, plain, nested) w =
    if (get? valid (partitionKey key).1).isSome then
      match (partitionKey key).2 with
      | some sub => (.ok (loc, plain, Q.ddset2 nested (partitionKey key).1 sub v), w)
      | none => (.ok (if (get? loc (partitionKey key).1).isSome then Q.dset loc (partitionKey key).1 v else loc,
          Q.dset plain (partitionKey key).1 v, nested), w)
    else (.error .value, w)

theorem b_loop1 (valid : Store) (body : String × Val → Carried → Q.M Carried) (hb : BStep valid body) (w : Q.World) :
    ∀ (kvs : List (String × Val)) (loc plain : Store) (nested : List (String × Store)),
    Q.Py.forEach kvs (loc, plain, nested) body w =
      match bLoop valid ⟨loc, nested, plain⟩ kvs with
      | (st, none) => (.ok (st.loc, st.plain, st.nested), w)
      | (_, some x) => (.error x, w) := by
  intro kvs
  induction kvs with
  | nil => intro loc plain nested; rfl
  | cons kv rest ih =>
    intro loc plain nested
    obtain ⟨key, v⟩ := kv
    simp only [Q.Py.forEach, Q.Py.bind, hb key v, bLoop]
    cases (get? valid (partitionKey key).1).isSome with
    | false => rfl
    | true =>
      cases (partitionKey key).2 with
      | some sub =>
        simp only [ddset2_eq_ginsert, ↓reduceIte]
        exact ih loc plain _
      | none =>
        simp only [dset_eq plain, ↓reduceIte]
        cases (get? loc (partitionKey key).1).isSome with
        | false => exact ih _ _ nested
        | true => simp only [dset_eq loc, ↓reduceIte]; exact ih _ _ nested

/-- the assigning loop: `setattr(self, k, v)` (the generated `BARTMAP.__setattr__`), `valid_params[k] = v` -/
theorem b_loop2 (c : List (Nat × Store)) (body : String × Val → Store → Q.M Store)
    (hb : ∀ (e : Est) k v valid, k ≠ "params" →
      body (k, v) valid (toWorld e c) = (.ok (Q.dset valid k v), toWorld (setAttr e k v) c)) :
    ∀ (kvs : List (String × Val)) (e : Est) (valid : Store), (∀ kv ∈ kvs, kv.1 ≠ "params") →
    Q.Py.forEach kvs valid body (toWorld e c) = (.ok (upsertAll valid kvs), toWorld (assignAll e kvs) c) := by
  intro kvs
  induction kvs with
  | nil => intro e valid _; rfl
  | cons kv rest ih =>
    intro e valid h
    obtain ⟨k, v⟩ := kv
    have hk := h (k, v) List.mem_cons_self
    simp only [Q.Py.forEach, Q.Py.bind, hb e k v valid hk, assignAll, List.foldl_cons, upsertAll, dset_eq]
    exact ih _ _ (fun kv' hm => h kv' (List.mem_cons_of_mem _ hm))

/-- every name in `plain_params` is a key of `valid_params` -/
theorem bLoop_plain_known (valid : Store) (kvs : List (String × Val)) (st : DynSt) :
    ∀ k ∈ keys (bLoop valid st kvs).1.plain, k ∈ keys st.plain ∨ (get? valid k).isSome := by
  induction kvs generalizing st with
  | nil => exact fun _ => .inl
  | cons kv r ih =>
    obtain ⟨key, v⟩ := kv
    simp only [bLoop]
    cases hknown : (get? valid (partitionKey key).1).isSome with
    | false => exact fun _ => .inl
    | true =>
      cases (partitionKey key).2 with
      | some sub => exact ih _
      | none =>
        intro k hk
        rcases ih _ k hk with h | h
        · exact (mem_keys_upsert h).imp_right fun e => by rw [e]; exact hknown
        · exact .inr h

theorem setattr_step (c : List (Nat × Store)) (e : Est) (k : String) (v : Val) (valid : Store) (hk : k ≠ "params") :
    (do BARTMAP.__setattr__ k (Q.Slot.val v)
        let valid_params := Q.dset valid k v
        pure valid_params : Q.M Store) (toWorld e c)
      = (.ok (Q.dset valid k v), toWorld (setAttr e k v) c) := by
  simp only [bind_apply, BARTMAP_setattr_eq, Art.GenSpec.Params.setattr_spec e c k v (Or.inl hk), pure_apply]

/-- **`BARTMAP.set_params`, generated = reference** (`bSetParams`), for every estimator object (`params` dict and other
attributes), every call log, every keyword list, every nested estimator: whenever `self.get_params(deep=True)` returns
`gp` (see `BARTMAP_get_params_spec`) and `params` itself is not one of the names it lists. -/
theorem BARTMAP_set_params_spec (ext : Q2.Ext) (gp : Store) (e : Est) (c : List (Nat × Store))
    (kvs : List (String × Val))
    (hgp : BARTMAP.get_params ext true (toWorld e c) = (.ok gp, toWorld e c)) (hnp : get? gp "params" = none) :
    BARTMAP.set_params ext Q.logSetParams kvs (toWorld e c)
      = ofSetRes (bSetParams (validate bartmapChecks) gp e kvs) c := by
  cases hkvs : kvs with
  | nil => simp [BARTMAP.set_params, Q.dictTruth, bSetParams, ofSetRes, pure_apply]
  | cons kv0 rest0 =>
    rw [← hkvs]
    have hne : kvs.isEmpty = false := by rw [hkvs]; rfl
    simp only [BARTMAP.set_params, Q.dictTruth, hne, Bool.not_false, Bool.not_true, Bool.false_eq_true, if_false,
      bind_apply, hgp, Art.GenSpec.Params.selfParams_toWorld, Q.items, bSetParams, ofSetRes]
    rw [b_loop1 gp _ ?hb (toWorld e c) kvs e.params [] []]
    case hb =>
      intro key v loc plain nested w
      simp only [partition_eq, dhas_eq]
      cases (get? gp (partitionKey key).1).isSome with
      | false => rfl
      | true =>
        cases (partitionKey key).2 with
        | some sub => rfl
        | none => cases (get? loc (partitionKey key).1).isSome <;> rfl
    have hpk := bLoop_plain_known gp kvs ⟨e.params, [], []⟩
    generalize bLoop gp ⟨e.params, [], []⟩ kvs = L at hpk ⊢
    obtain ⟨st, _ | x⟩ := L
    · simp only [Q.Py.lift, BARTMAP_validate, vpOf]
      cases validate bartmapChecks st.loc with
      | some x => simp
      | none =>
        -- `params` itself is not assigned: it is no name of `get_params()`
        have hplain : ∀ kv ∈ st.plain, kv.1 ≠ "params" := by
          intro kv hm hkp
          have h := (hpk kv.1 (List.mem_map_of_mem (f := (·.1)) hm)).resolve_left List.not_mem_nil
          rw [hkp, hnp] at h
          cases h
        dsimp only
        rw [b_loop2 c _ (fun e k v valid hk => setattr_step c e k v valid hk) st.plain e gp hplain]
        simp only [toWorld]
        rw [route_loop _ _ (route_body _) _ st.nested c]
        cases (route (upsertAll gp st.plain) st.nested).2 <;> rfl
    · simp

/-! ### the C19 clauses on the generated `BARTMAP.set_params` -/

theorem bLoop_unknown (valid : Store) (kvs : List (String × Val)) (st : DynSt)
    (h : ∃ kv ∈ kvs, get? valid (partitionKey kv.1).1 = none) : (bLoop valid st kvs).2 = some .value := by
  induction kvs generalizing st with
  | nil => obtain ⟨kv, hm, _⟩ := h; cases hm
  | cons kv r ih =>
    obtain ⟨key, v⟩ := kv
    simp only [bLoop]
    cases hknown : (get? valid (partitionKey key).1).isSome with
    | false => rfl
    | true =>
      have h' : ∃ kv ∈ r, get? valid (partitionKey kv.1).1 = none := by
        obtain ⟨kv, hm, hu⟩ := h
        rcases List.mem_cons.mp hm with rfl | hm
        · rw [hu] at hknown; cases hknown
        · exact ⟨kv, hm, hu⟩
      cases (partitionKey key).2 <;> exact ih _ h'

/-- C19 (c): **an unknown name anywhere in the call makes the generated `BARTMAP.set_params` raise `ValueError`, and
nothing is assigned, nothing is delegated** (the names are only collected before the first assignment) -/
theorem BARTMAP_unknown_rejected (ext : Q2.Ext) (gp : Store) (e : Est) (c : List (Nat × Store))
    (kvs : List (String × Val))
    (hgp : BARTMAP.get_params ext true (toWorld e c) = (.ok gp, toWorld e c)) (hnp : get? gp "params" = none)
    (h : ∃ kv ∈ kvs, get? gp (partitionKey kv.1).1 = none) :
    BARTMAP.set_params ext Q.logSetParams kvs (toWorld e c) = (.error .value, toWorld e c) := by
  rw [BARTMAP_set_params_spec ext gp e c kvs hgp hnp]
  have hne : kvs.isEmpty = false := by
    obtain ⟨kv, hm, _⟩ := h
    cases kvs with
    | nil => cases hm
    | cons _ _ => rfl
  have hu := bLoop_unknown gp kvs ⟨e.params, [], []⟩ h
  simp only [bSetParams, hne, Bool.false_eq_true, if_false]
  generalize bLoop gp ⟨e.params, [], []⟩ kvs = L at hu
  obtain ⟨st, err⟩ := L
  dsimp only at hu
  subst hu
  simp [ofSetRes]

/-- C19 (c'), validate before assign: **a call whose merged own parameters `validate_params` rejects raises that
exception and nothing is assigned, nothing is delegated** — whatever else the call names (a new module, nested keys) -/
theorem BARTMAP_invalid_rejected (ext : Q2.Ext) (gp : Store) (e : Est) (c : List (Nat × Store))
    (kvs : List (String × Val)) (x : Err)
    (hgp : BARTMAP.get_params ext true (toWorld e c) = (.ok gp, toWorld e c)) (hnp : get? gp "params" = none)
    (hne : kvs ≠ []) (hl : (bLoop gp ⟨e.params, [], []⟩ kvs).2 = none)
    (hv : validate bartmapChecks (bLoop gp ⟨e.params, [], []⟩ kvs).1.loc = some x) :
    BARTMAP.set_params ext Q.logSetParams kvs (toWorld e c) = (.error x, toWorld e c) := by
  rw [BARTMAP_set_params_spec ext gp e c kvs hgp hnp]
  have hemp : kvs.isEmpty = false := by
    cases kvs with
    | nil => exact absurd rfl hne
    | cons _ _ => rfl
  simp only [bSetParams, hemp, Bool.false_eq_true, if_false]
  generalize bLoop gp ⟨e.params, [], []⟩ kvs = L at hl hv
  obtain ⟨st, err⟩ := L
  dsimp only at hl hv
  subst hl
  simp [hv, ofSetRes]

/-- C19, nested names: **a call that both replaces a module and names one of that module's parameters delivers the nested value
to the NEW module**: `set_params(module_b=<new>, module_b__rho=v)` stores the new object (`setattr`) and then calls
`<new>.set_params(rho=v)` — exactly one delegated call, to the object `n` just stored (`valid_params[key] = value`
precedes the nested routing).  For every estimator, module name `m`, nested name `k = m__sub`, value. -/
theorem BARTMAP_new_module_gets_nested (ext : Q2.Ext) (gp : Store) (e : Est) (c : List (Nat × Store))
    (m k sub : String) (n : Nat) (v : Val)
    (hgp : BARTMAP.get_params ext true (toWorld e c) = (.ok gp, toWorld e c)) (hnp : get? gp "params" = none)
    (hm : partitionKey m = (m, none)) (hk : partitionKey k = (m, some sub)) (hmk : (get? gp m).isSome)
    (hown : get? e.params m = none) (hv : validate bartmapChecks e.params = none) :
    BARTMAP.set_params ext Q.logSetParams [(m, .mod n), (k, v)] (toWorld e c)
      = (.ok (), toWorld (setAttr e m (.mod n)) (c ++ [(n, [(sub, v)])])) := by
  rw [BARTMAP_set_params_spec ext gp e c _ hgp hnp]
  have hnil : ∀ (k : String) (x : Val), upsert [] k x = [(k, x)] := fun _ _ => rfl
  simp [bSetParams, bLoop, hm, hk, hmk, hown, hv, route, upsertAll, Art.Params.get?_upsert_same, ginsert, assignAll,
    ofSetRes, hnil]

/-! #### C19 (b): `set_params(**get_params())` changes no observable parameter -/

/-- `getattr(e, k)` is `v`: the parameter store has it, or no parameter is called `k` and the attribute holds it -/
def Fixes (e : Est) (k : String) (v : Val) : Prop :=
  get? e.params k = some v ∨ (get? e.params k = none ∧ get? e.attrs k = some v)

theorem setAttr_fix {e : Est} {k : String} {v : Val} (h : Fixes e k v) : setAttr e k v = e := by
  rcases h with h | ⟨h1, h2⟩
  · rw [setAttr, if_pos (by rw [h]; rfl), assign_of_get h]
  · rw [setAttr, if_neg (by rw [h1]; exact Bool.false_ne_true), upsert_of_get h2]

theorem assignAll_fix (e : Est) (kvs : List (String × Val)) (h : ∀ kv ∈ kvs, Fixes e kv.1 kv.2) :
    assignAll e kvs = e := by
  induction kvs with
  | nil => rfl
  | cons kv r ih =>
    simp only [assignAll, List.foldl_cons]
    rw [setAttr_fix (h kv List.mem_cons_self)]
    exact ih (fun kv' hm => h kv' (List.mem_cons_of_mem _ hm))

theorem mem_upsertAll (p : Store) (kvs : List (String × Val)) (kv : String × Val) (h : kv ∈ upsertAll p kvs) :
    kv ∈ p ∨ kv ∈ kvs := by
  induction kvs generalizing p with
  | nil => left; exact h
  | cons x r ih =>
    have h' : kv ∈ upsertAll (upsert p x.1 x.2) r := h
    rcases ih _ h' with h1 | h1
    · rcases mem_upsert h1 with h2 | h2
      · left; exact h2
      · right; rw [h2]; exact List.mem_cons_self
    · right; exact List.mem_cons_of_mem _ h1

/-- the collecting loop on keyword arguments that only repeat what the estimator holds: `local_params` stays the
parameter store, and every collected plain name repeats its current value -/
theorem bLoop_fixed (valid : Store) (e : Est) (kvs : List (String × Val)) (st : DynSt)
    (hloc : st.loc = e.params) (hplain : ∀ kv ∈ st.plain, Fixes e kv.1 kv.2)
    (hk : ∀ kv ∈ kvs, (partitionKey kv.1).2 = none → Fixes e (partitionKey kv.1).1 kv.2) :
    (bLoop valid st kvs).1.loc = e.params ∧ ∀ kv ∈ (bLoop valid st kvs).1.plain, Fixes e kv.1 kv.2 := by
  induction kvs generalizing st with
  | nil => exact ⟨hloc, hplain⟩
  | cons x r ih =>
    obtain ⟨key, v⟩ := x
    have hr : ∀ kv ∈ r, (partitionKey kv.1).2 = none → Fixes e (partitionKey kv.1).1 kv.2 :=
      fun kv hm => hk kv (List.mem_cons_of_mem _ hm)
    simp only [bLoop]
    cases (get? valid (partitionKey key).1).isSome with
    | false => exact ⟨hloc, hplain⟩
    | true =>
      cases hs : (partitionKey key).2 with
      | some sub => exact ih _ hloc hplain hr
      | none =>
        have hf : Fixes e (partitionKey key).1 v := hk (key, v) List.mem_cons_self hs
        refine ih _ ?_ (fun kv hm => (mem_upsert hm).elim (hplain kv) fun h => h ▸ hf) hr
        rcases hf with h | ⟨h1, _⟩
        · rw [hloc, if_pos (by rw [h]; rfl), upsert_of_get h]
        · rw [hloc, if_neg (by rw [h1]; exact Bool.false_ne_true)]

/-- `bSetParams` with keyword arguments that only repeat what the estimator holds leaves the estimator as it is -/
theorem bSetParams_fixed (vd : Store → Option Err) (gp : Store) (e : Est) (kvs : List (String × Val))
    (hk : ∀ kv ∈ kvs, (partitionKey kv.1).2 = none → Fixes e (partitionKey kv.1).1 kv.2) :
    (bSetParams vd gp e kvs).est = e := by
  simp only [bSetParams]
  split
  · rfl
  · have := bLoop_fixed gp e kvs ⟨e.params, [], []⟩ rfl (fun _ h => by cases h) hk
    generalize bLoop gp ⟨e.params, [], []⟩ kvs = L at this
    obtain ⟨st, err⟩ := L
    cases err with
    | some x => rfl
    | none =>
      dsimp only
      cases vd st.loc with
      | some x => rfl
      | none => exact assignAll_fix e st.plain this.2

/-- every entry of `getParamsFlat own kids` is an own parameter, a child object under its name, or a `name__sub` key -/
theorem mem_getParamsFlat (kids : List KidView) : ∀ (own : Store) (kv : String × Val),
    kv ∈ getParamsFlat own kids →
      kv ∈ own ∨ (∃ k ∈ kids, kv = (k.name, k.obj)) ∨ (∃ k ∈ kids, ∃ s v, kv = ((k.name ++ "__") ++ s, v)) := by
  induction kids with
  | nil => intro own kv h; left; exact h
  | cons k r ih =>
    intro own kv h
    have h' : kv ∈ getParamsFlat (upsert (upsertAll own (prefixed k.name k.deep)) k.name k.obj) r := h
    rcases ih _ kv h' with h1 | ⟨k', hk', e⟩ | ⟨k', hk', s, v, e⟩
    · rcases mem_upsert h1 with h2 | h2
      · rcases mem_upsertAll _ _ _ h2 with h3 | h3
        · left; exact h3
        · right; right
          obtain ⟨x, hx, rfl⟩ := List.mem_map.mp h3
          exact ⟨k, List.mem_cons_self, x.1, x.2, rfl⟩
      · right; left; exact ⟨k, List.mem_cons_self, h2⟩
    · right; left; exact ⟨k', List.mem_cons_of_mem _ hk', e⟩
    · right; right; exact ⟨k', List.mem_cons_of_mem _ hk', s, v, e⟩

/-- C19 (b), in general: **`est.set_params(**est.get_params())` on the generated code changes no observable parameter
of a BARTMAP** — the instance `__dict__` (the `params` dict and the two modules) after the call is the one before it,
whatever the call returns.  For every well-formed estimator object (`params` a dict of `__`-free, distinct names that no
attribute shadows), all modules `a`, `b` held in the attributes `module_a` / `module_b`, and all nested estimators whose
`get_params()` returns (`da`, `db` arbitrary).  What is delegated is `module.set_params(**module.get_params())` for each
module, which `Art.GenSpec.Params.gen_set_get_noop` shows to be a no-op on an elementary module. -/
theorem BARTMAP_set_get_noop (ext : Q2.Ext) (e : Est) (hwf : e.WF) (c : List (Nat × Store)) (a b : Val)
    (da db : Store)
    (ha : get? e.attrs "module_a" = some a) (hb : get? e.attrs "module_b" = some b)
    (hpa : get? e.params "module_a" = none) (hpb : get? e.params "module_b" = none)
    (hpp : get? e.params "params" = none)
    (hga : ext.get_params a (toWorld e c) = (.ok da, toWorld e c))
    (hgb : ext.get_params b (toWorld e c) = (.ok db, toWorld e c)) :
    ∃ ps, BARTMAP.get_params ext true (toWorld e c) = (.ok ps, toWorld e c) ∧
      (BARTMAP.set_params ext Q.logSetParams ps (toWorld e c)).2.self = (toWorld e c).self := by
  have hgp := BARTMAP_get_params_spec ext (toWorld e c) e.params a b da db true (dget_toSelf_params e)
    (by rw [toWorld, dget_toSelf e (by decide +kernel), ha]; rfl) (by rw [toWorld, dget_toSelf e (by decide +kernel), hb]; rfl) hga hgb
  refine ⟨_, hgp, ?_⟩
  have hcls := mem_getParamsFlat [⟨"module_a", a, da⟩, ⟨"module_b", b, db⟩] e.params
  have hkids : ∀ k ∈ [(⟨"module_a", a, da⟩ : KidView), ⟨"module_b", b, db⟩],
      k.name ≠ "params" ∧ Fixes e k.name k.obj := by
    intro k hk
    simp only [List.mem_cons, List.mem_nil_iff, or_false] at hk
    rcases hk with rfl | rfl
    · exact ⟨show "module_a" ≠ "params" by decide +kernel, .inr ⟨hpa, ha⟩⟩
    · exact ⟨show "module_b" ≠ "params" by decide +kernel, .inr ⟨hpb, hb⟩⟩
  -- `params` is none of the names `get_params` lists: no own parameter, no module, and it has no `__`
  have hnp : get? (getParamsFlat e.params [⟨"module_a", a, da⟩, ⟨"module_b", b, db⟩]) "params" = none := by
    rw [get?_eq_none_iff]
    intro hm
    obtain ⟨kv, hkv, hk⟩ := List.mem_map.mp hm
    rcases hcls kv hkv with h | ⟨k, hk', rfl⟩ | ⟨k, _, s, v, rfl⟩
    · exact get?_eq_none_iff.mp hpp (hk ▸ List.mem_map_of_mem (f := (·.1)) h)
    · exact (hkids k hk').1 hk
    · have hsep := partitionKey_sep k.name s
      rw [show (k.name ++ "__") ++ s = "params" from hk] at hsep
      exact absurd hsep (by decide +kernel)
  rw [BARTMAP_set_params_spec ext _ e c _ hgp hnp, ofSetRes]
  refine congrArg toSelf (bSetParams_fixed _ _ e _ ?_)
  -- every plain keyword repeats what the estimator holds: an own parameter, or a module under its name
  intro kv hkv hs
  rw [show (partitionKey kv.1).1 = kv.1 from congrArg Prod.fst (plain_of_partitionKey_none hs)]
  rcases hcls kv hkv with h | ⟨k, hk', rfl⟩ | ⟨k, _, s, v, rfl⟩
  · exact .inl (get?_of_mem_nodup hwf.nodup h)
  · exact (hkids k hk').2
  · exact absurd hs (Option.isSome_iff_ne_none.mp (partitionKey_sep k.name s))

/-! #### on a concrete BARTMAP (non-vacuity: the generated code run on data) -/

/-- `BARTMAP(FuzzyART(0.5, 0.0, 1.0) #7, FuzzyART(0.5, 0.0, 1.0) #9, eta=0.5)`, by the generated constructor -/
def bW : Q.World := (BARTMAP.__init__ (.mod 7) (.mod 9) (.flt half) ⟨[], []⟩).2

abbrev bExt := extOf (objs half half)
abbrev bSet := BARTMAP.set_params bExt Q.logSetParams

/-- the constructor: the object; an `int` eta is rejected and nothing is stored -/
theorem BARTMAP_init_example :
    outcome (BARTMAP.__init__ (.mod 7) (.mod 9) (.flt half) ⟨[], []⟩)
      = (none, ⟨[("params", .dict [("eta", .flt half)]), ("module_a", .val (.mod 7)), ("module_b", .val (.mod 9))], []⟩) ∧
    outcome (BARTMAP.__init__ (.mod 7) (.mod 9) (.int 1) ⟨[], []⟩) = (some .assert, ⟨[], []⟩) := by decide +kernel

/-- `get_params()` on it: own parameter, then per module its parameters and the module; `bW` is untouched -/
theorem BARTMAP_get_params_example :
    (BARTMAP.get_params bExt true bW).1.toOption
      = some [("eta", .flt half), ("module_a__rho", .flt half), ("module_a__alpha", .flt 0), ("module_a__beta", .flt 1),
          ("module_a", .mod 7), ("module_b__rho", .flt half), ("module_b__alpha", .flt 0), ("module_b__beta", .flt 1),
          ("module_b", .mod 9)] ∧ (BARTMAP.get_params bExt true bW).2 = bW := by decide +kernel

/-- C19 (b) on this object: `est.set_params(**est.get_params())` returns normally, leaves the BARTMAP exactly as it
is, and hands each module exactly its own parameters (for which `BaseART.set_params` is a no-op:
`Art.GenSpec.Params.gen_set_get_noop`). -/
theorem BARTMAP_set_get_example :
    ∃ ps, (BARTMAP.get_params bExt true bW).1.toOption = some ps ∧
      outcome (bSet ps bW) = (none, { bW with calls := [(7, (fz half).params), (9, (fz half).params)] }) :=
  ⟨_, BARTMAP_get_params_example.1, by decide +kernel⟩

/-- nested names, rejection, attribute mirroring on this object, all on the generated code -/
theorem BARTMAP_set_examples :
    -- (b) the nested value goes to the new module #3, not to the replaced #9
    outcome (bSet [("module_b", .mod 3), ("module_b__rho", .flt 1)] bW)
      = (none, ⟨[("params", .dict [("eta", .flt half)]), ("module_a", .val (.mod 7)), ("module_b", .val (.mod 3))],
          [(3, [("rho", .flt 1)])]⟩) ∧
    -- the same with the nested key first
    outcome (bSet [("module_b__rho", .flt 1), ("module_b", .mod 3)] bW)
      = (none, ⟨[("params", .dict [("eta", .flt half)]), ("module_a", .val (.mod 7)), ("module_b", .val (.mod 3))],
          [(3, [("rho", .flt 1)])]⟩) ∧
    -- a new eta equals constructing with it
    outcome (bSet [("eta", .flt 1)] bW) = outcome (BARTMAP.__init__ (.mod 7) (.mod 9) (.flt 1) ⟨[], []⟩) ∧
    -- (c) unknown names, also after valid ones: ValueError, nothing assigned
    outcome (bSet [("eta", .flt 1), ("module_a", .mod 3), ("zz", .flt 1)] bW) = (some .value, bW) ∧
    outcome (bSet [("module_c__rho", .flt 1)] bW) = (some .value, bW) ∧
    -- an int eta is rejected before the new module is stored
    outcome (bSet [("module_a", .mod 3), ("eta", .int 1)] bW) = (some .assert, bW) := by decide +kernel

/-- attribute access mirrors the parameters (`__dict__` first, then the generated `__getattr__`) -/
theorem BARTMAP_attr_examples :
    (Q.pyGetattr BARTMAP.__getattr__ "eta" bW).1 = .ok (.val (.flt half)) ∧
    (Q.pyGetattr BARTMAP.__getattr__ "module_a" bW).1 = .ok (.val (.mod 7)) ∧
    (Q.pyGetattr BARTMAP.__getattr__ "nope" bW).1 = .error .attr ∧
    outcome (BARTMAP.__setattr__ "eta" (.val (.flt 1)) bW)
      = (none, ⟨[("params", .dict [("eta", .flt 1)]), ("module_a", .val (.mod 7)), ("module_b", .val (.mod 9))], []⟩) :=
  ⟨rfl, rfl, rfl, by decide +kernel⟩

/-! ## FusionART (on the wide world `Q3.World`) -/

theorem pure3 {β : Type} (b : β) (w : Q3.World) : (pure b : Q3.M β) w = (.ok b, w) := rfl

/-! ### `get_channel_position_tuples` -/

theorem positions_loop (body : Rat → List (Rat × Rat) × Rat → Q3.M (List (Rat × Rat) × Rat))
    (hb : ∀ d pos s w, body d (pos, s) w = (.ok (pos ++ [(s, s + d)], s + d), w)) (w : Q3.World) :
    ∀ (l : List Rat) (pos : List (Rat × Rat)) (s : Rat),
    Q.Py.forEach l (pos, s) body w = (.ok (pos ++ channelRanges s l, l.foldl (· + ·) s), w) := by
  intro l
  induction l with
  | nil => intro pos s; simp [Q.Py.forEach, Q.Py.pure, channelRanges]
  | cons d r ih =>
    intro pos s
    simp only [Q.Py.forEach, Q.Py.bind, hb, ih, channelRanges, List.foldl_cons, List.append_assoc, List.cons_append,
      List.nil_append]

/-- **`get_channel_position_tuples`, generated = reference**: a list or an array of widths gives
`channelRanges 0 widths`, anything else is not iterable (`TypeError`); nothing is written -/
theorem get_channel_position_tuples_spec (v : Val) (w : Q3.World) :
    get_channel_position_tuples v w
      = (match Q3.iterNums v with
          | .ok l => .ok (channelRanges 0 l)
          | .error e => .error e, w) := by
  simp only [get_channel_position_tuples, bind_apply, Q.Py.lift]
  cases Q3.iterNums v with
  | error e => rfl
  | ok l =>
    dsimp only
    rw [positions_loop _ (fun d pos s w => by simp [pure3]) w l [] 0]
    simp [pure3]

/-- the k-th range: it starts at the sum of the widths before it and ends one width later — consecutive, half-open,
starting at `s` -/
theorem channelRanges_get (l : List Rat) : ∀ (s : Rat) (k : Nat) (h : k < l.length),
    (channelRanges s l)[k]? = some (s + (l.take k).sum, s + (l.take k).sum + l[k]) := by
  induction l with
  | nil => intro s k h; cases h
  | cons d r ih =>
    intro s k h
    cases k with
    | zero => simp [channelRanges, Rat.add_zero]
    | succ k =>
      have h' : k < r.length := by simpa using h
      simp only [channelRanges, List.getElem?_cons_succ, ih (s + d) k h', List.take_succ_cons, List.sum_cons,
        List.getElem_cons_succ, Rat.add_assoc]

theorem channelRanges_length (l : List Rat) (s : Rat) : (channelRanges s l).length = l.length := by
  induction l generalizing s with
  | nil => rfl
  | cons d r ih => simp [channelRanges, ih]

theorem sum_take_succ (l : List Rat) (k : Nat) (h : k < l.length) :
    (l.take (k + 1)).sum = (l.take k).sum + l[k] := by
  induction l generalizing k with
  | nil => cases h
  | cons d r ih =>
    cases k with
    | zero => simp [Rat.add_zero, Rat.zero_add]
    | succ k =>
      have h' : k < r.length := by simpa using h
      simp only [List.take_succ_cons, List.sum_cons, ih k h', List.getElem_cons_succ, Rat.add_assoc]

/-- each range starts where the previous one ends -/
theorem channelRanges_consecutive (l : List Rat) (s : Rat) (k : Nat) (h : k + 1 < l.length) :
    ∃ a b c, (channelRanges s l)[k]? = some (a, b) ∧ (channelRanges s l)[k + 1]? = some (b, c) := by
  have h0 : k < l.length := by omega
  refine ⟨s + (l.take k).sum, s + (l.take k).sum + l[k], s + (l.take (k + 1)).sum + l[k + 1],
    channelRanges_get l s k h0, ?_⟩
  rw [channelRanges_get l s (k + 1) h, sum_take_succ l k h0]
  simp only [Rat.add_assoc]

/-! ### `FusionART.validate_params` -/

/-- what iterates is an array or a list -/
theorem isSeq_of_iterNums {g : Val} {l : List Rat} (h : Q3.iterNums g = .ok l) :
    (Q.isinstance g Q.PyType.ndarray || Q3.isList g) = true := by
  cases g with
  | lst _ | arr _ => rfl
  | _ => cases h

/-- **`FusionART.validate_params`, generated = reference** for every dict and every `sum`: present, iterable, every
entry in `[0, 1]`, the sum `== 1`; the last assert (`isinstance(…, (np.ndarray, list))`) cannot fail once the others have passed -/
theorem FusionART_validate_spec (num : Q3.Num) (p : Store) :
    FusionART.validate_params num p = fusionValidate num.sum p := by
  simp only [FusionART.validate_params, fusionValidate, dhas_eq, Q.getitem, dget_eq]
  cases get? p "gamma_values" with
  | none => rfl
  | some g =>
    simp only [Q.assert, Option.isSome_some, if_true, bind, Except.bind]
    rcases hi : Q3.iterNums g with e | l
    · rfl
    · simp only [List.all_map, Function.comp_def, id, isSeq_of_iterNums hi]
      cases l.all (fun x => decide (x ≤ 1) && decide (0 ≤ x)) with
      | false => rfl
      | true =>
        simp only [if_true]
        rcases num.sum g with e | s
        · rfl
        · by_cases hs : s = 1 <;> simp [hs, pure, Except.pure]

/-! ### `FusionART.__init__` -/

/-- an attribute store through the generated (wide) `BaseART.__setattr__` on an instance whose `params` dict does not
have the name: `object.__setattr__` -/
theorem setattr3_fresh (p : Store) (rest : List (String × Q3.Slot)) (k : String) (s : Q3.Slot)
    (c : List (Nat × Store)) (h : List (List (String × Q3.Slot)))
    (hk : Q.dhas p k = false) (hkp : k ≠ "params") :
    BaseART.__setattr__ k s ⟨("params", .dict p) :: rest, c, h⟩
      = (.ok (), ⟨("params", .dict p) :: Q.dset rest k s, c, h⟩) := by
  simp only [BaseART.__setattr__, bind_apply, pure3, Q3.selfDict, Q.Py.lift, Q3.slotHas, Q.dgetD, Q.dget, hk,
    Q3.objectSetattr, Q.dset, if_neg hkp.symm, Option.getD_some, Bool.false_eq_true, ↓reduceIte]

theorem setattr3_params (p : Store) (c : List (Nat × Store)) (h : List (List (String × Q3.Slot))) :
    BaseART.__setattr__ "params" (.dict p) ⟨[], c, h⟩ = (.ok (), ⟨[("params", .dict p)], c, h⟩) := by
  simp only [BaseART.__setattr__, bind_apply, pure3, Q3.selfDict, Q.Py.lift, Q3.slotHas, Q.dgetD, Q.dget, Q.dhas,
    Q3.objectSetattr, Q.dset, Option.getD_none, Option.isSome_none, Bool.false_eq_true, ↓reduceIte]

theorem dhas_gamma (g : Val) (k : String) (hk : k ≠ "gamma_values") :
    Q.dhas ([("gamma_values", g)] : Store) k = false := by
  have : ¬ ("gamma_values" = k) := fun e => hk e.symm
  simp [Q.dhas, Q.dget, this]

/-- `BaseART.__init__` (wide world) on a fresh instance, followed by `k`: validation first — a rejected dict leaves
the instance without any attribute — then `params` and the four counters -/
theorem init3_bind (vp : Store → Except Err Unit) (p : Store) (k : Q3.M Unit) (c : List (Nat × Store))
    (h : List (List (String × Q3.Slot))) (hp : ∀ a ∈ keys initAttrs, Q.dhas p a = false) :
    (do BaseART.__init__ (fun p => Q.Py.lift (vp p)) p; k) ⟨[], c, h⟩
      = match vp p with
        | .error e => (.error e, ⟨[], c, h⟩)
        | .ok () => k ⟨("params", .dict p) :: initAttrs.map (fun kv => (kv.1, Q3.Slot.val kv.2)), c, h⟩ := by
  simp only [BaseART.__init__, bind_apply, Q.Py.lift]
  rcases vp p with e | ⟨⟨⟩⟩
  · rfl
  · simp only [setattr3_params, setattr3_fresh _ _ _ _ _ _ (hp _ (.head _)), setattr3_fresh _ _ _ _ _ _ (hp _ (.tail _ (.head _))),
      setattr3_fresh _ _ _ _ _ _ (hp _ (.tail _ (.tail _ (.head _)))),
      setattr3_fresh _ _ _ _ _ _ (hp _ (.tail _ (.tail _ (.tail _ (.head _))))), pure3, Q.dset, ne_eq, String.reduceEq,
      ↓reduceIte, not_false_eq_true]
    rfl

/-- the part of the constructor after the length assert, for a `channel_dims` that iterates as `l` -/
theorem FusionART_init_tail (num : Q3.Num) (modules : List Val) (g dimsV : Val) (l : List Rat)
    (hi : Q3.iterNums dimsV = .ok l) (c : List (Nat × Store)) (h : List (List (String × Q3.Slot))) :
    (do let params := ([("gamma_values", g)] : Store)
        BaseART.__init__ (fun p => Q.Py.lift (FusionART.validate_params num p)) params
        BaseART.__setattr__ "modules" (Q3.Slot.vals modules)
        BaseART.__setattr__ "n" (Q3.Slot.num (((List.length (← Q3.selfVals BaseART.__getattr__ "modules")) : Nat) : Rat))
        BaseART.__setattr__ "channel_dims" (Q3.Slot.val dimsV)
        BaseART.__setattr__ "_channel_indices" (Q3.Slot.ranges (← get_channel_position_tuples (← Q3.selfAttrB BaseART.__getattr__ "channel_dims")))
        BaseART.__setattr__ "_weight_indices" (Q3.Slot.ranges (← Q3.selfRanges BaseART.__getattr__ "_channel_indices"))
        BaseART.__setattr__ "dim_" (Q3.Slot.num (← Q.Py.lift (num.sum dimsV)))
        pure () : Q3.M Unit) ⟨[], c, h⟩
      = (match fusionValidate num.sum [("gamma_values", g)] with
          | .error e => (.error e, ⟨[], c, h⟩)
          | .ok () =>
            match num.sum dimsV with
            | .ok total => (.ok (), ⟨fusionDict modules g dimsV l total, c, h⟩)
            | .error e => (.error e, ⟨fusionDictCore modules g dimsV l, c, h⟩)) := by
  have hfresh : ∀ a ∈ keys initAttrs, a ≠ "gamma_values" := by decide +kernel
  refine (init3_bind _ _ _ c h (fun a ha => dhas_gamma g a (hfresh a ha))).trans ?_
  rw [FusionART_validate_spec]
  rcases fusionValidate num.sum [("gamma_values", g)] with e | ⟨⟨⟩⟩
  · rfl
  · -- the stores of the constructor itself; `sum(channel_dims)` is evaluated before the last one
    simp only [initAttrs, List.map, setattr3_fresh, Q.dhas, Q.dget, Q.dset, bind_apply, pure3, Q3.selfVals, Q3.selfAttrB,
      Q3.selfRanges, Q3.pyGetattr, Q3.asVal, get_channel_position_tuples_spec, hi, Q.Py.lift, String.reduceEq,
      ↓reduceIte, ne_eq, not_false_eq_true, Option.isSome_none]
    rcases num.sum dimsV with e | total
    · rfl
    · simp only [setattr3_fresh, Q.dhas, Q.dget, Q.dset, String.reduceEq, ↓reduceIte, ne_eq, not_false_eq_true,
        Option.isSome_none]
      rfl

theorem lenVal_iterNums {v : Val} {n : Nat} (h : Q3.lenVal v = .ok n) :
    ∃ l, Q3.iterNums v = .ok l ∧ l.length = n := by
  cases v with
  | lst l | arr l => exact ⟨l, rfl, Except.ok.inj h⟩
  | _ => cases h

/-- the head of `FusionART.__init__`, followed by `k`: `assert len(modules) == len(gamma_values) == len(channel_dims)`,
a chained comparison (`len(channel_dims)` is evaluated only after the first two agree) -/
theorem fusion_lengths (modules : List Val) (g dimsV : Val) (k : Q3.M Unit) (w : Q3.World) :
    (do let t2 ← Q.Py.lift (Q3.lenVal g)
        let t3 ← (if modules.length = t2 then do pure (decide (t2 = (← Q.Py.lift (Q3.lenVal dimsV)))) else pure false)
        Q.Py.lift (Q.assert t3)
        k : Q3.M Unit) w
      = match Q3.lenVal g with
        | .error e => (.error e, w)
        | .ok ng =>
          if modules.length = ng then
            match Q3.lenVal dimsV with
            | .error e => (.error e, w)
            | .ok nd => if ng = nd then k w else (.error .assert, w)
          else (.error .assert, w) := by
  simp only [bind_apply, Q.Py.lift]
  rcases Q3.lenVal g with e | ng
  · rfl
  · by_cases hlen : modules.length = ng
    · simp only [hlen, if_true, bind_apply, Q.Py.lift, pure3]
      rcases Q3.lenVal dimsV with e | nd
      · rfl
      · by_cases hnd : ng = nd <;> simp [hnd, Q.assert]
    · simp [hlen, Q.assert, pure3]

/-- **`FusionART.__init__`, generated = reference** (`constructFusion`), for every list of modules, every
`gamma_values` / `channel_dims` value, every `sum`, call log and heap: the outcome and the instance `__dict__` when the
call ends; the call log and the heap are untouched — the constructor has no access to any member of the modules (the
generated definition takes no `ext`): it does not touch their attributes. -/
theorem FusionART_init_spec (num : Q3.Num) (modules : List Val) (g dimsV : Val) (c : List (Nat × Store))
    (h : List (List (String × Q3.Slot))) :
    FusionART.__init__ num modules g dimsV ⟨[], c, h⟩
      = ((constructFusion num.sum modules g dimsV).1, ⟨(constructFusion num.sum modules g dimsV).2, c, h⟩) := by
  refine (fusion_lengths modules g dimsV _ _).trans ?_
  unfold constructFusion
  rcases Q3.lenVal g with e | ng
  · rfl
  · by_cases hlen : modules.length = ng
    · simp only [hlen, if_true]
      rcases hd : Q3.lenVal dimsV with e | nd
      · rfl
      · obtain ⟨l, hi, hl⟩ := lenVal_iterNums hd
        by_cases hnd : ng = nd
        · simp only [hi, hnd, if_true]
          rw [FusionART_init_tail num modules g dimsV l hi c h]
          rcases fusionValidate num.sum [("gamma_values", g)] with e | ⟨⟨⟩⟩
          · rfl
          · rcases num.sum dimsV with e | total <;> rfl
        · simp only [hi, hnd, if_false]
    · simp only [hlen, if_false]

/-- the successful case, spelled out: `_channel_indices` (= `_weight_indices`) are the consecutive half-open ranges of
`channel_dims` (`channelRanges_get`, `channelRanges_consecutive`), `dim_` is Python's `sum(channel_dims)`, `n` the
number of modules, and nothing but the eleven attributes exists -/
theorem FusionART_init_ok (num : Q3.Num) (modules : List Val) (g : Val) (l : List Rat) (total : Rat)
    (c : List (Nat × Store)) (h : List (List (String × Q3.Slot)))
    (hlg : Q3.lenVal g = .ok modules.length) (hll : modules.length = l.length)
    (hv : fusionValidate num.sum [("gamma_values", g)] = .ok ()) (hs : num.sum (.lst l) = .ok total) :
    FusionART.__init__ num modules g (.lst l) ⟨[], c, h⟩
      = (.ok (), ⟨fusionDict modules g (.lst l) l total, c, h⟩) := by
  rw [FusionART_init_spec]
  simp only [constructFusion, hlg]
  simp [Q3.lenVal, Q3.iterNums, hll, hv, hs]

/-- `dim_` is the end of the last range when `sum` is exact on `channel_dims` (a list of ints) -/
theorem channelRanges_last (l : List Rat) (s : Rat) (hne : l ≠ []) :
    ((channelRanges s l).getLast?).map (·.2) = some (s + l.sum) := by
  induction l generalizing s with
  | nil => exact absurd rfl hne
  | cons d r ih =>
    cases r with
    | nil => simp [channelRanges, Rat.add_zero]
    | cons d' r' =>
      have := ih (s + d) (by simp)
      simp only [channelRanges] at this ⊢
      rw [List.getLast?_cons_cons, this]
      simp [Rat.add_assoc]

/-! ### `FusionART.get_params` -/

theorem fusion_gp_loop (ext : Q3.Ext) (deep : Val → Store) (w : Q3.World)
    (body : Nat × Val → Store → Q3.M Store)
    (hb : ∀ i m out, ext.get_params m w = (.ok (deep m), w) →
      body (i, m) out w = (.ok (upsert (upsertAll out (prefixed (Q2.moduleName i) (deep m))) (Q2.moduleName i) m), w)) :
    ∀ (ms : List Val) (n : Nat) (out : Store), (∀ m ∈ ms, ext.get_params m w = (.ok (deep m), w)) →
    Q.Py.forEach (Q2.enumerate.go n ms) out body w
      = (.ok (((Q2.enumerate.go n ms).map (fun im => (⟨Q2.moduleName im.1, im.2, deep im.2⟩ : KidView))).foldl
          (fun out k => upsert (upsertAll out (prefixed k.name k.deep)) k.name k.obj) out), w) := by
  intro ms
  induction ms with
  | nil => intro n out _; rfl
  | cons m r ih =>
    intro n out h
    simp only [Q2.enumerate.go, Q.Py.forEach, Q.Py.bind, hb n m out (h m List.mem_cons_self), List.map_cons,
      List.foldl_cons]
    exact ih (n + 1) _ (fun m' hm => h m' (List.mem_cons_of_mem _ hm))

/-- **`FusionART.get_params`, generated = reference**: `getParamsFlat params (fusionKids deep modules)` — a copy of
`params`, then for module `i` its parameters as `module_i__k` and the module itself as `module_i` — and the object is NOT
touched (`self.params` is what it was: the FusionART half of the former defect F43).  For every instance `__dict__`
holding a params dict and a module list, every nested estimator whose `get_params()` returns, whatever `deep`. -/
theorem FusionART_get_params_spec (ext : Q3.Ext) (deep : Val → Store) (w : Q3.World) (p : Store) (ms : List Val)
    (dp : Bool) (hp : Q.dget w.self "params" = some (.dict p)) (hm : Q.dget w.self "modules" = some (.vals ms))
    (hext : ∀ m ∈ ms, ext.get_params m w = (.ok (deep m), w)) :
    FusionART.get_params ext dp w = (.ok (getParamsFlat p (fusionKids deep ms)), w) := by
  have h1 : Q3.selfParams w = (.ok p, w) := by simp [Q3.selfParams, hp]
  have h2 : Q3.selfVals BaseART.__getattr__ "modules" w = (.ok ms, w) := by simp [Q3.selfVals, Q3.pyGetattr, hm]
  simp only [FusionART.get_params, bind_apply, h1, h2, Q2.enumerate]
  rw [fusion_gp_loop ext deep w _ _ ms 0 p hext]
  · simp [pure3, getParamsFlat, fusionKids, Q2.enumerate]
  · intro i m out hg
    simp [bind_apply, pure3, hg, Q.items, dupdate_eq, dset_eq, prefixed, Q2.moduleName]

/-! ## DeepARTMAP, FALCON, TD_FALCON: the constructors -/

/-- **`DeepARTMAP.__init__`, generated = reference**: at least one module (else `AssertionError`, nothing stored),
then `modules`, `layers = []`, `is_supervised = None`; no member of a module is read or written -/
theorem DeepARTMAP_init_spec (modules : List Val) (c : List (Nat × Store)) (h : List (List (String × Q3.Slot))) :
    DeepARTMAP.__init__ modules ⟨[], c, h⟩
      = if modules = [] then (.error .assert, ⟨[], c, h⟩) else (.ok (), ⟨deepDict modules, c, h⟩) := by
  cases modules with
  | nil => rfl
  | cons m r =>
    simp only [DeepARTMAP.__init__, bind_apply, pure3, Q.Py.lift, Q.assert, Q3.objectSetattr, Q.dset, deepDict,
      List.length_cons, ge_iff_le, Nat.le_add_left, decide_true, String.reduceEq, ↓reduceIte, reduceCtorEq]

/-- `FALCON.__init__` on an instance that already has attributes (TD_FALCON stores two before it calls it) -/
theorem FALCON_init_on (num : Q3.Num) (s a r g d : Val) (self : List (String × Q3.Slot)) (c : List (Nat × Store))
    (h : List (List (String × Q3.Slot))) :
    FALCON.__init__ num s a r g d ⟨self, c, h⟩
      = match constructFusion num.sum [s, a, r] g d with
        | (.ok (), obj) => (.ok (), ⟨Q.dset self "fusion_art" (.ref h.length), c, h ++ [obj]⟩)
        | (.error e, _) => (.error e, ⟨self, c, h⟩) := by
  simp only [FALCON.__init__, bind_apply, pure3, Q3.newObject, FusionART_init_spec]
  rcases constructFusion num.sum [s, a, r] g d with ⟨x | ⟨⟨⟩⟩, obj⟩ <;> rfl

/-- **`FALCON.__init__`, generated = reference**: it constructs ONE new object — a FusionART over the modules
`[state_art, action_art, reward_art]` IN THIS ORDER with the given `gamma_values` and `channel_dims` — puts it on the
heap and stores the reference as `fusion_art`; when that constructor raises, the exception propagates and the FALCON has
no attribute.  For all arguments, call logs and heaps. -/
theorem FALCON_init_spec (num : Q3.Num) (s a r g d : Val) (c : List (Nat × Store))
    (h : List (List (String × Q3.Slot))) :
    FALCON.__init__ num s a r g d ⟨[], c, h⟩
      = match constructFusion num.sum [s, a, r] g d with
        | (.ok (), obj) => (.ok (), ⟨[("fusion_art", .ref h.length)], c, h ++ [obj]⟩)
        | (.error e, _) => (.error e, ⟨[], c, h⟩) :=
  FALCON_init_on num s a r g d [] c h

/-- **`TD_FALCON.__init__`, generated = reference**: `td_alpha` and `td_lambda` are stored under their own names
FIRST, then FALCON's constructor runs (same FusionART, same module order); when it raises, the two td parameters are
already stored. -/
theorem TD_FALCON_init_spec (num : Q3.Num) (s a r g d ta tl : Val) (c : List (Nat × Store))
    (h : List (List (String × Q3.Slot))) :
    TD_FALCON.__init__ num s a r g d ta tl ⟨[], c, h⟩
      = match constructFusion num.sum [s, a, r] g d with
        | (.ok (), obj) =>
          (.ok (), ⟨[("td_alpha", .val ta), ("td_lambda", .val tl), ("fusion_art", .ref h.length)], c, h ++ [obj]⟩)
        | (.error e, _) => (.error e, ⟨[("td_alpha", .val ta), ("td_lambda", .val tl)], c, h⟩) := by
  simp only [TD_FALCON.__init__, bind_apply, pure3, Q3.objectSetattr, FALCON_init_on, Q.dset, String.reduceEq, ↓reduceIte]
  rcases constructFusion num.sum [s, a, r] g d with ⟨x | ⟨⟨⟩⟩, obj⟩ <;> rfl

/-- FALCON over a valid configuration, spelled out: the heap object is the FusionART `__dict__` with
`modules = [state, action, reward]`, `n = 3`, the ranges of `channel_dims` and `dim_` -/
theorem FALCON_init_ok (num : Q3.Num) (s a r g : Val) (l : List Rat) (total : Rat) (c : List (Nat × Store))
    (h : List (List (String × Q3.Slot)))
    (hlg : Q3.lenVal g = .ok 3) (hll : l.length = 3)
    (hv : fusionValidate num.sum [("gamma_values", g)] = .ok ()) (hs : num.sum (.lst l) = .ok total) :
    FALCON.__init__ num s a r g (.lst l) ⟨[], c, h⟩
      = (.ok (), ⟨[("fusion_art", .ref h.length)], c, h ++ [fusionDict [s, a, r] g (.lst l) l total]⟩) := by
  rw [FALCON_init_spec]
  simp only [constructFusion, hlg]
  simp [Q3.lenVal, Q3.iterNums, hll, hv, hs]

/-! ### non-vacuity: the generated wide-world code run on data -/

/-- a `sum` that is exact (what Python's `sum` is on ints, and on floats whose partial sums are representable) -/
def exactNum : Q3.Num := ⟨fun v => match Q3.iterNums v with | .ok l => .ok l.sum | .error e => .error e⟩

/-- the exception raised (if any) and the final state -/
def outcome3 (r : Except Err Unit × Q3.World) : Option Err × Q3.World :=
  (match r.1 with
    | .ok _ => none
    | .error x => some x, r.2)

def quarter : Rat := mkRat 1 4

/-- `FusionART([m7, m9], [0.5, 0.5], [2, 3])`, and what the constructor rejects: a length mismatch, a gamma outside
`[0, 1]`, gammas that do not sum to 1, a `channel_dims` that is no list — nothing is stored in any of these cases -/
theorem FusionART_init_example :
    outcome3 (FusionART.__init__ exactNum [.mod 7, .mod 9] (.lst [half, half]) (.lst [2, 3]) ⟨[], [], []⟩)
      = (none, ⟨[("params", .dict [("gamma_values", .lst [half, half])]), ("sample_counter_", .val (.int 0)),
          ("weight_sample_counter_", .val (.lst [])), ("d_min_", .val .non), ("d_max_", .val .non),
          ("modules", .vals [.mod 7, .mod 9]), ("n", .num 2), ("channel_dims", .val (.lst [2, 3])),
          ("_channel_indices", .ranges [(0, 2), (2, 5)]), ("_weight_indices", .ranges [(0, 2), (2, 5)]),
          ("dim_", .num 5)], [], []⟩) ∧
    outcome3 (FusionART.__init__ exactNum [.mod 7] (.lst [half, half]) (.lst [2, 3]) ⟨[], [], []⟩)
      = (some .assert, ⟨[], [], []⟩) ∧
    outcome3 (FusionART.__init__ exactNum [.mod 7, .mod 9] (.lst [2, -1]) (.lst [2, 3]) ⟨[], [], []⟩)
      = (some .assert, ⟨[], [], []⟩) ∧
    outcome3 (FusionART.__init__ exactNum [.mod 7, .mod 9] (.lst [half, quarter]) (.lst [2, 3]) ⟨[], [], []⟩)
      = (some .assert, ⟨[], [], []⟩) ∧
    outcome3 (FusionART.__init__ exactNum [.mod 7, .mod 9] (.lst [half, half]) (.int 5) ⟨[], [], []⟩)
      = (some .type, ⟨[], [], []⟩) := by decide +kernel

/-- FALCON / TD_FALCON / DeepARTMAP on data: module order state, action, reward; td parameters under their names -/
theorem FALCON_init_example :
    outcome3 (TD_FALCON.__init__ exactNum (.mod 1) (.mod 2) (.mod 3) (.arr [quarter, quarter, half]) (.lst [4, 2, 1])
        (.flt 1) (.flt half) ⟨[], [], []⟩)
      = (none, ⟨[("td_alpha", .val (.flt 1)), ("td_lambda", .val (.flt half)), ("fusion_art", .ref 0)], [],
          [[("params", .dict [("gamma_values", .arr [quarter, quarter, half])]), ("sample_counter_", .val (.int 0)),
            ("weight_sample_counter_", .val (.lst [])), ("d_min_", .val .non), ("d_max_", .val .non),
            ("modules", .vals [.mod 1, .mod 2, .mod 3]), ("n", .num 3), ("channel_dims", .val (.lst [4, 2, 1])),
            ("_channel_indices", .ranges [(0, 4), (4, 6), (6, 7)]), ("_weight_indices", .ranges [(0, 4), (4, 6), (6, 7)]),
            ("dim_", .num 7)]]⟩) ∧
    outcome3 (FALCON.__init__ exactNum (.mod 1) (.mod 2) (.mod 3) (.arr [quarter, quarter, half]) (.lst [4, 2])
        ⟨[], [], []⟩) = (some .assert, ⟨[], [], []⟩) ∧
    outcome3 (DeepARTMAP.__init__ [] ⟨[], [], []⟩) = (some .assert, ⟨[], [], []⟩) ∧
    outcome3 (DeepARTMAP.__init__ [.mod 4, .mod 5] ⟨[], [], []⟩)
      = (none, ⟨[("modules", .vals [.mod 4, .mod 5]), ("layers", .val (.lst [])), ("is_supervised", .val .non)], [], []⟩)
    := by decide +kernel

/-- the default `gamma_values` of FALCON, `np.array([0.33, 0.33, 0.34])`: the EXACT sum of the three doubles is
`1 + 2^-54`, not 1 — Python's float `sum` rounds it to `1.0` and the assert passes.  This is why `sum` is a parameter of
the generated definitions and not the exact rational sum. -/
theorem FALCON_default_gamma_sum :
    (match FALCON.defaults with
      | [(_, .arr l)] => l.sum
      | _ => 0) = 1 + mkRat 1 18014398509481984 := by decide +kernel

end Art.GenSpec.Params3
