/-
ArtGenProofs.Kernels2Spec — the definitions *generated from the Python source on every run*
(`ArtGen/Kernels2.lean`, written by `harness/artv/k2trans.py`) are equal, for ALL arguments, to

* the published rules of Bayesian ART and Quadratic Neuron ART in `ArtModel/Kernels2.lean`
  (the non-algebraic primitives `sqrt`, `exp`, `det`, `inv`, `π` are the same parameters on both sides), and
* the geometry accessors `fuzzyBBox`, `fuzzyShrink`, `fuzzyCentre`, `sphCentre`, `ellCentre`, `gaussMean` of
  `ArtModel/Kernels.lean` that the C03 accessor theorems are about.

Hyper-parameters (`p_<key>`) and cache entries (`c_<key>`) are passed to the generated definitions **by name**: which
key of `params` / `cache` a function reads is part of what is proved (reading `cache["s"]` where the code read
`cache["activation"]` renames the binder and the statement no longer elaborates).

The second half proves that `ArtModel/Kernels2.lean` *is* the published rule (running mean, count, covariance
entry formula and symmetry, prior sums to one; quadratic-neuron gradient step) and transports the C03 accessor
theorems to the generated code.
-/
import Mathlib.Algebra.Order.Field.Basic
import Mathlib.Tactic.Ring
import Mathlib.Tactic.NormNum
import Mathlib.Tactic.FieldSimp
import Mathlib.Tactic.Linarith
import ArtGen.Kernels2
import ArtModel.Kernels2
import ArtModel.Prep
import ArtProps.C03
import ArtGenProofs.PrepSpec

namespace Art.GenSpec.K2

set_option linter.unusedSectionVars false

variable {α : Type} [Field α] [LinearOrder α] [IsStrictOrderedRing α]

/-! ### shape lemmas -/

/-- a loop that only appends is a `map` -/
theorem foldl_append_map {β γ : Type} (f : β → γ) (l : List β) (a : List γ) :
    List.foldl (fun acc x => acc ++ [f x]) a l = a ++ l.map f := by
  induction l generalizing a with
  | nil => simp
  | cons x l ih => simp [ih]

/-- a loop that appends to two lists is two `map`s -/
theorem foldl_append_map2 {β γ δ : Type} (f : β → γ) (g : β → δ) (l : List β) (a : List γ) (b : List δ) :
    List.foldl (fun (acc : List γ × List δ) x => (acc.1 ++ [f x], acc.2 ++ [g x])) (a, b) l =
      (a ++ l.map f, b ++ l.map g) := by
  induction l generalizing a b with
  | nil => simp
  | cons x l ih => simp [ih]

theorem map_getD_range (w : List α) (n : Nat) (hn : n ≤ w.length) :
    (List.range n).map (fun i => w.getD i 0) = w.take n := by
  apply List.ext_getElem
  · simp [hn]
  · intro i h1 h2
    simp at h1
    simp [List.getD_eq_getElem?_getD, List.getElem?_eq_getElem (show i < w.length by omega)]

theorem map_getD_range_add (w : List α) (n k : Nat) (hn : k + n ≤ w.length) :
    (List.range n).map (fun i => w.getD (i + k) 0) = (w.drop k).take n := by
  rw [← map_getD_range (w.drop k) n (by rw [List.length_drop]; omega)]
  exact List.map_congr_left fun i _ => by
    rw [List.getD_eq_getElem?_getD, List.getD_eq_getElem?_getD, List.getElem?_drop, Nat.add_comm]

section Transcendental
variable [Transc α] [LinAlg α]

theorem powNat_eq (a : α) (n : Nat) : powNat a n = a ^ n := by
  induction n with
  | zero => simp [powNat]
  | succ n ih => simp [powNat, ih, pow_succ]

/-! ### Bayesian ART: generated = published rule -/

/-- activation = Gaussian density × prior -/
theorem bayes_choice (dim : Nat) (allW : List (List α)) (x w : List α) :
    Gen2.BayesianART.category_choice Transc.sqrt Transc.exp LinAlg.det LinAlg.inv LinAlg.pi allW dim x w =
      bayesChoice dim allW x w := by
  unfold Gen2.BayesianART.category_choice Gen2.BayesianART.pi2 bayesChoice bayesLik bayesPrior bayesMean bayesCov
    bayesCount
  -- the code writes `pi * 2` and `**`, the model `(1 + 1) * pi` and `powNat`
  simp only [← one_add_one_eq_two, powNat_eq, mul_comm (LinAlg.pi : α) (1 + 1)]
  rfl

/-- the cache entries `cov`, `det_cov` are the stored covariance and its determinant -/
theorem bayes_choice_cache (dim : Nat) (allW : List (List α)) (x w : List α) :
    Gen2.BayesianART.category_choice_cache_cov Transc.sqrt Transc.exp LinAlg.det LinAlg.inv LinAlg.pi allW dim x w =
        bayesCov dim w ∧
    Gen2.BayesianART.category_choice_cache_det_cov Transc.sqrt Transc.exp LinAlg.det LinAlg.inv LinAlg.pi allW dim x w =
        LinAlg.det (bayesCov dim w) := ⟨rfl, rfl⟩

/-- the learning rule (no cached `new_w`) -/
theorem bayes_update (dim : Nat) (x w : List α) :
    Gen2.BayesianART.update dim (c_new_w := none) x w = bayesUpdate dim x w := by
  unfold Gen2.BayesianART.update bayesUpdate bayesCovStep runningMean bayesMean bayesCov bayesCount vsub
  simp only [List.zipWith_map]

theorem bayes_update_some (dim : Nat) (v x w : List α) :
    Gen2.BayesianART.update dim (c_new_w := some v) x w = v := rfl

/-- the match value: `det` of the covariance the category would have after learning the sample -/
theorem bayes_match (dim : Nat) (x w : List α) :
    Gen2.BayesianART.match_criterion LinAlg.det dim (c_new_w := none) x w = bayesMatch dim x w := by
  unfold Gen2.BayesianART.match_criterion bayesMatch bayesCov
  simp only [bayes_update]

/-- what `match_criterion` caches is the updated weight: `update` after `match_criterion` is the rule -/
theorem bayes_update_cached (dim : Nat) (x w : List α) :
    Gen2.BayesianART.update dim
        (c_new_w := some (Gen2.BayesianART.match_criterion_cache_new_w LinAlg.det dim (c_new_w := none) x w)) x w =
      bayesUpdate dim x w := by
  rw [bayes_update_some]
  unfold Gen2.BayesianART.match_criterion_cache_new_w
  simp only [bayes_update]

theorem bayes_new (covInit : List (List α)) (x : List α) :
    Gen2.BayesianART.new_weight (p_cov_init := covInit) x = bayesNew covInit x := rfl

/-! ### Quadratic Neuron ART: generated = published rule -/

theorem qn_choice (dim : Nat) (x w : List α) :
    Gen2.QuadraticNeuronART.category_choice Transc.exp dim x w = qnAct dim x w := by
  unfold Gen2.QuadraticNeuronART.category_choice qnAct qnZ qnW qnB qnS l2sq vsub
  simp only [neg_mul]

/-- the match value is the cached activation -/
theorem qn_match (dim : Nat) (x w : List α) :
    Gen2.QuadraticNeuronART.match_criterion
        (c_activation := Gen2.QuadraticNeuronART.category_choice_cache_activation Transc.exp dim x w) x w = qnAct dim x w := by
  unfold Gen2.QuadraticNeuronART.match_criterion
  exact qn_choice dim x w

/-- the gradient step, fed with the six cache entries that `category_choice` writes -/
theorem qn_update (lrB lrW lrS : α) (dim : Nat) (x w : List α) :
    Gen2.QuadraticNeuronART.update (p_lr_b := lrB) (p_lr_w := lrW) (p_lr_s := lrS)
        (c_s := Gen2.QuadraticNeuronART.category_choice_cache_s Transc.exp dim x w)
        (c_w := Gen2.QuadraticNeuronART.category_choice_cache_w Transc.exp dim x w)
        (c_b := Gen2.QuadraticNeuronART.category_choice_cache_b Transc.exp dim x w)
        (c_z := Gen2.QuadraticNeuronART.category_choice_cache_z Transc.exp dim x w)
        (c_activation := Gen2.QuadraticNeuronART.category_choice_cache_activation Transc.exp dim x w)
        (c_l2norm2_z_b := Gen2.QuadraticNeuronART.category_choice_cache_l2norm2_z_b Transc.exp dim x w) x w =
      qnUpdate lrB lrW lrS dim x w := by
  have hT : Gen2.QuadraticNeuronART.category_choice_cache_activation Transc.exp dim x w = qnAct dim x w :=
    qn_choice dim x w
  rw [hT]
  unfold Gen2.QuadraticNeuronART.update Gen2.QuadraticNeuronART.category_choice_cache_s
    Gen2.QuadraticNeuronART.category_choice_cache_w Gen2.QuadraticNeuronART.category_choice_cache_b
    Gen2.QuadraticNeuronART.category_choice_cache_z Gen2.QuadraticNeuronART.category_choice_cache_l2norm2_z_b
    qnUpdate qnStepW qnStepB qnStepS qnZ qnW qnB qnS l2sq vsub vadd Art.smul
  simp only [← one_add_one_eq_two]
  -- `W` and `b` agree literally; in the `s` step the code has `(-2) * s * T * n`, the model `-(2 * s * T * n)`
  congr 2
  ring

theorem qn_new (sInit : α) (dim : Nat) (x : List α) :
    Gen2.QuadraticNeuronART.new_weight dim (p_s_init := sInit) x = qnNew sInit dim x := rfl

end Transcendental

/-! ### Geometry accessors: generated = the accessor definitions of `ArtModel/Kernels.lean` -/

section Accessors

/-! `get_cluster_centers`: the centre is a slice of the stored weight (ART2A: the weight itself) -/

theorem art1_centres (dim : Nat) (allW : List (List α)) :
    Gen2.ART1.get_cluster_centers allW dim = allW.map (fun w => w.drop dim) := rfl

theorem art2_centres (allW : List (List α)) : Gen2.ART2A.get_cluster_centers allW = allW := rfl

theorem ell_centres (dim : Nat) (allW : List (List α)) :
    Gen2.EllipsoidART.get_cluster_centers allW dim = allW.map (ellCentre dim) := rfl

section
variable [Transc α]

theorem sph_centres (allW : List (List α)) :
    Gen2.HypersphereART.get_cluster_centers allW = allW.map sphCentre := rfl

theorem gauss_centres (dim : Nat) (allW : List (List α)) :
    Gen2.GaussianART.get_cluster_centers allW dim = allW.map (gaussMean dim) := rfl

variable [LinAlg α]

theorem bayes_centres (dim : Nat) (allW : List (List α)) :
    Gen2.BayesianART.get_cluster_centers allW dim = allW.map (bayesMean dim) := rfl

theorem qn_centres (dim : Nat) (allW : List (List α)) :
    Gen2.QuadraticNeuronART.get_cluster_centers allW dim = allW.map (qnB dim) := rfl

end

/-- the module function `get_bounding_box(w, n)`, under its own assertion `n <= len(w)/2` -/
theorem fuzzy_bbox (w : List α) (n : Nat) (hn : n ≤ w.length / 2) :
    Gen2.FuzzyART.get_bounding_box w (some n) = fuzzyBBox w n := by
  unfold Gen2.FuzzyART.get_bounding_box fuzzyBBox
  simp only []
  rw [foldl_append_map2 (fun i => w.getD i 0) (fun i => (1 : α) - w.getD (i + w.length / 2) 0 - w.getD i 0),
    ← map_getD_range w n (by omega), ← map_getD_range_add w n (w.length / 2) (by omega), List.zipWith_map,
    List.zipWith_self]
  rfl

/-- `n = None`: all `len(w)/2` dimensions -/
theorem fuzzy_bbox_none (w : List α) :
    Gen2.FuzzyART.get_bounding_box w none = fuzzyBBox w (w.length / 2) := by
  rw [← fuzzy_bbox w (w.length / 2) (le_refl _)]
  rfl

/-- `get_bounding_boxes(n)`: one box per category -/
theorem fuzzy_bboxes (allW : List (List α)) (n : Nat) (hn : ∀ w ∈ allW, n ≤ w.length / 2) :
    Gen2.FuzzyART.get_bounding_boxes allW (some n) = allW.map (fun w => fuzzyBBox w n) := by
  unfold Gen2.FuzzyART.get_bounding_boxes
  exact List.map_congr_left (fun w hw => fuzzy_bbox w n (hn w hw))

/-- `v[:h] += e` -/
theorem sliceAdd_prefix (v e : List α) (h : Nat) :
    Mat.sliceAdd v 0 (some h) e = List.zipWith (fun s t => s + t) (v.take h) e ++ v.drop h := rfl

/-- `v[lo:] += e` when `lo` is the length of the first part of `v` -/
theorem sliceAdd_suffix (a b e : List α) (lo : Nat) (h : a.length = lo) :
    Mat.sliceAdd (a ++ b) lo none e = a ++ List.zipWith (fun s t => s + t) b e := by
  rw [Mat.sliceAdd, Option.getD_none, List.take_length, List.drop_length, List.append_nil, List.take_left' h,
    List.drop_left' h]

/-- numpy's `widths * ratio`, with `widths = (1 - vc) - u`, is the model's `ratio · widths` -/
theorem scaled_widths (r : α) (u vc : List α) :
    List.map (fun t => t * r) (List.zipWith (fun s t => s - t) (List.map (fun t => (1 : α) - t) vc) u) =
      smul r (List.zipWith (fun a b => (1 - b) - a) u vc) := by
  rw [smul, List.zipWith_map_left, List.zipWith_comm]
  exact List.map_congr_left fun t _ => mul_comm t r

/-- one weight of `shrink_clusters`: the two in-place slice additions on the fresh copy are the model's
`fuzzyShrink` (both halves move by `width · ratio`) -/
theorem shrink_one (r : α) (w : List α) :
    Art.Mat.sliceAdd
        (Art.Mat.sliceAdd w 0 (some (w.length / 2))
          (List.map (fun t => t * r) (List.zipWith (fun s t => s - t)
            (List.map (fun t => (1 : α) - t) (List.drop (w.length / 2) w)) (List.take (w.length / 2) w))))
        (w.length / 2) none
        (List.map (fun t => t * r) (List.zipWith (fun s t => s - t)
          (List.map (fun t => (1 : α) - t) (List.drop (w.length / 2) w)) (List.take (w.length / 2) w))) =
      fuzzyShrink r w := by
  rw [scaled_widths, sliceAdd_prefix, sliceAdd_suffix]
  · rfl
  · rw [List.length_zipWith, smul, List.length_map, List.length_zipWith, List.length_take, List.length_drop]
    omega

/-- `shrink_clusters(ratio)`: the value stored to `self.W`, when all weights have the length of the first one
(the code takes `dim` from `self.W[0]`) -/
theorem fuzzy_shrink (r : α) (allW : List (List α)) (hlen : ∀ w ∈ allW, w.length = (allW.headD []).length) :
    Gen2.FuzzyART.shrink_clusters allW r = allW.map (fuzzyShrink r) := by
  unfold Gen2.FuzzyART.shrink_clusters
  simp only
  rw [foldl_append_map, List.nil_append]
  apply List.map_congr_left
  intro w hw
  rw [← hlen w hw]
  exact shrink_one r w

/-- `FuzzyART.get_cluster_centers`: every weight is passed to `restore_data` as a one-row matrix.  With the
model's `restoreFuzzy` (= de-complement-code, then de-normalise with the remembered bounds; proved equal to the
generated `FuzzyART.restore_data` in `PrepSpec.restore_fuzzy_value`) the centre of an even-length weight is the
de-normalised `fuzzyCentre`. -/
theorem fuzzy_centres (mx mn : List α) (allW : List (List α)) (hev : ∀ w ∈ allW, w.length % 2 = 0) :
    Gen2.FuzzyART.get_cluster_centers
        (fun X => (restoreFuzzy { dmax := some mx, dmin := some mn } X).getD []) allW =
      allW.map (fun w => denormRow (fuzzyCentre w) mx mn) := by
  unfold Gen2.FuzzyART.get_cluster_centers
  apply List.map_congr_left
  intro w hw
  have : deComplementCode [w] = some [deccRow w] := by
    simp [deComplementCode, hev w hw]
  simp only [restoreFuzzy, this, restoreBase, deNormalize, List.map_cons, List.map_nil, Option.getD_some,
    List.flatten_cons, List.flatten_nil, List.append_nil]
  rfl

open Art.GenSpec.Prep in
/-- the same with the binder `restore_data` instantiated by the *generated* `FuzzyART.restore_data` of
`ArtGen/Prep.lean` (written by ptrans), run on an estimator whose remembered bounds `mx`, `mn` have the data
width `d`: the translated accessor composed with the translated `restore_data` is the de-normalised `fuzzyCentre` -/
theorem fuzzy_centres_gen (s : Gen.Prep.Self α) (mx mn : List α) (d : Nat) (hmx : s.d_max_ = some mx)
    (hmn : s.d_min_ = some mn) (h1 : mx.length = d) (h2 : mn.length = d) (allW : List (List α))
    (hlen : ∀ w ∈ allW, w.length = 2 * d) :
    Gen2.FuzzyART.get_cluster_centers
        (fun X => ((Gen.Prep.FuzzyART.restore_data X s).1.toOption).getD []) allW =
      allW.map (fun w => denormRow (fuzzyCentre w) mx mn) := by
  have hb : BoundsFit s (2 * d / 2) := by
    rw [Nat.mul_div_cancel_left d Nat.two_pos]
    exact ⟨fun m hm => by rw [hmx] at hm; cases hm; exact h1, fun m hm => by rw [hmn] at hm; cases hm; exact h2⟩
  have hs : toPrep s = { dmax := some mx, dmin := some mn } := by rw [toPrep, hmx, hmn]
  rw [← fuzzy_centres mx mn allW (fun w hw => by rw [hlen w hw, Nat.mul_mod_right])]
  refine List.map_congr_left fun w hw => ?_
  have hY : Rect [w] (2 * d) := fun r hr => by rw [List.mem_singleton.1 hr]; exact hlen w hw
  simp only []
  rw [restore_fuzzy_value s [w] (2 * d) hY hb, hs]

end Accessors

/-! ### `ArtModel/Kernels2.lean` is the published rule (not a copy of the code) -/

section Published
variable [Transc α] [LinAlg α]

theorem bayes_update_count (dim : Nat) (x w : List α) :
    bayesCount (bayesUpdate dim x w) = bayesCount w + 1 :=
  List.getLastD_concat

/-- the mean block of the updated weight is the running mean of the old mean and the sample -/
theorem bayes_update_mean (dim : Nat) (x w : List α) (hw : dim ≤ w.length) (hx : dim ≤ x.length) :
    bayesMean dim (bayesUpdate dim x w) = runningMean (bayesCount w) (bayesMean dim w) x := by
  unfold bayesUpdate bayesMean
  rw [List.append_assoc]
  apply List.take_left'
  rw [runningMean, List.length_zipWith, List.length_take]
  omega

/-- … which is the *exact* mean of `n + 1` values: if the old mean is `S / n` (sum of the `n` samples absorbed
so far over their number), the new mean is `(S + x) / (n + 1)`, coordinate by coordinate -/
theorem runningMean_exact (n : α) (hn : 0 < n) (S x : List α) :
    runningMean n (S.map (fun s => s / n)) x = List.zipWith (fun s xi => (s + xi) / (n + 1)) S x := by
  unfold runningMean
  rw [List.zipWith_map_left]
  congr 1
  funext s xi
  exact C03.gaussian_update_is_running_mean n s xi hn

/-- the covariance step, entry by entry: `Σ'ᵢⱼ = n/(n+1) Σᵢⱼ + dᵢ dⱼ / (n+1)` with `d = x − μ'` -/
theorem bayesCovStep_zip (n : α) (cov : List (List α)) (d : List α) :
    bayesCovStep n cov d =
      List.zipWith (fun row a => List.zipWith (fun s b => n / (n + 1) * s + 1 / (n + 1) * (a * b)) row d) cov d := by
  unfold bayesCovStep Mat.add Mat.smul Mat.outer
  rw [List.map_map, List.zipWith_map]
  congr 1
  funext row a
  simp only [Function.comp, List.map_map, List.zipWith_map]

theorem getElem?_zipWith_bind {β γ δ : Type} (f : β → γ → δ) (as : List β) (bs : List γ) (i : Nat) :
    (List.zipWith f as bs)[i]? = as[i]?.bind fun a => bs[i]?.bind fun b => some (f a b) := by
  rw [List.getElem?_zipWith]
  cases as[i]? <;> cases bs[i]? <;> rfl

theorem bayesCovStep_entry (n : α) (cov : List (List α)) (d : List α) (i j : Nat) :
    Mat.entry (bayesCovStep n cov d) i j =
      (Mat.entry cov i j).bind (fun s => d[i]?.bind (fun a => d[j]?.bind (fun b =>
        some (n / (n + 1) * s + 1 / (n + 1) * (a * b))))) := by
  rw [bayesCovStep_zip]
  unfold Mat.entry
  simp only [getElem?_zipWith_bind, Option.bind_assoc, Option.bind_some]
  congr 1
  funext row
  exact Option.bind_comm _ _

/-- a symmetric covariance stays symmetric -/
theorem bayesCovStep_symm (n : α) (cov : List (List α)) (d : List α)
    (hs : ∀ i j, Mat.entry cov i j = Mat.entry cov j i) (i j : Nat) :
    Mat.entry (bayesCovStep n cov d) i j = Mat.entry (bayesCovStep n cov d) j i := by
  rw [bayesCovStep_entry, bayesCovStep_entry, hs j i]
  congr 1
  funext s
  rw [Option.bind_comm]
  simp only [mul_comm]

theorem vsum_map_div {β : Type} (f : β → α) (T : α) (l : List β) :
    vsum (l.map (fun w => f w / T)) = vsum (l.map f) / T := by
  induction l with
  | nil => simp [vsum]
  | cons a l ih => simp [vsum, ih, add_div]

/-- the priors of all categories sum to one -/
theorem bayes_prior_sum (allW : List (List α)) (h : vsum (allW.map bayesCount) ≠ 0) :
    vsum (allW.map (bayesPrior allW)) = 1 := by
  unfold bayesPrior
  rw [vsum_map_div, div_self h]

theorem zipWith_eq_left {β γ : Type} {f : β → γ → β} :
    ∀ (as : List β) (bs : List γ), as.length ≤ bs.length → (∀ a ∈ as, ∀ b ∈ bs, f a b = a) →
      List.zipWith f as bs = as
  | [], _, _, _ => rfl
  | a :: as, b :: bs, h, hf => by
    rw [List.zipWith_cons_cons, hf a List.mem_cons_self b List.mem_cons_self,
      zipWith_eq_left as bs (Nat.le_of_succ_le_succ h) fun a' ha b' hb =>
        hf a' (List.mem_cons_of_mem a ha) b' (List.mem_cons_of_mem b hb)]

/-- vector step with rate zero -/
theorem vadd_smul_zero (b v : List α) (h : b.length ≤ v.length) : vadd b (smul 0 v) = b := by
  rw [vadd, smul, List.zipWith_map_right]
  exact zipWith_eq_left b v h fun a _ c _ => by rw [zero_mul, add_zero]

/-- with learning rate 0 the bias does not move -/
theorem qnStepB_zero (s T : α) (b e : List α) (h : b.length ≤ e.length) : qnStepB 0 s T b e = b := by
  unfold qnStepB
  exact vadd_smul_zero b _ (by simpa [smul] using h)

theorem qnStepS_zero (s T nrm : α) : qnStepS 0 s T nrm = s := by rw [qnStepS, zero_mul, add_zero]

theorem qnStepW_zero (s T : α) (W : List (List α)) (e x : List α) (h : W.length ≤ e.length)
    (hr : ∀ row ∈ W, row.length ≤ x.length) : qnStepW 0 s T W e x = W := by
  rw [qnStepW, Mat.add, Mat.smul, Mat.smul, Mat.outer, List.map_map, List.map_map, List.zipWith_map_right]
  exact zipWith_eq_left W e h fun row hrow a _ =>
    vadd_smul_zero row _ (by rw [List.length_map, List.length_map]; exact hr row hrow)

/-- the step on `b` is along `z − b`: `b' = b + c · (z − b)` with the single factor `c = lr_b · 2 s² T` … -/
theorem qnStepB_along (lrB s T : α) (b e : List α) :
    qnStepB lrB s T b e = List.zipWith (fun bi ei => bi + lrB * ((1 + 1) * s * s * T) * ei) b e := by
  unfold qnStepB vadd smul
  rw [List.map_map, List.zipWith_map_right]
  congr 1
  funext bi ei
  simp [Function.comp, mul_assoc]

/-- … which is non-negative: the bias moves *towards* `z = W x` (gradient ascent on `T`) -/
theorem qnStepB_factor_nonneg (lrB s T : α) (hl : 0 ≤ lrB) (hT : 0 ≤ T) : 0 ≤ lrB * ((1 + 1) * s * s * T) := by
  have : 0 ≤ s * s := mul_self_nonneg s
  have h2 : (0 : α) ≤ 1 + 1 := by norm_num
  have : 0 ≤ (1 + 1) * s * s := by rw [mul_assoc]; exact mul_nonneg h2 this
  exact mul_nonneg hl (mul_nonneg this hT)

/-- `s' − s = −lr_s · 2 s T ‖z − b‖²`: for `s, T ≥ 0` the sharpness never increases -/
theorem qnStepS_le (lrS s T nrm : α) (hl : 0 ≤ lrS) (hs : 0 ≤ s) (hT : 0 ≤ T) (hn : 0 ≤ nrm) :
    qnStepS lrS s T nrm ≤ s := by
  unfold qnStepS
  have h2 : (0 : α) ≤ 1 + 1 := by norm_num
  have : 0 ≤ lrS * ((1 + 1) * s * T * nrm) := mul_nonneg hl (mul_nonneg (mul_nonneg (mul_nonneg h2 hs) hT) hn)
  linarith

end Published

/-! ### C03 accessor theorems, transported to the generated code -/

section Transport

/-- C03 `bounding_box_agrees` holds of the generated `get_bounding_box` -/
theorem gen_bounding_box_agrees (w : List α) (d n i : Nat) (hw : w.length = 2 * d) (hn : n ≤ d) (hi : i < n) :
    (Gen2.FuzzyART.get_bounding_box w (some n)).1[i]? = w[i]? ∧
    (Gen2.FuzzyART.get_bounding_box w (some n)).2[i]? = some ((1 - w[d + i]'(by omega)) - w[i]'(by omega)) := by
  rw [fuzzy_bbox w n (by omega)]
  exact C03.bounding_box_agrees w d n i hw hn hi

theorem fuzzyShrink_eq (r : α) (w : List α) :
    fuzzyShrink r w =
      List.zipWith (fun a b => a + r * ((1 - b) - a)) (w.take (w.length / 2)) (w.drop (w.length / 2)) ++
      List.zipWith (fun b a => b + r * ((1 - b) - a)) (w.drop (w.length / 2)) (w.take (w.length / 2)) := by
  unfold fuzzyShrink vadd smul
  simp only []
  rw [List.zipWith_map_right, List.zipWith_map_right, List.zipWith_zipWith_right, List.zipWith_zipWith_right,
    List.zipWith3_same_left, List.zipWith3_same_mid]

/-- coordinates `i` and `d + i` of a shrunk weight -/
theorem fuzzyShrink_coord (r : α) (w : List α) (d i : Nat) (hw : w.length = 2 * d) (hi : i < d) :
    (fuzzyShrink r w)[i]? = some (w[i]'(by omega) + r * ((1 - w[d + i]'(by omega)) - w[i]'(by omega))) ∧
    (fuzzyShrink r w)[d + i]? = some (w[d + i]'(by omega) + r * ((1 - w[d + i]'(by omega)) - w[i]'(by omega))) := by
  have h1 : i < w.length := by omega
  have h2 : d + i < w.length := by omega
  have hd : w.length / 2 = d := by omega
  have e1 : (w.take d)[i]? = some w[i] := by
    rw [List.getElem?_take_of_lt hi, List.getElem?_eq_getElem]
  have e2 : (w.drop d)[i]? = some w[d + i] := by
    rw [List.getElem?_drop, List.getElem?_eq_getElem]
  have hlen : (List.zipWith (fun a b => a + r * ((1 - b) - a)) (w.take d) (w.drop d)).length = d := by
    rw [List.length_zipWith, List.length_take, List.length_drop]; omega
  rw [fuzzyShrink_eq, hd]
  constructor
  · rw [List.getElem?_append_left (hlen.symm ▸ hi), List.getElem?_zipWith, e1, e2]
  · rw [List.getElem?_append_right (hlen.trans_le (Nat.le_add_right d i)), hlen, Nat.add_sub_cancel_left,
      List.getElem?_zipWith, e1, e2]

/-- C03 `shrink_coordinate` holds of the generated `shrink_clusters`: in every category `k` and coordinate `i`
the shrunk box has the same centre, lies inside the old box and is still a box. -/
theorem gen_shrink_same_centre_contained (r : α) (hr0 : 0 ≤ r) (hr : r ≤ 1 / (1 + 1)) (allW : List (List α))
    (d k i : Nat) (hlen : ∀ w ∈ allW, w.length = 2 * d) (hk : k < allW.length) (hi : i < d)
    (hbox : (allW[k])[i]'(by rw [hlen _ (List.getElem_mem hk)]; omega) ≤
      1 - (allW[k])[d + i]'(by rw [hlen _ (List.getElem_mem hk)]; omega)) :
    ∃ u' vc', Mat.entry (Gen2.FuzzyART.shrink_clusters allW r) k i = some u' ∧
      Mat.entry (Gen2.FuzzyART.shrink_clusters allW r) k (d + i) = some vc' ∧
      (u' + (1 - vc')) / (1 + 1) =
        ((allW[k])[i]'(by rw [hlen _ (List.getElem_mem hk)]; omega) +
          (1 - (allW[k])[d + i]'(by rw [hlen _ (List.getElem_mem hk)]; omega))) / (1 + 1) ∧
      (allW[k])[i]'(by rw [hlen _ (List.getElem_mem hk)]; omega) ≤ u' ∧
      1 - vc' ≤ 1 - (allW[k])[d + i]'(by rw [hlen _ (List.getElem_mem hk)]; omega) ∧
      u' ≤ 1 - vc' := by
  have hhead : ∀ w ∈ allW, w.length = (allW.headD []).length := by
    intro w hw
    cases allW with
    | nil => simp at hk
    | cons w0 rest => simp [hlen w hw, hlen w0 (by simp)]
  rw [fuzzy_shrink r allW hhead]
  have hwk := hlen _ (List.getElem_mem hk)
  obtain ⟨c1, c2⟩ := fuzzyShrink_coord r allW[k] d i hwk hi
  obtain ⟨s1, s2, s3, s4⟩ := C03.shrink_coordinate ((allW[k])[i]'(by omega)) ((allW[k])[d + i]'(by omega)) r hr0 hr hbox
  have hrow : ∀ j, Mat.entry (allW.map (fuzzyShrink r)) k j = (fuzzyShrink r allW[k])[j]? := fun j => by
    rw [Mat.entry, List.getElem?_map, List.getElem?_eq_getElem hk]; rfl
  refine ⟨_, _, ?_, ?_, s1, s2, s3, s4⟩
  exacts [(hrow i).trans c1, (hrow (d + i)).trans c2]

section
variable [Transc α] [LinAlg α]

/-- the accessor agrees with the stored weight: the centre of a fresh hypersphere / Bayesian category is the
sample -/
theorem gen_centre_of_new (x : List α) (covInit : List (List α)) :
    Gen2.HypersphereART.get_cluster_centers [sphNew x] = [x] ∧
    Gen2.BayesianART.get_cluster_centers [bayesNew covInit x] x.length = [x] := by
  constructor
  · simp [Gen2.HypersphereART.get_cluster_centers, sphNew]
  · simp [Gen2.BayesianART.get_cluster_centers, bayesNew]

/-- C03 `gaussian_update_is_running_mean` holds of the generated Bayesian `update` as read by the generated
`get_cluster_centers`: if the stored mean is `S / n`, the centre after learning `x` is `(S + x) / (n + 1)` -/
theorem gen_bayes_centre_running_mean (dim : Nat) (x w S : List α) (hw : dim ≤ w.length) (hx : dim ≤ x.length)
    (hn : 0 < bayesCount w) (hS : bayesMean dim w = S.map (fun s => s / bayesCount w)) :
    Gen2.BayesianART.get_cluster_centers [Gen2.BayesianART.update dim (c_new_w := none) x w] dim =
      [List.zipWith (fun s xi => (s + xi) / (bayesCount w + 1)) S x] := by
  rw [bayes_update, bayes_centres]
  simp only [List.map_cons, List.map_nil]
  rw [bayes_update_mean dim x w hw hx, hS, runningMean_exact _ hn]

end

end Transport

/-! ### the reshape helper, and the quadratic-neuron step with all learning rates zero -/

section Reshape

theorem reshape_length (r c : Nat) (v : List α) : (Mat.reshape r c v).length = r := by
  induction r generalizing v with
  | zero => simp [Mat.reshape]
  | succ r ih => simp [Mat.reshape, ih]

/-- flattening a reshaped vector gives the vector back (its first `r·c` entries) -/
theorem flatten_reshape (r c : Nat) (v : List α) : (Mat.reshape r c v).flatten = v.take (r * c) := by
  induction r generalizing v with
  | zero => simp [Mat.reshape]
  | succ r ih =>
    simp only [Mat.reshape, List.flatten_cons, ih]
    rw [show (r + 1) * c = c + r * c by ring, List.take_add]

theorem reshape_rows (r c : Nat) (v : List α) (h : r * c ≤ v.length) :
    ∀ row ∈ Mat.reshape r c v, row.length = c := by
  induction r generalizing v with
  | zero => simp [Mat.reshape]
  | succ r ih =>
    have h' : c + r * c ≤ v.length := by rw [show (r + 1) * c = c + r * c by ring] at h; exact h
    intro row hrow
    simp only [Mat.reshape, List.mem_cons] at hrow
    rcases hrow with rfl | hrow
    · simp; omega
    · exact ih (v.drop c) (by simp; omega) row hrow

variable [Transc α] [LinAlg α]

/-- **with all learning rates 0 the weight is unchanged** (for a weight of the stored shape `dim² + dim + 1`
and a sample of length `dim`) -/
theorem qn_update_zero_rates (dim : Nat) (x w : List α) (hw : w.length = dim * dim + dim + 1)
    (hx : x.length = dim) : qnUpdate 0 0 0 dim x w = w := by
  have hWl : (qnW dim w).length = dim := reshape_length _ _ _
  have hWr : ∀ row ∈ qnW dim w, row.length = dim :=
    reshape_rows dim dim _ (by rw [List.length_take]; omega)
  have hb : (qnB dim w).length = dim := by rw [qnB, List.length_dropLast, List.length_drop]; omega
  have he : (vsub (qnZ dim x w) (qnB dim w)).length = dim := by
    rw [vsub, List.length_zipWith, qnZ, Mat.mulVec, List.length_map, hWl, hb, Nat.min_self]
  have hne : List.drop (dim * dim) w ≠ [] := fun h0 => by
    have := congrArg List.length h0
    rw [List.length_drop, List.length_nil] at this; omega
  have hlast : w.getLastD 0 = (List.drop (dim * dim) w).getLast hne := by
    rw [List.getLast_drop, List.getLastD_eq_getLast?, List.getLast?_eq_some_getLast, Option.getD_some]
  unfold qnUpdate
  simp only
  rw [qnStepW_zero _ _ _ _ _ (hWl.trans_le he.ge) (fun row hrow => (hWr row hrow).trans_le hx.ge),
    qnStepB_zero _ _ _ _ (hb.trans_le he.ge), qnStepS_zero]
  unfold qnW qnB qnS
  rw [flatten_reshape, List.take_take, Nat.min_self, List.append_assoc, hlast, List.dropLast_append_getLast,
    List.take_append_drop]

end Reshape

/-! ### Non-vacuity: the generated code runs on concrete data (ℚ; `det` of a 2×2 matrix, `exp t := t + 2` as stand-ins) -/

section Examples

/-- the determinant of a 2×2 matrix -/
def det2 (M : List (List ℚ)) : ℚ :=
  match M with
  | [[a, b], [c, d]] => a * d - b * c
  | _ => 0

/-- Bayesian ART, `dim = 2`: mean `(0,0)`, covariance `I`, one sample so far; learning `(2,0)` gives mean `(1,0)`,
covariance `diag(1, 1/2)`, count 2 -/
example : Gen2.BayesianART.update 2 (c_new_w := none) [(2 : ℚ), 0] [0, 0, 1, 0, 0, 1, 1] = [1, 0, 1, 0, 0, 1 / 2, 2] := by
  decide +kernel

example : Gen2.BayesianART.match_criterion det2 2 (c_new_w := none) [(2 : ℚ), 0] [0, 0, 1, 0, 0, 1, 1] = 1 / 2 := by
  decide +kernel

example : Gen2.BayesianART.get_cluster_centers [[(0 : ℚ), 0, 1, 0, 0, 1, 1], [5, 7, 1, 0, 0, 1, 3]] 2 = [[0, 0], [5, 7]] := by
  decide +kernel

/-- Quadratic Neuron ART, `dim = 2`: `W = I`, `b = 0`, `s = 1`, sample `(1,0)`: `z − b = (1,0)`, `T = 1` (stand-in exp),
rates `1/2, 1/4, 1/8` -/
example :
    let x : List ℚ := [1, 0]
    let w : List ℚ := [1, 0, 0, 1, 0, 0, 1]
    let ex : ℚ → ℚ := fun t => t + 2
    Gen2.QuadraticNeuronART.update (p_lr_b := 1 / 2) (p_lr_w := 1 / 4) (p_lr_s := 1 / 8)
      (c_s := Gen2.QuadraticNeuronART.category_choice_cache_s ex 2 x w)
      (c_w := Gen2.QuadraticNeuronART.category_choice_cache_w ex 2 x w)
      (c_b := Gen2.QuadraticNeuronART.category_choice_cache_b ex 2 x w)
      (c_z := Gen2.QuadraticNeuronART.category_choice_cache_z ex 2 x w)
      (c_activation := Gen2.QuadraticNeuronART.category_choice_cache_activation ex 2 x w)
      (c_l2norm2_z_b := Gen2.QuadraticNeuronART.category_choice_cache_l2norm2_z_b ex 2 x w) x w =
    [1 / 2, 0, 0, 1, 1, 0, 3 / 4] := by
  decide +kernel

example : Gen2.QuadraticNeuronART.new_weight 2 (p_s_init := 1 / 2) [(3 : ℚ), 4] = [1, 0, 0, 1, 3, 4, 1 / 2] := by
  decide +kernel

/-- the C03 examples, on the generated accessors -/
example : Gen2.FuzzyART.get_bounding_box [(1 : ℚ) / 4, 1 / 2, 3 / 8, 1 / 8] (some 1) = ([1 / 4], [3 / 8]) := by
  decide +kernel

example : Gen2.FuzzyART.get_bounding_boxes [[(1 : ℚ) / 4, 1 / 2, 3 / 8, 1 / 8]] none = [([1 / 4, 1 / 2], [3 / 8, 3 / 8])] := by
  decide +kernel

example : Gen2.FuzzyART.shrink_clusters [[(0 : ℚ), 0, 0, 0], [1 / 4, 1 / 2, 3 / 8, 1 / 8]] (1 / 4) =
    [[1 / 4, 1 / 4, 1 / 4, 1 / 4], [11 / 32, 19 / 32, 15 / 32, 7 / 32]] := by
  decide +kernel

end Examples

end Art.GenSpec.K2
