/-
ArtGenProofs.ParamsSpec — the generated estimator protocol (`ArtGen/Params.lean`, regenerated from the Python
source by `harness/artv/qtrans.py`) equals the protocol model of `ArtModel/Params.lean`, for all stores, all
estimators, all keyword lists; the C19 theorems transported to the generated definitions.
-/
import ArtGen.Params
import ArtProps.C19

namespace Art.GenSpec.Params
open Art Art.Params Art.Gen.Params

/-! ### dicts: the translator's helpers are the model's store operations -/

theorem dget_eq (p : Store) (k : String) : Q.dget p k = get? p k := by
  induction p with
  | nil => rfl
  | cons kv r ih => obtain ⟨k', v⟩ := kv; simp only [Q.dget, get?, ih]

theorem dhas_eq (p : Store) (k : String) : Q.dhas p k = (get? p k).isSome := by
  simp only [Q.dhas, dget_eq]

theorem dset_eq (p : Store) (k : String) (v : Val) : Q.dset p k v = upsert p k v := by
  induction p with
  | nil => rfl
  | cons kv r ih =>
    obtain ⟨k', v'⟩ := kv
    by_cases h : k' = k
    · simp [Q.dset, upsert, get?, assign, h]
    · simp only [Q.dset, h, if_false, ih]
      simp only [upsert, get?, h, if_false, assign]
      split <;> simp

/-! ### `validate_params`: assert by assert -/

/-- one assert line of the model as the action the generated code performs -/
def chk (p : Store) (c : Check) : Except Err Unit :=
  match evalCheck p c with
  | none => .ok ()
  | some e => .error e

/-- `validate checks` as a `validate_params` function -/
def vpOf (checks : List Check) (p : Store) : Except Err Unit :=
  match validate checks p with
  | none => .ok ()
  | some e => .error e

theorem vpOf_nil (p : Store) : vpOf [] p = pure () := rfl

theorem vpOf_cons (c : Check) (cs : List Check) (p : Store) :
    vpOf (c :: cs) p = (do chk p c; vpOf cs p) := by
  simp only [vpOf, validate, chk]
  cases evalCheck p c <;> rfl

section Asserts
variable {β : Type}

theorem L_has (p : Store) (k : String) : Q.assert (Q.dhas p k) = chk p (.has k) := by
  simp only [Q.assert, dhas_eq, chk, evalCheck]
  cases get? p k <;> rfl

theorem L_float (p : Store) (k : String) (rest : Except Err β) :
    (do Q.assert (Q.isinstance (← Q.getitem p k) Q.PyType.float); rest) = (do chk p (.isFloat k); rest) := by
  simp only [Q.getitem, dget_eq, chk, evalCheck]
  cases get? p k with
  | none => rfl
  | some v => cases v <;> rfl

theorem L_arr (p : Store) (k : String) (rest : Except Err β) :
    (do Q.assert (Q.isinstance (← Q.getitem p k) Q.PyType.ndarray); rest) = (do chk p (.isArr k); rest) := by
  simp only [Q.getitem, dget_eq, chk, evalCheck]
  cases get? p k with
  | none => rfl
  | some v => cases v <;> rfl

/-! A comparison of a parameter with a literal: Python compares, then takes `bool(...)` of the result; the model
looks at the value as a number first (`Val.numView`).  Both are `numTruth`. -/

/-- `bool(f(v))` for a test `f` on numbers: a one-element array is its element, a longer one has no truth value
(`ValueError`), anything that is no number cannot be compared (`TypeError`) -/
def numTruth (v : Val) (f : Rat → Bool) : Except Err Bool :=
  match v.numView with
  | .num q => .ok (f q)
  | .typeErr => .error .type
  | .valueErr => .error .value

theorem truth_cmpVN (op : Q.Cmp) (v : Val) (c : Rat) (g : Bool → Except Err β) :
    (do g (← Q.truth (← Q.cmpVN op v c))) = (do g (← numTruth v (op.rel · c))) := by
  -- the constructors of `Val`; for an array the three cases of `numView`: length 0, 1, ≥ 2
  rcases v with _ | _ | (_ | ⟨_, _ | _⟩) | _ | _ | _ <;> rfl

theorem truth_cmpNV (op : Q.Cmp) (c : Rat) (v : Val) (g : Bool → Except Err β) :
    (do g (← Q.truth (← Q.cmpNV op c v))) = (do g (← numTruth v (op.rel c ·))) := by
  rcases v with _ | _ | (_ | ⟨_, _ | _⟩) | _ | _ | _ <;> rfl

theorem truth_chain (a : Except Err Q.Truth) (b : Unit → Except Err Q.Truth) (g : Bool → Except Err β) :
    (do g (← Q.truth (← Q.chain a b)))
      = (do if (← Q.truth (← a)) then g (← Q.truth (← b ())) else g false) := by
  rcases a with e | t
  · rfl
  · simp only [Q.chain, bind, Except.bind]
    rcases h : Q.truth t with e | (_ | _) <;> simp only [h] <;> rfl

theorem numTruth_and (v : Val) (f g : Rat → Bool) (k : Bool → Except Err β) :
    (do if (← numTruth v f) then k (← numTruth v g) else k false) = (do k (← numTruth v fun q => f q && g q)) := by
  unfold numTruth
  cases v.numView with
  | num q => cases h : f q <;> simp only [h] <;> rfl
  | _ => rfl

theorem chk_range (p : Store) (k : String) (lo hi : Option Bound) (rest : Except Err β) :
    (do chk p (.range k lo hi); rest)
      = (do Q.assert (← numTruth (← Q.getitem p k) (inRange lo hi)); rest) := by
  simp only [chk, evalCheck, Q.getitem, dget_eq, numTruth]
  cases get? p k with
  | none => rfl
  | some v =>
    simp only [bind, Except.bind]
    cases v.numView with
    | num q => cases h : inRange lo hi q <;> simp only [h] <;> rfl
    | _ => rfl

/-- `op` is `>=` (`strict = false`) or `>` (`strict = true`) -/
def IsLower (op : Q.Cmp) (strict : Bool) : Prop :=
  ∀ a b : Rat, op.rel a b = if strict then decide (b < a) else decide (b ≤ a)

theorem isLower_ge : IsLower .ge false := fun _ _ => rfl
theorem isLower_gt : IsLower .gt true := fun _ _ => rfl

theorem inRange_lo {op : Q.Cmp} {s : Bool} (h : IsLower op s) (ci : Int) :
    inRange (some ⟨ci, s⟩) none = (op.rel · (ci : Rat)) := by
  funext q; rw [h]; cases s <;> simp [inRange, Bound.okLo]

theorem inRange_lo_hi {oph opl : Q.Cmp} {sh sl : Bool} (hh : IsLower oph sh) (hl : IsLower opl sl) (chi cli : Int) :
    inRange (some ⟨cli, sl⟩) (some ⟨chi, sh⟩) = fun q => oph.rel (chi : Rat) q && opl.rel q (cli : Rat) := by
  funext q; rw [hh, hl]; cases sh <;> cases sl <;> simp [inRange, Bound.okLo, Bound.okHi]

/-- `assert params[k] op c` -/
theorem L_lo {op : Q.Cmp} {s : Bool} (h : IsLower op s) (ci : Int) (p : Store) (k : String)
    (rest : Except Err β) :
    (do Q.assert (← Q.truth (← Q.cmpVN op (← Q.getitem p k) (ci : Rat))); rest)
      = (do chk p (.range k (some ⟨ci, s⟩) none); rest) := by
  simp only [chk_range, truth_cmpVN, inRange_lo h]

/-- `assert ch oph params[k] opl cl` -/
theorem L_chain {oph opl : Q.Cmp} {sh sl : Bool} (hh : IsLower oph sh) (hl : IsLower opl sl)
    (chi cli : Int) (p : Store) (k : String) (rest : Except Err β) :
    (do let t ← Q.getitem p k
        Q.assert (← Q.truth (← Q.chain (Q.cmpNV oph (chi : Rat) t) (fun _ => Q.cmpVN opl t (cli : Rat))))
        rest)
      = (do chk p (.range k (some ⟨cli, sl⟩) (some ⟨chi, sh⟩)); rest) := by
  simp only [chk_range, truth_chain, truth_cmpNV, truth_cmpVN, inRange_lo_hi hh hl, numTruth_and]

/-! the instances for the literals and operators that occur in the source (`0`, `0.0`, `1.0`; `>=`, `>`) -/

theorem L_lo_ge0 (p : Store) (k : String) (rest : Except Err β) :
    (do Q.assert (← Q.truth (← Q.cmpVN .ge (← Q.getitem p k) (0 : Rat))); rest)
      = (do chk p (.range k ge0 none); rest) := L_lo isLower_ge 0 p k rest

theorem L_lo_gt0 (p : Store) (k : String) (rest : Except Err β) :
    (do Q.assert (← Q.truth (← Q.cmpVN .gt (← Q.getitem p k) (0 : Rat))); rest)
      = (do chk p (.range k gt0 none); rest) := L_lo isLower_gt 0 p k rest

theorem L_lo_ge1 (p : Store) (k : String) (rest : Except Err β) :
    (do Q.assert (← Q.truth (← Q.cmpVN .ge (← Q.getitem p k) (1 : Rat))); rest)
      = (do chk p (.range k ge1 none); rest) := L_lo isLower_ge 1 p k rest

theorem L_chain_ge1_ge0 (p : Store) (k : String) (rest : Except Err β) :
    (do let t ← Q.getitem p k
        Q.assert (← Q.truth (← Q.chain (Q.cmpNV .ge (1 : Rat) t) (fun _ => Q.cmpVN .ge t (0 : Rat))))
        rest)
      = (do chk p (.range k ge0 le1); rest) := L_chain isLower_ge isLower_ge 1 0 p k rest

theorem L_chain_ge1_gt0 (p : Store) (k : String) (rest : Except Err β) :
    (do let t ← Q.getitem p k
        Q.assert (← Q.truth (← Q.chain (Q.cmpNV .ge (1 : Rat) t) (fun _ => Q.cmpVN .gt t (0 : Rat))))
        rest)
      = (do chk p (.range k gt0 le1); rest) := L_chain isLower_ge isLower_gt 1 0 p k rest

end Asserts

/-! A generated `validate_params` is a sequence of assert lines and the model's check list, unfolded by `vpOf_cons`, a
sequence of `chk`s: the `L_` lemmas of the assert forms that occur in the class turn the one into the other. -/

theorem validate_ART1 (p : Store) : ART1.validate_params p = vpOf art1.checks p := by
  simp only [ART1.validate_params, art1, vpOf_cons, vpOf_nil, L_has, L_float, L_lo_ge1, L_chain_ge1_ge0]

theorem validate_ART2A (p : Store) : ART2A.validate_params p = vpOf art2a.checks p := by
  simp only [ART2A.validate_params, art2a, vpOf_cons, vpOf_nil, L_has, L_float, L_chain_ge1_ge0]

theorem validate_FuzzyART (p : Store) : FuzzyART.validate_params p = vpOf fuzzyART.checks p := by
  simp only [FuzzyART.validate_params, fuzzyART, vpOf_cons, vpOf_nil,
    L_has, L_float, L_lo_ge0, L_chain_ge1_ge0, L_chain_ge1_gt0]

theorem validate_HypersphereART (p : Store) :
    HypersphereART.validate_params p = vpOf hypersphereART.checks p := by
  simp only [HypersphereART.validate_params, hypersphereART, vpOf_cons, vpOf_nil,
    L_has, L_float, L_lo_ge0, L_lo_gt0, L_chain_ge1_ge0]

theorem validate_EllipsoidART (p : Store) : EllipsoidART.validate_params p = vpOf ellipsoidART.checks p := by
  simp only [EllipsoidART.validate_params, ellipsoidART, vpOf_cons, vpOf_nil,
    L_has, L_float, L_lo_gt0, L_chain_ge1_ge0, L_chain_ge1_gt0]

theorem validate_BayesianART (p : Store) : BayesianART.validate_params p = vpOf bayesianART.checks p := by
  simp only [BayesianART.validate_params, bayesianART, vpOf_cons, vpOf_nil, L_has, L_float, L_arr, L_lo_gt0]

theorem validate_QuadraticNeuronART (p : Store) :
    QuadraticNeuronART.validate_params p = vpOf quadraticNeuronART.checks p := by
  simp only [QuadraticNeuronART.validate_params, quadraticNeuronART, vpOf_cons, vpOf_nil,
    L_has, L_float, L_chain_ge1_ge0, L_chain_ge1_gt0]

/-- the assert of `GaussianART.validate_params` that the class table of the model does not have
(`assert np.all(params["sigma_init"] > 0.0)`, added by /repo 93b753d): every entry of the array is positive -/
def sigmaPositive (p : Store) : Except Err Unit :=
  match get? p "sigma_init" with
  | some (.arr l) => if l.all (fun x => decide (0 < x)) then .ok () else .error .assert
  | _ => .ok ()

theorem L_sigma (p : Store) :
    (do chk p (.isArr "sigma_init")
        Q.assert (Q.npAll (← Q.cmpVN .gt (← Q.getitem p "sigma_init") (0 : Rat)))
        pure ())
      = (do chk p (.isArr "sigma_init"); sigmaPositive p) := by
  simp only [Q.getitem, dget_eq, chk, evalCheck, sigmaPositive]
  cases get? p "sigma_init" with
  | none => rfl
  | some v =>
    cases v with
    | arr l =>
      cases h : l.all (fun x => decide (0 < x)) <;>
        simp [Q.cmpVN, Q.npAll, Q.assert, Q.Cmp.rel, List.all_map, Function.comp_def, h, bind, Except.bind, pure,
          Except.pure]
    | _ => rfl

/-- GaussianART: the generated `validate_params` is the model's check list **followed by** the entry check
`sigmaPositive` (the deviation of the model from the source). -/
theorem validate_GaussianART (p : Store) :
    GaussianART.validate_params p = (do vpOf gaussianART.checks p; sigmaPositive p) := by
  simp only [GaussianART.validate_params, gaussianART, vpOf_cons, vpOf_nil,
    L_has, L_float, L_arr, L_lo_gt0, L_chain_ge1_ge0]
  simp only [bind_assoc, pure_bind, L_sigma]

/-- … so it is the model's `validate` on every store whose `sigma_init` is not an array with a non-positive entry -/
theorem validate_GaussianART_of_positive (p : Store) (h : sigmaPositive p = .ok ()) :
    GaussianART.validate_params p = vpOf gaussianART.checks p := by
  rw [validate_GaussianART, h]
  cases vpOf gaussianART.checks p <;> rfl

/-! ### signatures -/

/-- constructor argument names and default values read off the `__init__` signatures = the class table -/
theorem signatures :
    [ART1.args, ART2A.args, FuzzyART.args, HypersphereART.args, EllipsoidART.args, GaussianART.args,
      BayesianART.args, QuadraticNeuronART.args] = classTable.map (·.args) ∧
    [ART1.defaults, ART2A.defaults, FuzzyART.defaults, HypersphereART.defaults, EllipsoidART.defaults,
      GaussianART.defaults, BayesianART.defaults, QuadraticNeuronART.defaults] = classTable.map (·.defaults) :=
  ⟨rfl, rfl⟩

/-! ### the object -/

/-- the instance `__dict__` of the estimator `e`: the `params` dict first (`BaseART.__init__` stores it first) -/
def toSelf (e : Est) : List (String × Q.Slot) :=
  ("params", .dict e.params) :: e.attrs.map (fun kv => (kv.1, Q.Slot.val kv.2))

/-- the estimator `e` and the log of delegated calls as the state the generated methods run on -/
def toWorld (e : Est) (calls : List (Nat × Store)) : Q.World := ⟨toSelf e, calls⟩

theorem bind_apply {σ β γ : Type} (m : Q.Py σ β) (f : β → Q.Py σ γ) (w : σ) :
    (m >>= f) w = match m w with
      | (.ok b, w') => f b w'
      | (.error e, w') => (.error e, w') := by
  show Q.Py.bind m f w = _
  unfold Q.Py.bind
  rcases m w with ⟨r | r, w'⟩ <;> rfl

theorem pure_apply {β : Type} (b : β) (w : Q.World) : (pure b : Q.M β) w = (.ok b, w) := rfl

theorem dget_toSelf_params (e : Est) : Q.dget (toSelf e) "params" = some (.dict e.params) := by
  rw [toSelf, Q.dget, if_pos rfl]

theorem selfParams_of (w : Q.World) (p : Store) (hp : Q.dget w.self "params" = some (.dict p)) :
    Q.selfParams w = (.ok p, w) := by
  rw [Q.selfParams, hp]

theorem selfParams_toWorld (e : Est) (c : List (Nat × Store)) :
    Q.selfParams (toWorld e c) = (.ok e.params, toWorld e c) :=
  selfParams_of _ _ (dget_toSelf_params e)

theorem dget_attrs (a : Store) (k : String) :
    Q.dget (a.map (fun kv => (kv.1, Q.Slot.val kv.2))) k = (get? a k).map Q.Slot.val := by
  induction a with
  | nil => rfl
  | cons kv r ih =>
    obtain ⟨k', v⟩ := kv
    simp only [List.map_cons, Q.dget, get?, ih]
    split <;> rfl

theorem dset_attrs (a : Store) (k : String) (v : Val) :
    Q.dset (a.map (fun kv => (kv.1, Q.Slot.val kv.2))) k (.val v)
      = (upsert a k v).map (fun kv => (kv.1, Q.Slot.val kv.2)) := by
  rw [← dset_eq]
  induction a with
  | nil => rfl
  | cons kv r ih =>
    obtain ⟨k', v'⟩ := kv
    simp only [List.map_cons, Q.dset]
    split
    · rfl
    · simp only [List.map_cons, ih]

theorem dget_toSelf (e : Est) {k : String} (hk : k ≠ "params") :
    Q.dget (toSelf e) k = (get? e.attrs k).map Q.Slot.val := by
  rw [toSelf, Q.dget, if_neg hk.symm, dget_attrs]

/-- `__getattr__`: the parameter store, else `AttributeError`; the object is not touched -/
theorem getattr_spec (e : Est) (c : List (Nat × Store)) (k : String) :
    BaseART.__getattr__ k (toWorld e c)
      = (match get? e.params k with
          | some v => .ok v
          | none => .error .attr, toWorld e c) := by
  simp only [BaseART.__getattr__, bind_apply, selfParams_toWorld, dhas_eq]
  cases h : get? e.params k with
  | none => simp [Q.Py.raise]
  | some v => simp [Q.Py.lift, Q.getitem, dget_eq, h, bind_apply, selfParams_toWorld]

/-- `getattr(est, k)` (instance `__dict__`, then the generated `__getattr__`) is the model's `getAttr` -/
theorem pyGetattr_spec (e : Est) (c : List (Nat × Store)) (k : String) (hk : k ≠ "params") :
    Q.pyGetattr BaseART.__getattr__ k (toWorld e c)
      = (match getAttr e k with
          | .ok v => .ok (.val v)
          | .error x => .error x, toWorld e c) := by
  have hk' : ¬ ("params" = k) := fun h => hk h.symm
  simp only [Q.pyGetattr, toWorld, toSelf, Q.dget, hk', if_false, dget_attrs, getAttr]
  cases h1 : get? e.attrs k with
  | some v => rfl
  | none =>
    have := getattr_spec e c k
    simp only [toWorld, toSelf] at this
    simp only [Option.map_none, this]
    cases get? e.params k <;> rfl

theorem get_params_spec (e : Est) (c : List (Nat × Store)) (deep : Bool) :
    BaseART.get_params deep (toWorld e c) = (.ok (getParams e), toWorld e c) := by
  simp only [BaseART.get_params, selfParams_toWorld, getParams]

/-- `setattr(est, k, v)` is the model's `setAttr` (for every name but `params` itself, whose `__dict__` entry the
model does not have) -/
theorem setattr_spec (e : Est) (c : List (Nat × Store)) (k : String) (v : Val)
    (hk : k ≠ "params" ∨ (get? e.params k).isSome) :
    BaseART.__setattr__ k (.val v) (toWorld e c) = (.ok (), toWorld (setAttr e k v) c) := by
  simp only [BaseART.__setattr__, bind_apply, Q.selfDict, Q.Py.lift, Q.slotHas, Q.dgetD, toWorld, toSelf, Q.dget,
    if_true, Option.getD_some, dhas_eq, setAttr]
  cases h : (get? e.params k).isSome with
  | true =>
    simp [Q.asVal, Q.paramsSetitem, Q.Py.lift, Q.dget, Q.dset, bind_apply, pure_apply, dset_eq, upsert, h]
  | false =>
    have hk' : ¬ ("params" = k) := by
      rcases hk with hk | hk
      · exact fun h => hk h.symm
      · rw [h] at hk; cases hk
    simp [Q.objectSetattr, Q.dset, hk', bind_apply, pure_apply, dset_attrs]

theorem setattr_fresh {cls : String} {p attrs : Store} {c : List (Nat × Store)} {k : String} {v : Val}
    (hk : k ≠ "params") (h : get? p k = none) :
    BaseART.__setattr__ k (.val v) (toWorld ⟨cls, p, attrs⟩ c) = (.ok (), toWorld ⟨cls, p, upsert attrs k v⟩ c) := by
  rw [setattr_spec _ c k v (Or.inl hk), setAttr, if_neg (by rw [h]; exact Bool.false_ne_true)]

/-- the first attribute store of `__init__`, on the empty instance: `self.params = params` -/
theorem setattr_params_empty (cls : String) (p : Store) (c : List (Nat × Store)) :
    BaseART.__setattr__ "params" (.dict p) ⟨[], c⟩ = (.ok (), toWorld ⟨cls, p, []⟩ c) := by
  simp [BaseART.__setattr__, bind_apply, pure_apply, Q.selfDict, Q.Py.lift, Q.slotHas, Q.dgetD, Q.dget, Q.dhas,
    Q.objectSetattr, Q.dset, toWorld, toSelf]

/-- `BaseART.__init__(params)` on a fresh instance: validation first — a rejected dict leaves the instance without
any attribute — then the object of the model's `construct`. -/
theorem init_spec (vp : Store → Except Err Unit) (cls : String) (p : Store) (c : List (Nat × Store))
    (hdis : ∀ k ∈ keys initAttrs, get? p k = none) :
    BaseART.__init__ vp p ⟨[], c⟩
      = match vp p with
        | .error x => (.error x, ⟨[], c⟩)
        | .ok () => (.ok (), toWorld ⟨cls, p, initAttrs⟩ c) := by
  simp only [BaseART.__init__, bind_apply, Q.Py.lift]
  cases vp p with
  | error x => rfl
  | ok u =>
    simp only [setattr_params_empty cls, setattr_fresh (h := hdis _ (.head _)),
      setattr_fresh (h := hdis _ (.tail _ (.head _))), setattr_fresh (h := hdis _ (.tail _ (.tail _ (.head _)))),
      setattr_fresh (h := hdis _ (.tail _ (.tail _ (.tail _ (.head _))))), ne_eq, String.reduceEq, not_false_eq_true,
      upsert, get?, Option.isSome_none, Bool.false_eq_true, List.nil_append, List.cons_append, ↓reduceIte]
    rfl

/-- what a constructor call leaves behind: the model's object, or (rejected) the instance without attributes -/
def ofConstruct (r : Except Err Est) (c : List (Nat × Store)) : Except Err Unit × Q.World :=
  match r with
  | .ok e => (.ok (), toWorld e c)
  | .error x => (.error x, ⟨[], c⟩)

/-- no constructor argument of a class of the table is called like an attribute that `BaseART.__init__` creates -/
theorem initAttrs_fresh {cs : ClassSpec} (hcs : cs ∈ classTable) {kw p : Store} (hb : bindArgs cs kw = some p) :
    ∀ k ∈ keys initAttrs, get? p k = none := by
  intro k hk
  obtain ⟨_, _, hdis, _⟩ := C19.table_wf cs hcs
  rw [get?_eq_none_iff, (bindArgs_spec hb).1]
  exact fun ha => get?_eq_none_iff.mp (hdis k ha) hk

theorem init_generic {cs : ClassSpec} (vp extra : Store → Except Err Unit)
    (hvp : ∀ p, vp p = (do vpOf cs.checks p; extra p)) (kw p : Store) (hb : bindArgs cs kw = some p)
    (c : List (Nat × Store))
    (hcs : cs ∈ classTable := by simp only [classTable, List.mem_cons, true_or, or_true]) :
    BaseART.__init__ vp p ⟨[], c⟩
      = match construct cs kw with
        | .error x => (.error x, ⟨[], c⟩)
        | .ok e =>
          match extra e.params with
          | .ok () => (.ok (), toWorld e c)
          | .error x => (.error x, ⟨[], c⟩) := by
  rw [init_spec vp cs.name p c (initAttrs_fresh hcs hb)]
  simp only [construct, hb, hvp, vpOf]
  cases validate cs.checks p with
  | some x => rfl
  | none => cases h : extra p <;> simp only [h, bind, Except.bind]

theorem init_plain {cs : ClassSpec} (vp : Store → Except Err Unit)
    (hvp : ∀ p, vp p = vpOf cs.checks p) (kw p : Store) (hb : bindArgs cs kw = some p) (c : List (Nat × Store))
    (hcs : cs ∈ classTable := by simp only [classTable, List.mem_cons, true_or, or_true]) :
    BaseART.__init__ vp p ⟨[], c⟩ = ofConstruct (construct cs kw) c := by
  rw [init_generic vp (fun _ => .ok ()) (fun p => by rw [hvp]; cases vpOf cs.checks p <;> rfl) kw p hb c hcs]
  cases construct cs kw <;> rfl

/-- the tail `pure ()` of a generated constructor -/
theorem then_pure (m : Q.M Unit) (w : Q.World) : (do m; pure ()) w = m w := by
  simp only [bind_apply, pure_apply]
  rcases m w with ⟨r | r, w'⟩ <;> rfl

/-! `Cls(**kw)`: whenever Python's argument binding (`bindArgs`, trusted) gives the constructor its arguments, the
generated constructor leaves the object of the model's `construct` — or, rejected, an instance without attributes. -/

theorem init_ART1 (kw : Store) (rho L : Val) (c : List (Nat × Store))
    (hb : bindArgs art1 kw = some [("rho", rho), ("L", L)]) :
    ART1.__init__ rho L ⟨[], c⟩ = ofConstruct (construct art1 kw) c := by
  simp only [ART1.__init__, then_pure]
  exact init_plain _ validate_ART1 kw _ hb c

theorem init_ART2A (kw : Store) (rho alpha beta : Val) (c : List (Nat × Store))
    (hb : bindArgs art2a kw = some [("rho", rho), ("alpha", alpha), ("beta", beta)]) :
    ART2A.__init__ rho alpha beta ⟨[], c⟩ = ofConstruct (construct art2a kw) c := by
  simp only [ART2A.__init__, then_pure]
  exact init_plain _ validate_ART2A kw _ hb c

theorem init_FuzzyART (kw : Store) (rho alpha beta : Val) (c : List (Nat × Store))
    (hb : bindArgs fuzzyART kw = some [("rho", rho), ("alpha", alpha), ("beta", beta)]) :
    FuzzyART.__init__ rho alpha beta ⟨[], c⟩ = ofConstruct (construct fuzzyART kw) c := by
  simp only [FuzzyART.__init__, then_pure]
  exact init_plain _ validate_FuzzyART kw _ hb c

theorem init_HypersphereART (kw : Store) (rho alpha beta r_hat : Val) (c : List (Nat × Store))
    (hb : bindArgs hypersphereART kw = some [("rho", rho), ("alpha", alpha), ("beta", beta), ("r_hat", r_hat)]) :
    HypersphereART.__init__ rho alpha beta r_hat ⟨[], c⟩ = ofConstruct (construct hypersphereART kw) c := by
  simp only [HypersphereART.__init__, then_pure]
  exact init_plain _ validate_HypersphereART kw _ hb c

theorem init_EllipsoidART (kw : Store) (rho alpha beta mu r_hat : Val) (c : List (Nat × Store))
    (hb : bindArgs ellipsoidART kw
      = some [("rho", rho), ("alpha", alpha), ("beta", beta), ("mu", mu), ("r_hat", r_hat)]) :
    EllipsoidART.__init__ rho alpha beta mu r_hat ⟨[], c⟩ = ofConstruct (construct ellipsoidART kw) c := by
  simp only [EllipsoidART.__init__, then_pure]
  exact init_plain _ validate_EllipsoidART kw _ hb c

theorem init_BayesianART (kw : Store) (rho cov_init : Val) (c : List (Nat × Store))
    (hb : bindArgs bayesianART kw = some [("rho", rho), ("cov_init", cov_init)]) :
    BayesianART.__init__ rho cov_init ⟨[], c⟩ = ofConstruct (construct bayesianART kw) c := by
  simp only [BayesianART.__init__, then_pure]
  exact init_plain _ validate_BayesianART kw _ hb c

theorem init_QuadraticNeuronART (kw : Store) (rho s_init lr_b lr_w lr_s : Val) (c : List (Nat × Store))
    (hb : bindArgs quadraticNeuronART kw
      = some [("rho", rho), ("s_init", s_init), ("lr_b", lr_b), ("lr_w", lr_w), ("lr_s", lr_s)]) :
    QuadraticNeuronART.__init__ rho s_init lr_b lr_w lr_s ⟨[], c⟩
      = ofConstruct (construct quadraticNeuronART kw) c := by
  simp only [QuadraticNeuronART.__init__, then_pure]
  exact init_plain _ validate_QuadraticNeuronART kw _ hb c

/-- GaussianART: the model's `construct`, then the entry check the model does not have -/
theorem init_GaussianART (kw : Store) (rho sigma_init alpha : Val) (c : List (Nat × Store))
    (hb : bindArgs gaussianART kw = some [("rho", rho), ("sigma_init", sigma_init), ("alpha", alpha)]) :
    GaussianART.__init__ rho sigma_init alpha ⟨[], c⟩
      = match construct gaussianART kw with
        | .error x => (.error x, ⟨[], c⟩)
        | .ok e =>
          match sigmaPositive e.params with
          | .ok () => (.ok (), toWorld e c)
          | .error x => (.error x, ⟨[], c⟩) := by
  simp only [GaussianART.__init__, then_pure]
  exact init_generic _ sigmaPositive validate_GaussianART kw _ hb c

/-! ### `set_params` -/

/-! #### `str.partition("__")` -/

theorem partitionChars_eq (l : List Char) :
    Q.partitionChars ['_', '_'] l
      = match (Art.Params.partitionChars l).2 with
        | some b => some ((Art.Params.partitionChars l).1, b)
        | none => none := by
  fun_induction Art.Params.partitionChars l with
  | case1 rest => simp [Q.partitionChars, List.isPrefixOf]
  | case2 c rest hne r ih =>
    have hpre : List.isPrefixOf ['_', '_'] (c :: rest) = false := by
      rcases rest with _ | ⟨d, r'⟩
      · simp [List.isPrefixOf]
      · simp only [List.isPrefixOf, Bool.and_true, Bool.and_eq_false_iff, beq_eq_false_iff_ne]
        exact Decidable.not_and_iff_or_not.mp fun ⟨h1, h2⟩ => hne r' h1.symm (h2 ▸ rfl)
    simp only [Q.partitionChars, hpre, Bool.false_eq_true, if_false, ih]
    cases (Art.Params.partitionChars rest).2 <;> rfl
  | case3 => rfl

/-- the generic `partition` with the separator of the source, `"__"`, is the model's `partitionKey` -/
theorem partition_eq (s : String) :
    Q.partition s "__"
      = ((partitionKey s).1, (if (partitionKey s).2.isSome then "__" else ""), ((partitionKey s).2).getD "") := by
  have h2 : ("__" : String).toList = ['_', '_'] := rfl
  simp only [Q.partition, h2, partitionChars_eq, partitionKey]
  have hn := partitionChars_none s.toList
  obtain ⟨a, b, hab⟩ : ∃ a b, Art.Params.partitionChars s.toList = (a, b) := ⟨_, _, rfl⟩
  simp only [hab] at hn ⊢
  cases b with
  | some b => simp
  | none => simp [hn rfl]

/-! #### `nested_params`: a dict of dicts against the model's flat list -/

/-- the sub-parameters the model routes to the group `g` -/
def subOf (n : List (String × String × Val)) (g : String) : Store := (n.filter (·.1 = g)).map (·.2)

/-- the model's flat `nested` list as the `defaultdict(dict)` the code builds -/
def group (n : List (String × String × Val)) : List (String × Store) :=
  (eraseDupKeys (n.map (·.1))).map (fun g => (g, subOf n g))

theorem mem_eraseDupKeys {l : List String} {g : String} : g ∈ eraseDupKeys l ↔ g ∈ l := by
  induction l with
  | nil => simp [eraseDupKeys]
  | cons k ks ih =>
    simp only [eraseDupKeys, List.mem_cons, List.mem_filter, ih, decide_eq_true_eq]
    by_cases h : g = k <;> simp [h]

theorem nodup_eraseDupKeys (l : List String) : (eraseDupKeys l).Nodup := by
  induction l with
  | nil => simp [eraseDupKeys]
  | cons k ks ih =>
    simp only [eraseDupKeys, List.nodup_cons, List.mem_filter, decide_eq_true_eq]
    exact ⟨fun h => h.2 rfl, ih.filter _⟩

theorem eraseDupKeys_snoc (l : List String) (k : String) :
    eraseDupKeys (l ++ [k]) = if k ∈ l then eraseDupKeys l else eraseDupKeys l ++ [k] := by
  induction l with
  | nil => simp [eraseDupKeys]
  | cons a r ih =>
    simp only [List.cons_append, eraseDupKeys, ih, List.mem_cons]
    by_cases hka : k = a
    · subst hka
      by_cases hkr : k ∈ r <;> simp [hkr, List.filter_append]
    · by_cases hkr : k ∈ r <;> simp [hkr, hka, List.filter_append]

section Dict
variable {V : Type}

theorem dget_mapfn (L : List String) (f : String → V) (k : String) :
    Q.dget (L.map (fun g => (g, f g))) k = if k ∈ L then some (f k) else none := by
  induction L with
  | nil => rfl
  | cons a r ih =>
    rw [List.map_cons, Q.dget, ih]
    by_cases h : a = k
    · simp [h]
    · simp [h, Ne.symm h]

theorem dset_snoc (d : List (String × V)) (k : String) (v : V) (h : k ∉ Q.dkeys d) :
    Q.dset d k v = d ++ [(k, v)] := by
  induction d with
  | nil => rfl
  | cons kv r ih =>
    rw [Q.dkeys, List.map_cons, List.mem_cons, not_or] at h
    rw [Q.dset, if_neg (Ne.symm h.1), ih h.2]; rfl

theorem dset_mapfn (L : List String) (hnd : L.Nodup) (f : String → V) (k : String) (new : V) (hk : k ∈ L) :
    Q.dset (L.map (fun g => (g, f g))) k new = L.map (fun g => (g, if g = k then new else f g)) := by
  induction L with
  | nil => cases hk
  | cons a r ih =>
    rw [List.nodup_cons] at hnd
    rw [List.map_cons, List.map_cons, Q.dset]
    by_cases h : a = k
    · subst h
      rw [if_pos rfl, if_pos rfl]
      exact congrArg _ (List.map_congr_left fun g hg => by rw [if_neg fun (e : g = a) => hnd.1 (e ▸ hg)])
    · rw [if_neg h, if_neg h, ih hnd.2 ((List.mem_cons.mp hk).resolve_left (Ne.symm h))]

theorem dset_dset_same (d : List (String × V)) (k : String) (v : V) :
    Q.dset (Q.dset d k v) k v = Q.dset d k v := by
  induction d with
  | nil => simp [Q.dset]
  | cons kv r ih =>
    obtain ⟨k', v'⟩ := kv
    by_cases h : k' = k <;> simp [Q.dset, h, ih]

end Dict

theorem subOf_snoc (n : List (String × String × Val)) (k s : String) (v : Val) (g : String) :
    subOf (n ++ [(k, s, v)]) g = if g = k then subOf n g ++ [(s, v)] else subOf n g := by
  simp only [subOf, List.filter_append, List.map_append]
  by_cases h : g = k
  · subst h; simp
  · have h' : ¬ k = g := fun e => h e.symm
    simp [h, h']

/-- `nested_params[k][s] = v` on the dict of dicts = appending `(k, s, v)` to the model's flat list, for a
`(k, s)` that was not set before (keyword names are distinct) -/
theorem ddset2_group (n : List (String × String × Val)) (k s : String) (v : Val)
    (h : (k, s) ∉ n.map (fun t => (t.1, t.2.1))) :
    Q.ddset2 (group n) k s v = group (n ++ [(k, s, v)]) := by
  have hs : s ∉ Q.dkeys (subOf n k) := by
    intro hm
    apply h
    simp only [Q.dkeys, subOf, List.map_map, List.mem_map, List.mem_filter, decide_eq_true_eq,
      Function.comp] at hm
    obtain ⟨t, ⟨ht, hk⟩, hs⟩ := hm
    exact List.mem_map.mpr ⟨t, ht, by rw [← hk, ← hs]⟩
  simp only [Q.ddset2, Q.dgetD, group, dget_mapfn, mem_eraseDupKeys, List.map_append, List.map_cons, List.map_nil,
    eraseDupKeys_snoc]
  by_cases hk : k ∈ n.map (·.1)
  · simp only [hk, if_true, Option.getD_some, dset_snoc _ _ _ hs]
    rw [dset_mapfn _ (nodup_eraseDupKeys _) _ _ _ (mem_eraseDupKeys.mpr hk)]
    apply List.map_congr_left
    intro g _
    rw [subOf_snoc]
    by_cases hg : g = k <;> simp [hg]
  · simp only [hk, if_false, Option.getD_none]
    have hk' : k ∉ Q.dkeys ((eraseDupKeys (n.map (·.1))).map (fun g => (g, subOf n g))) := by
      intro hm
      simp only [Q.dkeys, List.map_map, List.mem_map, Function.comp] at hm
      obtain ⟨g, hg, e⟩ := hm
      exact hk (mem_eraseDupKeys.mp (e ▸ hg))
    rw [dset_snoc _ _ _ hk']
    simp only [List.map_append, List.map_cons, List.map_nil, subOf_snoc, if_true]
    have hnil : subOf n k = [] := by
      simp only [subOf, List.map_eq_nil_iff, List.filter_eq_nil_iff, decide_eq_true_eq]
      intro t ht e
      exact hk (List.mem_map.mpr ⟨t, ht, e⟩)
    congr 1
    · apply List.map_congr_left
      intro g hg
      have : ¬ g = k := fun e => hk (mem_eraseDupKeys.mp (e ▸ hg))
      simp [this]
    · simp [hnil, Q.dset]

/-! #### the three loops -/

abbrev Carried := Store × List (String × Store) × Store

/-- what one pass of the first loop does on `(local_params, nested_params, plain_params)` -/
def Step1 (p : Store) (w : Q.World) (body : String × Val → Carried → Q.M Carried) : Prop :=
  ∀ key v lp np pp, body (key, v) (lp, np, pp) w =
    if (get? p (partitionKey key).1).isSome then
      match (partitionKey key).2 with
      | some sub => (.ok (lp, Q.ddset2 np (partitionKey key).1 sub v, pp), w)
      | none => (.ok (Q.dset lp (partitionKey key).1 v, np, Q.dset pp (partitionKey key).1 v), w)
    else (.error .value, w)

theorem loop1 (p : Store) (w : Q.World) (body : String × Val → Carried → Q.M Carried) (hb : Step1 p w body) :
    ∀ (kvs : List (String × Val)) (st : LoopSt),
    (kvs.map (fun kv => partitionKey kv.1)).Nodup →
    (∀ kv ∈ kvs, (partitionKey kv.1).2 = none → (partitionKey kv.1).1 ∉ keys st.plain) →
    (∀ kv ∈ kvs, ∀ sub, (partitionKey kv.1).2 = some sub →
      ((partitionKey kv.1).1, sub) ∉ st.nested.map (fun t => (t.1, t.2.1))) →
    Q.Py.forEach kvs (st.loc, group st.nested, st.plain) body w =
      match setLoop p st kvs with
      | (st', none) => (.ok (st'.loc, group st'.nested, st'.plain), w)
      | (_, some x) => (.error x, w) := by
  intro kvs
  induction kvs with
  | nil => intro st _ _ _; rfl
  | cons kv rest ih =>
    intro st hnd h2a h2b
    obtain ⟨key, v⟩ := kv
    simp only [List.map_cons, List.nodup_cons] at hnd
    simp only [Q.Py.forEach, Q.Py.bind, hb key v, setLoop]
    cases (get? p (partitionKey key).1).isSome with
    | false => rfl
    | true =>
      have hlater : ∀ kv' ∈ rest, partitionKey kv'.1 ≠ partitionKey key := fun kv' hm heq =>
        hnd.1 (List.mem_map.mpr ⟨kv', hm, heq⟩)
      cases hsub : (partitionKey key).2 with
      | some sub =>
        simp only [ddset2_group _ _ _ _ (h2b (key, v) List.mem_cons_self sub hsub), ↓reduceIte]
        refine ih { st with nested := st.nested ++ [((partitionKey key).1, sub, v)] } hnd.2
          (fun kv' hm => h2a kv' (List.mem_cons_of_mem _ hm)) fun kv' hm sub' hs' => ?_
        simp only [List.map_append, List.map_cons, List.map_nil, List.mem_append, List.mem_singleton, not_or]
        refine ⟨h2b kv' (List.mem_cons_of_mem _ hm) sub' hs', fun heq => hlater kv' hm ?_⟩
        rw [Prod.ext_iff, hs', hsub, (Prod.mk.inj heq).1, (Prod.mk.inj heq).2]
        exact ⟨rfl, rfl⟩
      | none =>
        simp only [dset_eq, dset_snoc _ _ _ (h2a (key, v) List.mem_cons_self hsub), ↓reduceIte]
        refine ih { st with plain := st.plain ++ [((partitionKey key).1, v)],
                            loc := upsert st.loc (partitionKey key).1 v } hnd.2
          (fun kv' hm hs' => ?_) fun kv' hm => h2b kv' (List.mem_cons_of_mem _ hm)
        simp only [keys, List.map_append, List.map_cons, List.map_nil, List.mem_append, List.mem_singleton, not_or]
        exact ⟨h2a kv' (List.mem_cons_of_mem _ hm) hs', fun heq => hlater kv' hm (Prod.ext heq (hs'.trans hsub.symm))⟩

theorem loop2 (c : List (Nat × Store)) (body : String × Val → Unit → Q.M Unit)
    (hb : ∀ (e : Est) k v, k ∈ keys e.params →
      body (k, v) () (toWorld e c) = (.ok (), toWorld (setAttr e k v) c)) :
    ∀ (kvs : List (String × Val)) (e : Est), (∀ kv ∈ kvs, kv.1 ∈ keys e.params) →
    Q.Py.forEach kvs () body (toWorld e c) = (.ok (), toWorld (assignAll e kvs) c) := by
  intro kvs
  induction kvs with
  | nil => intro e _; rfl
  | cons kv rest ih =>
    intro e h
    obtain ⟨k, v⟩ := kv
    have hk := h (k, v) List.mem_cons_self
    simp only [Q.Py.forEach, Q.Py.bind, hb e k v hk, assignAll, List.foldl_cons]
    apply ih
    intro kv' hm
    rw [setAttr_param v hk]
    simp only [keys_assign]
    exact h kv' (List.mem_cons_of_mem _ hm)

theorem loop3 (e : Est) (n : List (String × String × Val)) (body : String × Store → Unit → Q.M Unit)
    (hb : ∀ g sub c, body (g, sub) () (toWorld e c) =
      match get? e.params g with
      | some v => Q.logSetParams v sub (toWorld e c)
      | none => (.error .key, toWorld e c)) :
    ∀ (gs : List String) (c : List (Nat × Store)), (∀ g ∈ gs, g ∈ keys e.params) →
    Q.Py.forEach (gs.map (fun g => (g, subOf n g))) () body (toWorld e c) =
      (match (runNested.go e.params n gs).2 with
        | none => .ok ()
        | some x => .error x, toWorld e (c ++ (runNested.go e.params n gs).1)) := by
  intro gs
  induction gs with
  | nil => intro c _; simp [Q.Py.forEach, Q.Py.pure, runNested.go]
  | cons g gs ih =>
    intro c h
    obtain ⟨v, hv⟩ := Option.isSome_iff_exists.mp (get?_isSome_iff.mpr (h g List.mem_cons_self))
    simp only [List.map_cons, Q.Py.forEach, Q.Py.bind, hb, runNested.go, hv]
    cases v with
    | mod id =>
      simp only [Q.logSetParams, toWorld] at ih ⊢
      rw [ih (c ++ [(id, subOf n g)]) fun g' hm => h g' (List.mem_cons_of_mem _ hm), List.append_assoc]
      rfl
    | _ => simp [Q.logSetParams, toWorld]

/-- the result of a `set_params` call of the model as the outcome of the generated method started with the call log `c` -/
def ofSetRes (r : SetRes) (c : List (Nat × Store)) : Except Err Unit × Q.World :=
  (match r.err with
    | none => .ok ()
    | some x => .error x, toWorld r.est (c ++ r.delegated))

/-- one pass of the second loop: `setattr(self, k, v)`, then the same write again through the alias `valid_params` -/
theorem body2_step (c : List (Nat × Store)) (e : Est) (k : String) (v : Val) (hk : k ∈ keys e.params) :
    (do BaseART.__setattr__ k (Q.Slot.val v); Q.paramsSetitem k v; pure () : Q.M Unit) (toWorld e c)
      = (.ok (), toWorld (setAttr e k v) c) := by
  have hs := get?_isSome_iff.mpr hk
  simp only [bind_apply, setattr_spec e c k v (Or.inr hs), pure_apply]
  rw [setAttr_param v hk]
  have h1 : assign e.params k v = Q.dset e.params k v := by rw [dset_eq, upsert_of_mem v hk]
  simp [Q.paramsSetitem, toWorld, toSelf, Q.dget, Q.dset, h1, dset_dset_same]

/-- one pass of the third loop: `valid_params[g].set_params(**sub)` with the logging stand-in -/
theorem body3_step (e : Est) (g : String) (sub : Store) (c : List (Nat × Store)) :
    (do Q.logSetParams (← Q.Py.lift (Q.getitem (← Q.selfParams) g)) sub; pure () : Q.M Unit) (toWorld e c)
      = match get? e.params g with
        | some v => Q.logSetParams v sub (toWorld e c)
        | none => (.error .key, toWorld e c) := by
  simp only [bind_apply, selfParams_toWorld, Q.Py.lift, Q.getitem, dget_eq, pure_apply]
  cases get? e.params g with
  | none => rfl
  | some v =>
    dsimp only
    rcases Q.logSetParams v sub (toWorld e c) with ⟨r | r, w'⟩ <;> rfl

theorem set_params_spec (vp : Store → Except Err Unit) (checks : List Check) (e : Est) (c : List (Nat × Store))
    (kvs : List (String × Val)) (hn : (kvs.map (fun kv => partitionKey kv.1)).Nodup)
    (hvp : vp (setLoop e.params ⟨e.params, [], []⟩ kvs).1.loc
      = vpOf checks (setLoop e.params ⟨e.params, [], []⟩ kvs).1.loc) :
    BaseART.set_params vp Q.logSetParams kvs (toWorld e c) = ofSetRes (setParams checks e kvs) c := by
  cases hkvs : kvs with
  | nil => simp [BaseART.set_params, Q.dictTruth, setParams, ofSetRes, pure_apply]
  | cons kv0 rest0 =>
    rw [← hkvs]
    have hne : kvs.isEmpty = false := by rw [hkvs]; rfl
    obtain ⟨hpk, hnk⟩ := setLoop_known_nil e.params e.params kvs
    simp only [BaseART.set_params, Q.dictTruth, hne, Bool.not_false, Bool.not_true, Bool.false_eq_true, if_false,
      bind_apply, get_params_spec, selfParams_toWorld, Q.items, setParams, ofSetRes]
    rw [show ([] : List (String × Store)) = group [] from rfl,
      loop1 e.params (toWorld e c) _ ?hb kvs ⟨e.params, [], []⟩ hn (fun _ _ _ => List.not_mem_nil)
        (fun _ _ _ _ => List.not_mem_nil)]
    case hb =>
      intro key v lp np pp
      simp only [partition_eq, bind_apply, selfParams_toWorld, dhas_eq]
      cases (get? e.params (partitionKey key).1).isSome with
      | false => rfl
      | true => cases (partitionKey key).2 <;> rfl
    generalize setLoop e.params ⟨e.params, [], []⟩ kvs = L at hvp hpk hnk ⊢
    obtain ⟨st, _ | x⟩ := L
    · simp only [Q.Py.lift, hvp, vpOf]
      cases validate checks st.loc with
      | some x => simp
      | none =>
        have hnested : ∀ g ∈ eraseDupKeys (st.nested.map (·.1)), g ∈ keys (assignAll e st.plain).params := by
          intro g hg
          obtain ⟨t, ht, rfl⟩ := List.mem_map.mp (mem_eraseDupKeys.mp hg)
          rw [(assignAll_inv e st.plain hpk).1]
          exact hnk t ht
        dsimp only
        rw [loop2 c _ (body2_step c) st.plain e hpk]
        dsimp only [group]
        rw [loop3 _ st.nested _ (body3_step _) _ c hnested, runNested]
        cases (runNested.go (assignAll e st.plain).params st.nested (eraseDupKeys (st.nested.map (·.1)))).2 <;> rfl
    · simp

/-! #### keyword names are distinct (a Python `**kwargs` dict): the hypothesis of `set_params_spec` -/

theorem partitionKey_injective : Function.Injective partitionKey := by
  intro s1 s2 h
  simp only [partitionKey, Prod.mk.injEq] at h
  obtain ⟨h1, h2⟩ := h
  have e1 := String.ofList_injective h1
  have e2 : (Art.Params.partitionChars s1.toList).2 = (Art.Params.partitionChars s2.toList).2 := by
    cases ha : (Art.Params.partitionChars s1.toList).2 <;> cases hb : (Art.Params.partitionChars s2.toList).2 <;>
      simp only [ha, hb, Option.map_some, Option.map_none, Option.some.injEq, reduceCtorEq] at h2 ⊢
    exact String.ofList_injective h2
  apply String.toList_injective
  rw [partitionChars_recon s1.toList, partitionChars_recon s2.toList, e1, e2]

theorem nodup_partition_of_nodup_names (kvs : List (String × Val)) (h : (keys kvs).Nodup) :
    (kvs.map (fun kv => partitionKey kv.1)).Nodup := by
  rw [show kvs.map (fun kv => partitionKey kv.1) = (keys kvs).map partitionKey by rw [keys, List.map_map]; rfl]
  exact List.Pairwise.map _ (fun _ _ hne e => hne (partitionKey_injective e)) h

/-- **`BaseART.set_params`, generated = model**, for a `validate_params` that is the model's `validate checks`
(all classes of the table but GaussianART), for every estimator, every call log and every keyword list with
distinct names. -/
theorem set_params_eq (vp : Store → Except Err Unit) (checks : List Check) (hvp : ∀ p, vp p = vpOf checks p)
    (e : Est) (c : List (Nat × Store)) (kvs : List (String × Val)) (hn : (keys kvs).Nodup) :
    BaseART.set_params vp Q.logSetParams kvs (toWorld e c) = ofSetRes (setParams checks e kvs) c :=
  set_params_spec vp checks e c kvs (nodup_partition_of_nodup_names kvs hn) (hvp _)

/-- the generated `validate_params` of the seven classes whose check list the model has completely -/
theorem validate_table :
    (∀ p, ART1.validate_params p = vpOf art1.checks p) ∧ (∀ p, ART2A.validate_params p = vpOf art2a.checks p) ∧
    (∀ p, FuzzyART.validate_params p = vpOf fuzzyART.checks p) ∧
    (∀ p, HypersphereART.validate_params p = vpOf hypersphereART.checks p) ∧
    (∀ p, EllipsoidART.validate_params p = vpOf ellipsoidART.checks p) ∧
    (∀ p, BayesianART.validate_params p = vpOf bayesianART.checks p) ∧
    (∀ p, QuadraticNeuronART.validate_params p = vpOf quadraticNeuronART.checks p) :=
  ⟨validate_ART1, validate_ART2A, validate_FuzzyART, validate_HypersphereART, validate_EllipsoidART,
    validate_BayesianART, validate_QuadraticNeuronART⟩

/-- GaussianART: generated = model whenever the merged dict `local_params` passes the entry check the model
does not have (in particular whenever `sigma_init` is not passed and the estimator's own is positive) -/
theorem set_params_GaussianART (e : Est) (c : List (Nat × Store)) (kvs : List (String × Val))
    (hn : (keys kvs).Nodup)
    (hpos : sigmaPositive (setLoop e.params ⟨e.params, [], []⟩ kvs).1.loc = .ok ()) :
    BaseART.set_params GaussianART.validate_params Q.logSetParams kvs (toWorld e c)
      = ofSetRes (setParams gaussianART.checks e kvs) c :=
  set_params_spec _ _ e c kvs (nodup_partition_of_nodup_names kvs hn) (validate_GaussianART_of_positive _ hpos)

/-! ### the C19 theorems on the generated methods -/

/-- C19 `set_get_noop`: `est.set_params(**est.get_params())`, both generated, returns normally and leaves a valid
estimator (and the call log) exactly as it was. -/
theorem gen_set_get_noop (vp : Store → Except Err Unit) (checks : List Check) (hvp : ∀ p, vp p = vpOf checks p)
    (e : Est) (hwf : e.WF) (hv : validate checks e.params = none) (c : List (Nat × Store)) :
    ∃ ps, BaseART.get_params true (toWorld e c) = (.ok ps, toWorld e c) ∧
      BaseART.set_params vp Q.logSetParams ps (toWorld e c) = (.ok (), toWorld e c) := by
  refine ⟨getParams e, get_params_spec e c true, ?_⟩
  have hn : (keys (getParams e)).Nodup := hwf.nodup
  rw [set_params_eq vp checks hvp e c (getParams e) hn, C19.set_get_noop checks e hwf hv]
  simp [ofSetRes]

/-- C19 `set_rejection_leaves_state`: whatever the generated `set_params` raises — `ValueError` for an unknown
name, anything `validate_params` raises — except the `AttributeError` of the nested routing, the object and the call
log are exactly what they were: nothing was assigned before the rejection. -/
theorem gen_rejected_unchanged (vp : Store → Except Err Unit) (checks : List Check)
    (hvp : ∀ p, vp p = vpOf checks p) (e : Est) (c : List (Nat × Store)) (kvs : List (String × Val))
    (hn : (keys kvs).Nodup) (x : Err) (w' : Q.World)
    (h : BaseART.set_params vp Q.logSetParams kvs (toWorld e c) = (.error x, w')) (hx : x ≠ .attr) :
    w' = toWorld e c := by
  rw [set_params_eq vp checks hvp e c kvs hn] at h
  simp only [ofSetRes, Prod.mk.injEq] at h
  obtain ⟨h1, h2⟩ := h
  have herr : (setParams checks e kvs).err = some x := by
    cases he : (setParams checks e kvs).err with
    | none => rw [he] at h1; cases h1
    | some y => rw [he] at h1; cases h1; rfl
  obtain ⟨h3, h4⟩ := C19.set_rejection_leaves_state checks e kvs x herr hx
  rw [← h2, h3, h4, List.append_nil]

/-- C19 `set_rejects_unknown`: an unknown name anywhere in the call makes the generated `set_params` raise
`ValueError`, and the object is untouched. -/
theorem gen_unknown_rejected (vp : Store → Except Err Unit) (checks : List Check)
    (hvp : ∀ p, vp p = vpOf checks p) (e : Est) (c : List (Nat × Store)) (kvs : List (String × Val))
    (hn : (keys kvs).Nodup) (h : ∃ kv ∈ kvs, (partitionKey kv.1).1 ∉ keys e.params) :
    BaseART.set_params vp Q.logSetParams kvs (toWorld e c) = (.error .value, toWorld e c) := by
  have herr := C19.set_rejects_unknown checks e kvs h
  obtain ⟨h3, h4⟩ := C19.set_rejection_leaves_state checks e kvs .value herr (by decide)
  rw [set_params_eq vp checks hvp e c kvs hn]
  simp [ofSetRes, herr, h3, h4]

/-- C19 `set_params_eq_construct`: for every class of the table, the generated `set_params` with a full set of
new values turns the object constructed with `p` into exactly the object constructed with `p'`. -/
theorem gen_set_params_eq_construct (vp : Store → Except Err Unit) :
    ∀ cs ∈ classTable, (∀ p, vp p = vpOf cs.checks p) → ∀ (p p' : Store) (e e' : Est) (c : List (Nat × Store)),
    construct cs p = .ok e → construct cs p' = .ok e' → (keys p').Nodup →
    (∀ a ∈ cs.args, (get? p' a).isSome) →
    BaseART.set_params vp Q.logSetParams p' (toWorld e c) = (.ok (), toWorld e' c) := by
  intro cs hcs hvp p p' e e' c h h' hn htot
  rw [set_params_eq vp cs.checks hvp e c p' hn, C19.set_params_eq_construct cs hcs p p' e e' h h' hn htot]
  simp [ofSetRes]

/-- the same, entirely on generated definitions, for FuzzyART: construct, then `set_params` with new values
= construct with the new values. -/
theorem gen_FuzzyART_set_eq_init (rho alpha beta rho' alpha' beta' : Val) (c : List (Nat × Store))
    (h1 : (FuzzyART.__init__ rho alpha beta ⟨[], c⟩).1 = .ok ())
    (h2 : (FuzzyART.__init__ rho' alpha' beta' ⟨[], c⟩).1 = .ok ()) :
    BaseART.set_params FuzzyART.validate_params Q.logSetParams
        [("rho", rho'), ("alpha", alpha'), ("beta", beta')] (FuzzyART.__init__ rho alpha beta ⟨[], c⟩).2
      = (.ok (), (FuzzyART.__init__ rho' alpha' beta' ⟨[], c⟩).2) := by
  have hb : ∀ r a b : Val, bindArgs fuzzyART [("rho", r), ("alpha", a), ("beta", b)]
      = some [("rho", r), ("alpha", a), ("beta", b)] := fun _ _ _ => rfl
  rw [init_FuzzyART _ rho alpha beta c (hb _ _ _)] at h1 ⊢
  rw [init_FuzzyART _ rho' alpha' beta' c (hb _ _ _)] at h2 ⊢
  cases hc : construct fuzzyART [("rho", rho), ("alpha", alpha), ("beta", beta)] with
  | error x => rw [hc] at h1; cases h1
  | ok e =>
    cases hc' : construct fuzzyART [("rho", rho'), ("alpha", alpha'), ("beta", beta')] with
    | error x => rw [hc'] at h2; cases h2
    | ok e' =>
      have hmem : fuzzyART ∈ classTable := by simp only [classTable, List.mem_cons, true_or, or_true]
      have hnd : (keys [("rho", rho'), ("alpha", alpha'), ("beta", beta')]).Nodup := (C19.table_wf _ hmem).1
      exact gen_set_params_eq_construct _ fuzzyART hmem validate_FuzzyART _ _ e e' c hc hc' hnd
        (fun _ ha => get?_isSome_iff.mpr ha)

/-- C19 `attr_mirrors`: reading a parameter name as an attribute (`__dict__`, then the generated `__getattr__`)
gives the value the generated `get_params` holds; nothing is written. -/
theorem gen_attr_mirrors (e : Est) (hwf : e.WF) (c : List (Nat × Store)) (k : String)
    (hk : k ∈ keys (getParams e)) (hkp : k ≠ "params") :
    ∃ ps v, BaseART.get_params true (toWorld e c) = (.ok ps, toWorld e c) ∧ Q.dget ps k = some v ∧
      Q.pyGetattr BaseART.__getattr__ k (toWorld e c) = (.ok (.val v), toWorld e c) := by
  obtain ⟨v, hv, ha⟩ := C19.attr_mirrors e hwf k hk
  refine ⟨getParams e, v, get_params_spec e c true, by rw [dget_eq]; exact hv, ?_⟩
  rw [pyGetattr_spec e c k hkp, ha]

/-- C19 `attr_write_mirrors`: writing a parameter name as an attribute (the generated `__setattr__`) writes the
parameter store: afterwards the generated `get_params` and the attribute both show the new value. -/
theorem gen_attr_write_mirrors (e : Est) (hwf : e.WF) (c : List (Nat × Store)) (k : String) (v : Val)
    (hk : k ∈ keys (getParams e)) (hkp : k ≠ "params") :
    ∃ w' ps, BaseART.__setattr__ k (.val v) (toWorld e c) = (.ok (), w') ∧
      BaseART.get_params true w' = (.ok ps, w') ∧ Q.dget ps k = some v ∧
      Q.pyGetattr BaseART.__getattr__ k w' = (.ok (.val v), w') := by
  obtain ⟨h1, h2, _, _⟩ := C19.attr_write_mirrors e hwf k v hk
  refine ⟨toWorld (setAttr e k v) c, getParams (setAttr e k v), setattr_spec e c k v (Or.inl hkp),
    get_params_spec _ c true, by rw [dget_eq]; exact h1, ?_⟩
  rw [pyGetattr_spec _ c k hkp, h2]

/-! ### non-vacuity: the generated code run on concrete data -/

/-- the exception raised (if any) and the final state -/
def outcome (r : Except Err Unit × Q.World) : Option Err × Q.World :=
  (match r.1 with
    | .ok _ => none
    | .error x => some x, r.2)

/-- `FuzzyART(0.5, 0.0, 1.0)` -/
example : outcome (FuzzyART.__init__ (.flt (mkRat 1 2)) (.flt 0) (.flt 1) ⟨[], []⟩)
    = (none, toWorld C19.fuzzyHalf []) := by decide +kernel

/-- `FuzzyART(0.5, 0.0, 0.0)`: `beta > 0` fails, nothing was stored -/
example : outcome (FuzzyART.__init__ (.flt (mkRat 1 2)) (.flt 0) (.flt 0) ⟨[], []⟩)
    = (some .assert, ⟨[], []⟩) := by decide +kernel

/-- `GaussianART(0.5, np.array([0.5, 0.0]))`: the entry check the model lacks rejects -/
example : outcome (GaussianART.__init__ (.flt (mkRat 1 2)) (.arr [mkRat 1 2, 0]) (.flt (mkRat 1 10)) ⟨[], []⟩)
    = (some .assert, ⟨[], []⟩) := by decide +kernel

/-- a rejected value and a valid name before an unknown one (the former defect F25): nothing is assigned -/
example :
    outcome (BaseART.set_params FuzzyART.validate_params Q.logSetParams [("rho", .flt 2)]
      (toWorld C19.fuzzyHalf [])) = (some .assert, toWorld C19.fuzzyHalf []) ∧
    outcome (BaseART.set_params FuzzyART.validate_params Q.logSetParams
      [("alpha", .flt (mkRat 1 4)), ("bogus", .flt 1)] (toWorld C19.fuzzyHalf []))
        = (some .value, toWorld C19.fuzzyHalf []) := by decide +kernel

/-- accepted plain names are assigned; nested names are grouped and routed to the (new) module -/
example :
    outcome (BaseART.set_params (fun _ => .ok ()) Q.logSetParams
      [("a__r", .flt (mkRat 1 2)), ("k", .int 3), ("b__x", .int 1), ("a__s", .flt 1), ("b", .mod 9)]
      (toWorld ⟨"M", [("a", .mod 7), ("k", .int 2), ("b", .mod 8)], [("n_", .int 0)]⟩ []))
    = (none, toWorld ⟨"M", [("a", .mod 7), ("k", .int 3), ("b", .mod 9)], [("n_", .int 0)]⟩
        [(7, [("r", .flt (mkRat 1 2)), ("s", .flt 1)]), (9, [("x", .int 1)])]) := by decide +kernel

/-- a nested name on a value that is no estimator: `AttributeError` after the plain names were assigned -/
example :
    outcome (BaseART.set_params FuzzyART.validate_params Q.logSetParams
      [("rho", .flt (mkRat 1 4)), ("beta__x", .flt 1)] (toWorld C19.fuzzyHalf []))
    = (some .attr, toWorld ⟨"FuzzyART", [("rho", .flt (mkRat 1 4)), ("alpha", .flt 0), ("beta", .flt 1)], initAttrs⟩ [])
      := by decide +kernel

/-- attribute access mirrors the parameters -/
example :
    (Q.pyGetattr BaseART.__getattr__ "rho" (toWorld C19.fuzzyHalf [])).1 = .ok (.val (.flt (mkRat 1 2))) ∧
    (Q.pyGetattr BaseART.__getattr__ "sample_counter_" (toWorld C19.fuzzyHalf [])).1 = .ok (.val (.int 0)) ∧
    (Q.pyGetattr BaseART.__getattr__ "nope" (toWorld C19.fuzzyHalf [])).1 = .error .attr := ⟨rfl, rfl, rfl⟩

end Art.GenSpec.Params
