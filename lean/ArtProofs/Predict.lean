/-
ArtProofs.Predict — prediction is a pure, row-wise arg-max.
-/
import ArtProofs.Map
import Mathlib.Data.List.Perm.Basic

namespace Art

set_option linter.unusedSectionVars false

variable {X Wt α μ θ : Type} [LinearOrder α]

/-- `step_pred` returns an existing category whenever the model has one. -/
theorem stepPred_lt (K : Kernel X Wt α μ) (W : List Wt) (x : X) (k : Nat)
    (h : stepPred K W x = some k) : k < W.length := by
  have := argmaxNp_lt_length h
  rwa [activations, List.length_map] at this

theorem stepPred_isSome (K : Kernel X Wt α μ) (W : List Wt) (x : X) (h : W ≠ []) :
    (stepPred K W x).isSome :=
  Option.isSome_iff_exists.mpr (argmaxNp_isSome fun e => h (List.map_eq_nil_iff.mp e))

theorem predict_append (K : Kernel X Wt α μ) (W : List Wt) (xs ys : List X) :
    predict K W (xs ++ ys) = predict K W xs ++ predict K W ys :=
  List.map_append

theorem predict_perm (K : Kernel X Wt α μ) (W : List Wt) {xs ys : List X} (h : xs.Perm ys) :
    (predict K W xs).Perm (predict K W ys) := h.map _

theorem predict_replicate (K : Kernel X Wt α μ) (W : List Wt) (x : X) (n : Nat) :
    predict K W (List.replicate n x) = List.replicate n (stepPred K W x) :=
  List.map_replicate

/-! ### SimpleARTMAP prediction -/

theorem smapStep_a (K : Kernel X Wt α μ) (cfg : SearchCfg μ θ) (th0 : θ)
    (s : SMapState Wt) (xy : X × Nat) :
    (smapStep K cfg th0 s xy).a = trainStep K cfg th0 (fun _ _ => mapVeto s.map xy.2) s.a xy.1 :=
  rfl

theorem smapPartialFit_consistent (K : Kernel X Wt α μ) (cfg : SearchCfg μ θ) (th0 : θ)
    (s : SMapState Wt) (xys : List (X × Nat)) (h : Consistent s.a) :
    Consistent (smapPartialFit K cfg th0 s xys).a :=
  foldl_inv (fun s => Consistent s.a) _ xys s
    (fun s xy _ hs => smapStep_a K cfg th0 s xy ▸ trainStep_consistent K cfg th0 _ s.a xy.1 hs) h

/-- Every mapped class was supplied as a training target. -/
theorem map_values_seen {s : SMapState Wt} (hm : MapInv s) (hc : Consistent s.a)
    (c y : Nat) (hlt : c < s.a.W.length) (h : mapGet s.map c = some y) : y ∈ s.labelsB := by
  -- `c` labels some sample, whose target the map sends it to
  have key : ∀ {la lb : List Nat}, List.Forall₂ (fun ca y => mapGet s.map ca = some y) la lb → c ∈ la → y ∈ lb := by
    intro la lb hf
    induction hf with
    | nil => exact fun hin => nomatch hin
    | cons hab _ ih =>
      intro hin
      rcases List.mem_cons.mp hin with rfl | hin
      · exact Option.some.inj (h.symm.trans hab) ▸ List.mem_cons_self
      · exact List.mem_cons_of_mem _ (ih hin)
  exact key hm.agree (hc.all_used c hlt)

/-- A SimpleARTMAP prediction is the map of the A-side prediction, is defined
whenever the model has a category, and is a class seen in training. -/
theorem smapStepPred_spec (K : Kernel X Wt α μ) {s : SMapState Wt} (hm : MapInv s)
    (hc : Consistent s.a) (x : X) (hne : s.a.W ≠ []) :
    ∃ c y, stepPred K s.a.W x = some c ∧ mapGet s.map c = some y ∧
      smapStepPred K s x = some (c, y) ∧ y ∈ s.labelsB := by
  obtain ⟨c, hcq⟩ := Option.isSome_iff_exists.mp (stepPred_isSome K s.a.W x hne)
  have hlt := stepPred_lt K s.a.W x c hcq
  obtain ⟨y, hy⟩ := hm.total c hlt
  exact ⟨c, y, hcq, hy, by rw [smapStepPred, hcq]; exact congrArg (Option.map _) hy, map_values_seen hm hc c y hlt hy⟩

end Art
