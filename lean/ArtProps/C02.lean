/-
C02 — Categories summarise exactly their members and respect the vigilance bound.

Field theorems hold over every linearly ordered field (ℚ as executed, ℝ as the
literature means it); float rounding is outside the theorem (the correspondence
measures it).  The Euclidean containment clause of Hypersphere ART ("each new
sphere contains the old one") is stated over the field on the radius rule together
with the scalar identity behind `‖c' − c‖ = R' − R` (`sphere_contains_old_sq`), and in a real normed space in
`section Euclid`; the last section has the Gaussian mean and count.
-/
import ArtProofs.Kernels
import ArtProofs.Sphere

namespace Art.C02

set_option linter.unusedSectionVars false

variable {X Wt μ θ : Type}

section Generic
variable {α : Type} [LinearOrder α]

/-- **Exact summary, any module.**  After one training pass from an empty model
(any mode, epsilon, reset function), the weight stored at index `k` is the
module's learning rule folded over the samples labelled `k`, in presentation
order, started from the new-category rule on the first of them (an equation of
options: `foldMembers` of no members is `none`). -/
theorem categories_are_member_folds (K : Kernel X Wt α μ) (cfg : SearchCfg μ θ) (th0 : θ)
    (veto : ArtState Wt → X → Nat → Bool) (xs : List X) (k : Nat) :
    (partialFit K cfg th0 veto {} xs).W[k]? =
      foldMembers K (members xs (partialFit K cfg th0 veto {} xs).labels k) :=
  (weights_are_member_folds K cfg th0 veto xs).2 k

end Generic

section Field
variable {α : Type} [Field α] [LinearOrder α] [IsStrictOrderedRing α]

/-- meet (component-wise minimum) of a non-empty list of vectors: the bounding
box of complement-coded samples -/
def meetAll : List (List α) → Option (List α)
  | [] => none
  | m :: ms => some (ms.foldl (fun w x => vmin x w) m)

set_option linter.unusedVariables false in
/-- With fast learning the Fuzzy ART fold over members is their meet.  The common length `L` is not used. -/
theorem fuzzy_fold_is_meet (alpha d : α) (L : Nat) (ms : List (List α)) (hL : ∀ m ∈ ms, m.length = L) :
    foldMembers (fuzzyKernel alpha 1 d) ms = meetAll ms := by
  cases ms with
  | nil => rfl
  | cons m ms => simp only [foldMembers, meetAll, fuzzyKernel, fuzzyNew, fuzzyUpdate_one]

/-- **Fuzzy ART box = bounding box of its members** (learning rate 1, one pass). -/
theorem fuzzy_box_exact (alpha d : α) (cfg : SearchCfg α θ) (th0 : θ)
    (veto : ArtState (List α) → List α → Nat → Bool) (L : Nat) (xs : List (List α))
    (hL : ∀ x ∈ xs, x.length = L) (k : Nat) :
    (partialFit (fuzzyKernel alpha 1 d) cfg th0 veto {} xs).W[k]? =
      meetAll (members xs (partialFit (fuzzyKernel alpha 1 d) cfg th0 veto {} xs).labels k) := by
  rw [categories_are_member_folds]
  apply fuzzy_fold_is_meet alpha d L
  intro m hm
  simp only [members, List.mem_map, List.mem_filter] at hm
  obtain ⟨p, ⟨hp, _⟩, rfl⟩ := hm
  exact hL _ (List.of_mem_zip hp).1

theorem foldl_vmin_le (L : Nat) : ∀ (ms : List (List α)) (a : List α), a.length = L → (∀ x ∈ ms, x.length = L) →
    ∀ m ∈ a :: ms, vle (ms.foldl (fun w x => vmin x w) a) m
  | [], a, _, _, m, hm => List.mem_singleton.1 hm ▸ vle_refl a
  | x :: xs, a, ha, hx, m, hm => by
    have hxa : x.length = a.length := (hx x List.mem_cons_self).trans ha.symm
    have ih := foldl_vmin_le L xs (vmin x a) ((vmin_len x a hxa).trans ha)
      (fun y hy => hx y (List.mem_cons_of_mem x hy))
    rcases List.mem_cons.1 hm with rfl | hm
    · exact vle_trans (ih _ List.mem_cons_self) (vminLeRight x m hxa)
    rcases List.mem_cons.1 hm with rfl | hm
    · exact vle_trans (ih _ List.mem_cons_self) (vminLeLeft m a hxa)
    · exact ih m (List.mem_cons_of_mem _ hm)

/-- the meet is a lower bound of every member … -/
theorem meetAll_le (L : Nat) (ms : List (List α)) (w : List α) (hL : ∀ m ∈ ms, m.length = L)
    (h : meetAll ms = some w) : ∀ m ∈ ms, vle w m := by
  cases ms with
  | nil => cases h
  | cons m0 ms =>
    cases h
    exact foldl_vmin_le L ms m0 (hL m0 List.mem_cons_self) (fun x hx => hL x (List.mem_cons_of_mem m0 hx))

theorem le_foldl_vmin {z : List α} : ∀ (ms : List (List α)) (a : List α), vle z a → (∀ x ∈ ms, vle z x) →
    vle z (ms.foldl (fun w x => vmin x w) a)
  | [], _, ha, _ => ha
  | x :: xs, a, ha, hx =>
    le_foldl_vmin xs (vmin x a) (le_vmin (hx x List.mem_cons_self) ha) (fun y hy => hx y (List.mem_cons_of_mem x hy))

/-- … and the greatest one: the box is the *smallest* box containing the members. -/
theorem meetAll_greatest (ms : List (List α)) (w z : List α)
    (h : meetAll ms = some w) (hz : ∀ m ∈ ms, vle z m) : vle z w := by
  cases ms with
  | nil => cases h
  | cons m0 ms =>
    cases h
    exact le_foldl_vmin ms m0 (hz m0 List.mem_cons_self) (fun x hx => hz x (List.mem_cons_of_mem m0 hx))

set_option linter.unusedVariables false in
/-- **Weights only shrink** (regions only grow): one Fuzzy ART step leaves every
weight component-wise ≤ its previous value, for every learning rate `β ≥ 0` (`β ≤ 1` is not used). -/
theorem fuzzy_weights_antitone (alpha β d : α) (hβ0 : 0 ≤ β) (hβ1 : β ≤ 1)
    (cfg : SearchCfg α θ) (th0 : θ) (veto : Nat → Bool) (s : ArtState (List α)) (x : List α)
    (hlen : ∀ w ∈ s.W, w.length = x.length) (k : Nat) (w : List α) (hk : s.W[k]? = some w) :
    ∃ w', (stepFit (fuzzyKernel alpha β d) cfg th0 veto s x).1.W[k]? = some w' ∧ vle w' w := by
  have hkl : k < s.W.length := (List.getElem?_eq_some_iff.mp hk).1
  obtain ⟨_, _, ⟨hlt, w0, hw0, hW, _⟩ | ⟨_, hW, _⟩⟩ := stepFit_frame (fuzzyKernel alpha β d) cfg th0 veto s x
  · rw [hW]
    by_cases e : (stepFit (fuzzyKernel alpha β d) cfg th0 veto s x).2 = k
    · subst e
      rw [hk] at hw0
      cases hw0
      exact ⟨_, List.getElem?_set_self hkl, fuzzyUpdate_le β hβ0 x w (hlen w (List.mem_of_getElem? hk)).symm⟩
    · exact ⟨w, by rw [List.getElem?_set_ne e]; exact hk, vle_refl w⟩
  · rw [hW]
    exact ⟨w, by rw [List.getElem?_append_left hkl]; exact hk, vle_refl w⟩

/-- A sample once enclosed (`w ≤ x` component-wise on the complement-coded row,
equivalently `x ∧ w = w`) is never expelled: later weights are ≤ the old one. -/
theorem enclosed_stays_enclosed (x w w' : List α) (henc : vle w x) (hshrink : vle w' w) :
    vle w' x ∧ vmin x w' = w' :=
  ⟨vle_trans hshrink henc, vmin_eq_right_of_vle (vle_trans hshrink henc)⟩

theorem le_trackScalar {ρ eps top th m : α} (heps : 0 ≤ eps) (htop : ρ ≤ top) (hth : ρ ≤ th) (hm : th ≤ m) :
    ∀ {mode : MT}, mode ≠ .minus → ρ ≤ trackScalar mode (· + eps) (· - eps) top th m
  | .plus, _ => (hth.trans hm).trans (le_add_of_nonneg_right heps)
  | .minus, hmode => absurd rfl hmode
  | .zero, _ => hth.trans hm
  | .one, _ => htop
  | .tilde, _ => hth

/-- **Invariants of the weights under one training step**, in every mode that never lowers the threshold (no
reset function, MT+, MT0, MT1, MT~ with `eps ≥ 0`): a property that new categories have, and that learning
gives to any category whose match value is at least the configured vigilance, holds of all weights after
the step if it held before. -/
theorem stepFit_weights_invariant (K : Kernel X Wt α α) (ρ eps top : α) (heps : 0 ≤ eps)
    (htop : ρ ≤ top) (mode : MT) (hmode : mode ≠ .minus) (veto : Nat → Bool) (s : ArtState Wt) (x : X)
    (P : Wt → Prop) (hnew : P (K.newW x)) (hupd : ∀ w ∈ s.W, ρ ≤ K.matchv x w → P (K.update x w))
    (hinv : ∀ w ∈ s.W, P w) :
    ∀ w ∈ (stepFit K (scalarCfg mode false (· + eps) (· - eps) top) ρ veto s x).1.W, P w := by
  intro w' hw'
  rcases stepFit_cases K _ ρ veto s x with ⟨c, hc, hwin, e⟩ | e <;> rw [e] at hw'
  · -- the winner `c` learned the sample: it passed a threshold `th ≥ ρ`
    rcases List.mem_or_eq_of_mem_set hw' with h | rfl
    · exact hinv w' h
    · obtain ⟨th, hth, hp⟩ := stepSearch_winner_passes K _ ρ veto s.W x c (fun t => ρ ≤ t) le_rfl
        (fun th m hth hp => le_trackScalar heps htop hth (le_of_passesScalar hp) hmode) hwin
      have hm : matchAt K s.W x c = K.matchv x s.W[c] := by rw [matchAt, List.getElem?_eq_getElem hc]
      exact hupd _ (List.getElem_mem hc) (hth.trans (le_of_passesScalar (hm ▸ hp)))
  · rcases List.mem_append.1 hw' with h | h
    · exact hinv w' h
    · exact List.mem_singleton.1 h ▸ hnew

/-- **Vigilance bound** `|w| ≥ rho·d` is an invariant of training in every mode that
never lowers the threshold (no reset function, MT+, MT0, MT1, MT~ with `eps ≥ 0`):
if all stored weights satisfy it and the sample has `|x| = d` (exact complement
coding) then so do all weights after the step. -/
theorem fuzzy_size_bound_step (alpha β d ρ eps top : α) (hβ0 : 0 ≤ β) (hβ1 : β ≤ 1) (hd : 0 < d)
    (hρ1 : ρ ≤ 1) (heps : 0 ≤ eps) (htop : ρ ≤ top) (mode : MT) (hmode : mode ≠ .minus)
    (veto : Nat → Bool) (s : ArtState (List α)) (x : List α)
    (hx : vsum x = d) (hlen : ∀ w ∈ s.W, w.length = x.length)
    (hinv : ∀ w ∈ s.W, ρ * d ≤ vsum w) :
    ∀ w ∈ (stepFit (fuzzyKernel alpha β d)
        (scalarCfg mode false (· + eps) (· - eps) top) ρ veto s x).1.W, ρ * d ≤ vsum w :=
  stepFit_weights_invariant (fuzzyKernel alpha β d) ρ eps top heps htop mode hmode veto s x (ρ * d ≤ vsum ·)
    (hx.symm ▸ mul_le_of_le_one_left hd.le hρ1)
    (fun w hw hp => fuzzy_size_step β (ρ * d) hβ0 hβ1 x w (hlen w hw).symm ((fuzzyMatch_ge_iff d ρ hd x w).1 hp))
    hinv

/-- **MT− may break the bound** (finding F20, by design of MT−): the tracking
rule lowers the threshold below the configured vigilance.  Witness over ℚ: with
`rho = 1/2`, `eps = 1/2`, a vetoed best match `M = 1/2` drops the threshold to 0. -/
theorem mt_minus_lowers_threshold_counterexample :
    (scalarCfg (α := ℚ) .minus false (· + 1/2) (· - 1/2) 10).track (1/2) (1/2) < 1/2 := by
  norm_num [scalarCfg, trackScalar]

/-! ### Hypersphere ART radius rule -/

/-- radii never decrease and never exceed the largest distance seen at the step -/
theorem sphere_radius_monotone (β R dist : α) (hβ0 : 0 ≤ β) (hβ1 : β ≤ 1) :
    R ≤ R + β / (1 + 1) * (max R dist - R) ∧ R + β / (1 + 1) * (max R dist - R) ≤ max R dist :=
  sphere_radius_between β R dist hβ0 hβ1

/-- **Radius bound, one step**: if the category passed the vigilance test
`M ≥ rho` then its new radius is at most `r̂(1 − rho)`. -/
theorem sphere_radius_bound_step (β rhat ρ R dist : α) (hβ0 : 0 ≤ β) (hβ1 : β ≤ 1) (hr : 0 < rhat)
    (hpass : ρ ≤ 1 - max R (max R dist) / rhat) :
    R + β / (1 + 1) * (max R dist - R) ≤ rhat * (1 - ρ) :=
  le_trans (sphere_radius_between β R dist hβ0 hβ1).2 ((sphere_match_ge_iff rhat ρ R dist hr).mp hpass)

/-- the stored radius of an updated Hypersphere weight is the radius rule applied to the old radius -/
theorem sphUpdate_radius [Transc α] (β : α) (x w : List α) :
    sphRadius (sphUpdate β x w) =
      sphRadius w + β / (1 + 1) * (max (sphRadius w) (sphDist x w) - sphRadius w) :=
  List.getLastD_concat

/-- **Radius bound as an invariant of training** (Hypersphere ART, every mode that never lowers the
threshold: no reset function, MT+, MT0, MT1, MT~ with `eps ≥ 0`): if every stored radius is at most
`r̂(1 − rho)` then so is every radius after the step — new categories start at radius 0. -/
theorem sphere_radius_bound_invariant [Transc α] (alpha β rhat ρ eps top : α) (hβ0 : 0 ≤ β) (hβ1 : β ≤ 1)
    (hr : 0 < rhat) (hρ1 : ρ ≤ 1) (heps : 0 ≤ eps) (htop : ρ ≤ top) (mode : MT) (hmode : mode ≠ .minus)
    (veto : Nat → Bool) (s : ArtState (List α)) (x : List α)
    (hinv : ∀ w ∈ s.W, sphRadius w ≤ rhat * (1 - ρ)) :
    ∀ w ∈ (stepFit (sphKernel alpha β rhat)
        (scalarCfg mode false (· + eps) (· - eps) top) ρ veto s x).1.W, sphRadius w ≤ rhat * (1 - ρ) :=
  stepFit_weights_invariant (sphKernel alpha β rhat) ρ eps top heps htop mode hmode veto s x
    (sphRadius · ≤ rhat * (1 - ρ))
    ((List.getLastD_concat (l := x)).trans_le (mul_nonneg hr.le (sub_nonneg.2 hρ1)))
    (fun w _ hp => sphUpdate_radius β x w ▸ sphere_radius_bound_step β rhat ρ _ _ hβ0 hβ1 hr hp)
    hinv

set_option linter.unusedVariables false in
/-- Ellipsoid ART has the same radius rule with `M = 1 − (R + max(R,dist))/r̂`:
passing `M ≥ rho` bounds the new radius by `r̂(1 − rho)/2` (only `β ≤ 1` is used). -/
theorem ellipsoid_radius_bound_step (β rhat ρ R dist : α) (hβ0 : 0 ≤ β) (hβ1 : β ≤ 1) (hr : 0 < rhat)
    (hpass : ρ ≤ 1 - (R + max R dist) / rhat) :
    R + β / (1 + 1) * (max R dist - R) ≤ rhat * (1 - ρ) / (1 + 1) :=
  calc R + β / (1 + 1) * (max R dist - R)
      ≤ R + 1 / (1 + 1) * (max R dist - R) := lerp_mono (le_max_left R dist) (half_le_half hβ1)
    _ = (R + max R dist) / (1 + 1) := by ring
    _ ≤ rhat * (1 - ρ) / (1 + 1) :=
      div_le_div_of_nonneg_right ((le_one_sub_div_iff hr).1 hpass) one_add_one_pos.le

/-- The scalar half of "each new hypersphere contains the old one": the centre moves along `x − c` by the factor
`t = β/2·(1 − min(R,dist)/dist)`, and `t·dist = R' − R`.  (That `‖c' − c‖ = t·dist`, hence `‖c' − c‖ + R = R'`,
needs a norm: `sphere_contains_old`.) -/
theorem sphere_contains_old_sq (β R dist : α) (hd : 0 < dist) :
    β / (1 + 1) * (1 - min R dist / dist) * dist = (R + β / (1 + 1) * (max R dist - R)) - R := by
  rw [mul_assoc, one_sub_min_div_mul R hd.ne', add_sub_cancel_left]

end Field

/-! ### Hypersphere ART in a real normed space (the Euclidean clauses) -/

section Euclid
variable {V : Type} [NormedAddCommGroup V] [NormedSpace ℝ V]
open Art.Sphere

/-- **Each new hypersphere contains the old one**: every point within `R` of the old centre is
within `R'` of the new centre — for every learning rate `β ≥ 0`, any sample `x`, in any real
normed space (`EuclideanSpace ℝ (Fin d)` is the one the code computes in). -/
theorem sphere_contains_old (β R : ℝ) (c x y : V) (hβ : 0 ≤ β) (hR : 0 ≤ R) (hy : ‖y - c‖ ≤ R) :
    ‖y - newCentre β R c x‖ ≤ newRadius β R ‖x - c‖ :=
  new_sphere_contains_old β R c x y hβ hR hy

/-- With fast learning the new sphere contains the absorbed sample … -/
theorem sphere_contains_sample (R : ℝ) (c x : V) (hR : 0 ≤ R) :
    ‖x - newCentre 1 R c x‖ ≤ newRadius 1 R ‖x - c‖ :=
  new_sphere_contains_sample R c x hR

/-- … hence **a Hypersphere ART sphere contains all its members** (β = 1): the inductive step over
the stream of a category's members. -/
theorem sphere_contains_members (R : ℝ) (c x : V) (members : List V) (hR : 0 ≤ R)
    (h : ∀ m ∈ members, ‖m - c‖ ≤ R) :
    (∀ m ∈ x :: members, ‖m - newCentre 1 R c x‖ ≤ newRadius 1 R ‖x - c‖) ∧ 0 ≤ newRadius 1 R ‖x - c‖ :=
  ⟨sphere_contains_members_step R c x members hR h, newRadius_nonneg 1 R _ zero_le_one hR⟩

end Euclid

section Field
variable {α : Type} [Field α] [LinearOrder α] [IsStrictOrderedRing α]

/-! ### Gaussian / Bayesian ART: exact mean and count -/

/-- scalar running-moment fold: `(mean, n)` after absorbing the members one by one -/
def meanCountFold : List α → Option (α × α)
  | [] => none
  | m :: ms => some (ms.foldl (fun (p : α × α) x => ((1 - 1 / (p.2 + 1)) * p.1 + 1 / (p.2 + 1) * x, p.2 + 1)) (m, 1))

theorem meanCount_foldl : ∀ (ms : List α) (S n : α), 0 < n →
    ms.foldl (fun (p : α × α) x => ((1 - 1 / (p.2 + 1)) * p.1 + 1 / (p.2 + 1) * x, p.2 + 1)) (S / n, n) =
      ((S + ms.sum) / (n + ms.length), n + ms.length)
  | [], S, n, _ => by
    rw [List.foldl_nil, List.sum_nil, List.length_nil, Nat.cast_zero, add_zero, add_zero]
  | x :: xs, S, n, hn => by
    simp only [List.foldl_cons]
    rw [running_mean_scalar n S x hn, meanCount_foldl xs (S + x) (n + 1) (add_pos hn one_pos),
      List.sum_cons, List.length_cons, Nat.cast_succ, add_assoc S, add_assoc n, add_comm 1]

/-- **Exact mean and count**: the running update holds exactly `(Σ members / #members, #members)`. -/
theorem mean_count_exact (ms : List α) (m : α) :
    meanCountFold (m :: ms) = some ((m + ms.sum) / ((ms.length : α) + 1), (ms.length : α) + 1) := by
  have h := meanCount_foldl ms m 1 one_pos
  rw [div_one, add_comm 1] at h
  exact congrArg some h

/-! ### Non-vacuity -/

example : meetAll [[(1:ℚ)/4, 1/2, 3/4, 1/2], [1/2, 1/4, 1/2, 3/4]] = some [1/4, 1/4, 1/2, 1/2] := by
  decide +kernel
example : meanCountFold [(1:ℚ), 2, 6] = some (3, 3) := by
  decide +kernel

end Field

end Art.C02
