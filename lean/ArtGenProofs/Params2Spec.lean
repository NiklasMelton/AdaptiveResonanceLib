/-
ArtGenProofs.Params2Spec — the generated estimator protocol of the compound estimators (`ArtGen/Params2.lean`,
regenerated from the Python source by `harness/artv/q2trans.py`) equals the reference semantics of
`ArtModel/Params2.lean`, for all stores, all instance `__dict__`s and all keyword lists; and, class by class, the
clauses of C19 proved or refuted on the generated definitions: (a) `get_params(deep=False)` has the constructor's
argument names, (b) `set_params(**get_params())` changes nothing, (c) a rejected `set_params` leaves the estimator as it
was, (d) `set_params` with new values gives the estimator constructed with them.
-/
import ArtGen.Params2
import ArtModel.Params2
import ArtGenProofs.ParamsSpec

namespace Art.GenSpec.Params2
open Art Art.Params Art.Params2 Art.Gen.Params2
open Art.GenSpec.Params (bind_apply pure_apply dget_eq dhas_eq dset_eq partition_eq toWorld toSelf vpOf selfParams_of
  vpOf_cons vpOf_nil L_has L_float L_lo_ge0)

/-! ### the five BaseART methods regenerated here are the sibling slice's (`ArtGen/Params.lean`) -/

theorem base_getattr_eq : BaseART.__getattr__ = Art.Gen.Params.BaseART.__getattr__ := rfl
theorem base_setattr_eq : BaseART.__setattr__ = Art.Gen.Params.BaseART.__setattr__ := rfl
theorem base_get_params_eq : BaseART.get_params = Art.Gen.Params.BaseART.get_params := rfl
theorem base_init_eq (vp : Store → Except Err Unit) :
    BaseART.__init__ (fun p => Q.Py.lift (vp p)) = Art.Gen.Params.BaseART.__init__ vp := rfl
theorem base_set_params_eq (vp : Store → Except Err Unit) :
    BaseART.set_params (fun p => Q.Py.lift (vp p)) = Art.Gen.Params.BaseART.set_params vp := rfl
theorem FuzzyART_validate_eq : FuzzyART.validate_params = Art.Gen.Params.FuzzyART.validate_params := rfl
theorem FuzzyART_init_eq : FuzzyART.__init__ = Art.Gen.Params.FuzzyART.__init__ := rfl

/-! ### dict helpers -/

theorem dupdate_eq (p : Store) (kvs : List (String × Val)) : Q2.dupdate p kvs = upsertAll p kvs := by
  induction kvs generalizing p with
  | nil => rfl
  | cons kv r ih =>
    show Q2.dupdate (Q.dset p kv.1 kv.2) r = upsertAll (upsert p kv.1 kv.2) r
    rw [dset_eq]; exact ih _

theorem dset_eq_gupsert {σ : Type} (d : List (String × σ)) (k : String) (v : σ) : Q.dset d k v = gupsert d k v := by
  induction d with
  | nil => rfl
  | cons kv r ih => obtain ⟨k', v'⟩ := kv; simp only [Q.dset, gupsert, ih]

theorem ddset2_eq_ginsert (n : List (String × Store)) (g k : String) (v : Val) :
    Q.ddset2 n g k v = ginsert n g k v := by
  induction n with
  | nil => simp [Q.ddset2, Q.dgetD, Q.dget, Q.dset, ginsert]
  | cons gs r ih =>
    obtain ⟨g', s⟩ := gs
    simp only [Q.ddset2, Q.dgetD, Q.dget, Q.dset, ginsert] at ih ⊢
    by_cases h : g' = g
    · simp [h, dset_eq]
    · simp [h, ih]

theorem prefixed_eq (name : String) (d : Store) :
    List.map (fun (x : String × Val) => match x with | (k, val) => ((name ++ "__") ++ k, val)) (Q.items d)
      = prefixed name d := rfl

/-- `dict.update` removes no key -/
theorem upsertAll_isSome (p : Store) (kvs : List (String × Val)) (k' : String) (h : (get? p k').isSome) :
    (get? (upsertAll p kvs) k').isSome := by
  induction kvs generalizing p with
  | nil => exact h
  | cons kv r ih =>
    refine ih _ ?_
    by_cases hk : k' = kv.1
    · rw [hk, Art.Params.get?_upsert_same]; rfl
    · rwa [Art.Params.get?_upsert_other _ hk]

/-! ### results as outcomes of a generated method -/

def errOf : Option Err → Except Err Unit
  | none => .ok ()
  | some x => .error x

/-- the model's result as the outcome of the generated method started with the call log `c` -/
def ofRes (r : Res Q.Slot) (c : List (Nat × Store)) : Except Err Unit × Q.World :=
  (errOf r.err, ⟨r.dict, c ++ r.delegated⟩)

/-! ### the ARTMAP family: constructors and `get_params` -/

/-- the instance `__dict__` of a SimpleARTMAP -/
def smDict (a : Val) : List (String × Q.Slot) := [("module_a", .val a), ("map", .dict [])]
/-- the instance `__dict__` of an ARTMAP (`module_b` is stored first) -/
def amDict (a b : Val) : List (String × Q.Slot) := [("module_b", .val b), ("module_a", .val a), ("map", .dict [])]

theorem SimpleARTMAP_init_spec (a : Val) (c : List (Nat × Store)) :
    SimpleARTMAP.__init__ a ⟨[], c⟩ = (.ok (), ⟨smDict a, c⟩) := by
  simp only [SimpleARTMAP.__init__, BaseARTMAP.__init__, bind_apply, Q.objectSetattr, pure_apply, Q.dset,
    String.reduceEq, ↓reduceIte, smDict]

theorem ARTMAP_init_spec (a b : Val) (c : List (Nat × Store)) :
    ARTMAP.__init__ a b ⟨[], c⟩ = (.ok (), ⟨amDict a b, c⟩) := by
  simp only [ARTMAP.__init__, SimpleARTMAP.__init__, BaseARTMAP.__init__, bind_apply, Q.objectSetattr, pure_apply,
    Q.dset, String.reduceEq, ↓reduceIte, amDict]

/-- the load `self.k` of an attribute the instance `__dict__` holds (on a class without `__getattr__`) -/
theorem selfAttr_of (w : Q.World) (k : String) (v : Val) (h : Q.dget w.self k = some (.val v)) :
    Q2.selfAttr k w = (.ok v, w) := by
  rw [Q2.selfAttr, h]

/-- … and on a class with `__getattr__`, which is not reached -/
theorem selfAttrB_of (ga : String → Q.M Val) (w : Q.World) (k : String) (v : Val)
    (h : Q.dget w.self k = some (.val v)) : Q2.selfAttrB ga k w = (.ok v, w) := by
  rw [Q2.selfAttrB, Q.pyGetattr, h]; rfl

/-- `SimpleARTMAP.get_params(deep)`: `{module_a: a}`, and when `deep` the nested estimator's own parameters as
`module_a__k`; the object is not touched.  For every nested estimator (`ext.get_params a` may be anything that
returns). -/
theorem SimpleARTMAP_get_params_spec (ext : Q2.Ext) (w : Q.World) (a : Val) (da : Store) (deep : Bool)
    (ha : Q.dget w.self "module_a" = some (.val a)) (hgp : ext.get_params a w = (.ok da, w)) :
    SimpleARTMAP.get_params ext deep w = (.ok (getParamsNode [] [⟨"module_a", a, da⟩] deep), w) := by
  simp only [SimpleARTMAP.get_params, bind_apply, pure_apply, selfAttr_of w _ a ha]
  cases deep
  · rfl
  · simp only [if_true, bind_apply, pure_apply, selfAttr_of w _ a ha, hgp, dupdate_eq]
    rfl

theorem ARTMAP_get_params_spec (ext : Q2.Ext) (w : Q.World) (a b : Val) (da db : Store) (deep : Bool)
    (ha : Q.dget w.self "module_a" = some (.val a)) (hb : Q.dget w.self "module_b" = some (.val b))
    (hga : ext.get_params a w = (.ok da, w)) (hgb : ext.get_params b w = (.ok db, w)) :
    ARTMAP.get_params ext deep w
      = (.ok (getParamsNode [] [⟨"module_a", a, da⟩, ⟨"module_b", b, db⟩] deep), w) := by
  simp only [ARTMAP.get_params, bind_apply, pure_apply, selfAttr_of w _ a ha, selfAttr_of w _ b hb]
  cases deep
  · rfl
  · simp only [if_true, bind_apply, pure_apply, selfAttr_of w _ a ha, selfAttr_of w _ b hb, hga, hgb, dupdate_eq]
    rfl

/-- C19 (a) for SimpleARTMAP and ARTMAP: `get_params(deep=False)` — what `sklearn.clone` passes back to the
constructor — has exactly the constructor's argument names -/
theorem ARTMAP_family_names (a b : Val) (da db : Store) :
    keys (getParamsNode [] [⟨"module_a", a, da⟩] false) = SimpleARTMAP.args ∧
    keys (getParamsNode [] [⟨"module_a", a, da⟩, ⟨"module_b", b, db⟩] false) = ARTMAP.args := ⟨rfl, rfl⟩

/-! ### `BaseARTMAP.set_params` (and `DeepARTMAP.set_params`): generated = `mapSetParams` -/

abbrev Carried := Store × Store × List (String × Store)

/-- what one pass of the loop does on `(valid_params, local_params, nested_params)` and the instance -/
def MapStep (body : String × Val → Carried → Q.M Carried) : Prop :=
  ∀ key v valid loc nested (w : Q.World), body (key, v) (valid, loc, nested) w =
    if (get? valid (partitionKey key).1).isSome then
      match (partitionKey key).2 with
      | some sub => (.ok (valid, loc, Q.ddset2 nested (partitionKey key).1 sub v), w)
      | none => (.ok (Q.dset valid (partitionKey key).1 v, Q.dset loc (partitionKey key).1 v, nested),
          { w with self := Q.dset w.self (partitionKey key).1 (.val v) })
    else (.error .value, w)

/-- `local_params` after the loop (it is never read again) -/
def locLoop : Store → Store → List (String × Val) → Store
  | _, loc, [] => loc
  | valid, loc, (key, v) :: rest =>
    if (get? valid (partitionKey key).1).isSome then
      match (partitionKey key).2 with
      | some _ => locLoop valid loc rest
      | none => locLoop (upsert valid (partitionKey key).1 v) (Q.dset loc (partitionKey key).1 v) rest
    else loc

theorem map_loop (body : String × Val → Carried → Q.M Carried) (hb : MapStep body) (c : List (Nat × Store)) :
    ∀ (kvs : List (String × Val)) (valid loc : Store) (nested : List (String × Store)) (d : List (String × Q.Slot)),
    Q.Py.forEach kvs (valid, loc, nested) body ⟨d, c⟩ =
      match mapLoop Q.Slot.val ⟨valid, d, nested⟩ kvs with
      | (st, none) => (.ok (st.valid, locLoop valid loc kvs, st.nested), ⟨st.dict, c⟩)
      | (st, some x) => (.error x, ⟨st.dict, c⟩) := by
  intro kvs
  induction kvs with
  | nil => intro valid loc nested d; rfl
  | cons kv rest ih =>
    intro valid loc nested d
    obtain ⟨key, v⟩ := kv
    simp only [Q.Py.forEach, Q.Py.bind, hb key v, mapLoop, locLoop]
    cases (get? valid (partitionKey key).1).isSome with
    | false => rfl
    | true =>
      cases (partitionKey key).2 with
      | some sub =>
        simp only [ddset2_eq_ginsert, ↓reduceIte]
        exact ih valid loc _ d
      | none =>
        simp only [dset_eq valid, dset_eq_gupsert d, ↓reduceIte]
        exact ih _ _ nested _

theorem route_loop (valid : Store) (body : String × Store → Unit → Q.M Unit)
    (hb : ∀ g sub (w : Q.World), body (g, sub) () w =
      match get? valid g with
      | some v => Q.logSetParams v sub w
      | none => (.error .key, w)) (d : List (String × Q.Slot)) :
    ∀ (n : List (String × Store)) (c : List (Nat × Store)),
    Q.Py.forEach n () body ⟨d, c⟩ = (errOf (route valid n).2, ⟨d, c ++ (route valid n).1⟩) := by
  intro n
  induction n with
  | nil => intro c; simp [Q.Py.forEach, Q.Py.pure, route, errOf]
  | cons gs r ih =>
    intro c
    obtain ⟨g, sub⟩ := gs
    simp only [Q.Py.forEach, Q.Py.bind, hb, route]
    cases hv : get? valid g with
    | none => simp [errOf]
    | some v =>
      cases v with
      | mod id =>
        simp only [Q.logSetParams]
        rw [ih]
        simp
      | _ => simp [Q.logSetParams, errOf]

theorem route_body (valid : Store) (g : String) (sub : Store) (w : Q.World) :
    (do Q.logSetParams (← Q.Py.lift (Q.getitem valid g)) sub; pure () : Q.M Unit) w
      = match get? valid g with
        | some v => Q.logSetParams v sub w
        | none => (.error .key, w) := by
  simp only [bind_apply, Q.Py.lift, Q.getitem, dget_eq, pure_apply]
  cases get? valid g with
  | none => rfl
  | some v =>
    dsimp only
    rcases Q.logSetParams v sub w with ⟨r | r, w'⟩ <;> rfl

/-- **`BaseARTMAP.set_params`, generated = reference**, for every instance `__dict__`, every call log, every
keyword list, and every `get_params` override that returns `gp` without touching the object. -/
theorem map_set_params_spec (gpf : Bool → Q.M Store) (gp : Store) (w : Q.World) (kvs : List (String × Val))
    (hgp : gpf true w = (.ok gp, w)) :
    BaseARTMAP.set_params gpf Q.logSetParams kvs w = ofRes (mapSetParams Q.Slot.val gp w.self kvs) w.calls := by
  obtain ⟨d, c⟩ := w
  cases hkvs : kvs with
  | nil => simp [BaseARTMAP.set_params, Q.dictTruth, mapSetParams, ofRes, errOf, pure_apply]
  | cons kv0 rest0 =>
    rw [← hkvs]
    have hne : kvs.isEmpty = false := by rw [hkvs]; rfl
    simp only [BaseARTMAP.set_params, Q.dictTruth, hne, Bool.not_false, Bool.not_true, Bool.false_eq_true, if_false,
      bind_apply, hgp, Q.items, mapSetParams, ofRes]
    rw [map_loop _ ?hb c kvs gp gp [] d]
    case hb =>
      intro key v valid loc nested w
      simp only [partition_eq, dhas_eq]
      cases (get? valid (partitionKey key).1).isSome with
      | false => rfl
      | true => cases (partitionKey key).2 <;> rfl
    rcases mapLoop Q.Slot.val ⟨gp, d, []⟩ kvs with ⟨st, _ | x⟩
    · dsimp only
      rw [route_loop st.valid _ (route_body st.valid) st.dict st.nested c]
      cases (route st.valid st.nested).2 <;> rfl
    · simp [errOf]

/-- `DeepARTMAP.set_params` is a second copy of the same text (its `local_params` starts empty and is never read):
the same reference. -/
theorem deep_set_params_spec (gpf : Bool → Q.M Store) (gp : Store) (w : Q.World) (kvs : List (String × Val))
    (hgp : gpf true w = (.ok gp, w)) :
    DeepARTMAP.set_params gpf Q.logSetParams kvs w = ofRes (mapSetParams Q.Slot.val gp w.self kvs) w.calls := by
  obtain ⟨d, c⟩ := w
  cases hkvs : kvs with
  | nil => simp [DeepARTMAP.set_params, Q.dictTruth, mapSetParams, ofRes, errOf, pure_apply]
  | cons kv0 rest0 =>
    rw [← hkvs]
    have hne : kvs.isEmpty = false := by rw [hkvs]; rfl
    simp only [DeepARTMAP.set_params, Q.dictTruth, hne, Bool.not_false, Bool.not_true, Bool.false_eq_true, if_false,
      bind_apply, hgp, Q.items, mapSetParams, ofRes]
    rw [map_loop _ ?hb c kvs gp [] [] d]
    case hb =>
      intro key v valid loc nested w
      simp only [partition_eq, dhas_eq]
      cases (get? valid (partitionKey key).1).isSome with
      | false => rfl
      | true => cases (partitionKey key).2 <;> rfl
    rcases mapLoop Q.Slot.val ⟨gp, d, []⟩ kvs with ⟨st, _ | x⟩
    · dsimp only
      rw [route_loop st.valid _ (route_body st.valid) st.dict st.nested c]
      cases (route st.valid st.nested).2 <;> rfl
    · simp [errOf]

/-! ### the ARTMAP family: the C19 clauses on the generated methods -/

theorem prefixed_ne (name k : String) : (name ++ "__") ++ k ≠ name := by
  intro e
  have := congrArg String.length e
  simp only [String.length_append] at this
  have h2 : "__".length = 2 := rfl
  omega

theorem get?_upsertAll_prefixed (b : Store) (name : String) (d : Store) :
    get? (upsertAll b (prefixed name d)) name = get? b name := by
  induction d generalizing b with
  | nil => rfl
  | cons kv r ih =>
    obtain ⟨k, v⟩ := kv
    show get? (upsertAll (upsert b ((name ++ "__") ++ k) v) (prefixed name r)) name = _
    rw [ih, Art.Params.get?_upsert_other v (fun e => prefixed_ne name k e.symm)]

/-- `get_params(deep=True)` of a wrapper with one child lists the child under its name: no `name__k` overwrites it -/
theorem getParamsNode_kid (name : String) (a : Val) (da : Store) :
    get? (getParamsNode [] [⟨name, a, da⟩] true) name = some a := by
  simp only [getParamsNode, if_true, List.foldl_cons, List.foldl_nil, List.map_cons, List.map_nil, List.nil_append]
  rw [get?_upsertAll_prefixed]; exact if_pos rfl

/-- C19 (d) for SimpleARTMAP: `set_params(module_a=a')` turns the object constructed with `a` into exactly the object
constructed with `a'` (for every nested estimator whose `get_params()` returns) -/
theorem SimpleARTMAP_set_eq_init (ext : Q2.Ext) (a a' : Val) (da : Store) (c : List (Nat × Store))
    (hgp : ∀ w, ext.get_params a w = (.ok da, w)) :
    BaseARTMAP.set_params (SimpleARTMAP.get_params ext) Q.logSetParams [("module_a", a')]
        (SimpleARTMAP.__init__ a ⟨[], c⟩).2
      = (.ok (), (SimpleARTMAP.__init__ a' ⟨[], c⟩).2) := by
  rw [SimpleARTMAP_init_spec, SimpleARTMAP_init_spec]
  rw [map_set_params_spec _ _ _ _ (SimpleARTMAP_get_params_spec ext _ a da true rfl (hgp _))]
  have hk : partitionKey "module_a" = ("module_a", none) := by decide +kernel
  simp only [mapSetParams, mapLoop, hk, getParamsNode_kid, Option.isSome_some, route, ofRes, errOf, gupsert, smDict, List.isEmpty_cons,
    Bool.false_eq_true, ↓reduceIte, List.append_nil]

/-- a nested name is delegated, not interpreted: `set_params(module_a__sub=v)` is exactly
`module_a.set_params(sub=v)` — the wrapper itself is untouched -/
theorem SimpleARTMAP_nested_routed (ext : Q2.Ext) (id : Nat) (da : Store) (c : List (Nat × Store))
    (k sub : String) (v : Val) (hk : partitionKey k = ("module_a", some sub))
    (hgp : ∀ w, ext.get_params (.mod id) w = (.ok da, w)) :
    BaseARTMAP.set_params (SimpleARTMAP.get_params ext) Q.logSetParams [(k, v)] ⟨smDict (.mod id), c⟩
      = (.ok (), ⟨smDict (.mod id), c ++ [(id, [(sub, v)])]⟩) := by
  rw [map_set_params_spec _ _ _ _ (SimpleARTMAP_get_params_spec ext _ (.mod id) da true rfl (hgp _))]
  simp only [mapSetParams, mapLoop, hk, getParamsNode_kid, route, ofRes, errOf, ginsert, List.isEmpty_cons,
    Bool.false_eq_true, Option.isSome_some, ↓reduceIte]

/-- the exception raised (if any) and the final state -/
abbrev outcome := @Art.GenSpec.Params.outcome

/-! #### concrete nested estimators for the counterexamples -/

/-- a nested estimator as the wrapper's `ext` calls see it -/
structure Obj where
  isBaseART : Bool
  params : Store
  deep : Store
  validate : Store → Option Err

/-- the `ext` of a wrapper whose nested estimators are the objects `objs` (`set_params` calls are logged) -/
def extOf (objs : Nat → Option Obj) : Q2.Ext where
  isBaseART v := match v with
    | .mod id => (match objs id with | some o => o.isBaseART | none => false)
    | _ => false
  params v := fun w => (match v with
    | .mod id => (match objs id with | some o => .ok o.params | none => .error .attr)
    | _ => .error .attr, w)
  get_params v := fun w => (match v with
    | .mod id => (match objs id with | some o => .ok o.deep | none => .error .attr)
    | _ => .error .attr, w)
  set_params := Q.logSetParams
  validate_params v d := match v with
    | .mod id => (match objs id with | some o => errOf (o.validate d) | none => .error .attr)
    | _ => .error .attr

/-- `FuzzyART(rho, 0.0, 1.0)` -/
def fz (rho : Rat) : Obj :=
  ⟨true, [("rho", .flt rho), ("alpha", .flt 0), ("beta", .flt 1)], [("rho", .flt rho), ("alpha", .flt 0), ("beta", .flt 1)],
    validate fuzzyART.checks⟩

/-- object 7 is `FuzzyART(r7, …)`, object 9 is `FuzzyART(r9, …)` -/
def objs (r7 r9 : Rat) : Nat → Option Obj := fun id => if id = 7 then some (fz r7) else if id = 9 then some (fz r9) else none

def half : Rat := mkRat 1 2

/-- C19 (c) is FALSE for the ARTMAP family: `SimpleARTMAP(m7).set_params(module_a=m9, zz=1.0)` raises `ValueError`
for the unknown name `zz` — and `module_a` IS replaced (the loop assigns each plain name as it meets it). -/
theorem ARTMAP_rejected_changes_counterexample :
    outcome (BaseARTMAP.set_params (SimpleARTMAP.get_params (extOf (objs half half))) Q.logSetParams
      [("module_a", .mod 9), ("zz", .flt 1)] ⟨smDict (.mod 7), []⟩)
      = (some .value, ⟨smDict (.mod 9), []⟩) := by decide +kernel

theorem mapLoop_nested_dict {σ : Type} (inj : Val → σ) (kvs : List (String × Val))
    (h : ∀ kv ∈ kvs, (partitionKey kv.1).2 ≠ none) (st : MapSt σ) : (mapLoop inj st kvs).1.dict = st.dict := by
  induction kvs generalizing st with
  | nil => rfl
  | cons kv r ih =>
    obtain ⟨key, v⟩ := kv
    have h0 := h (key, v) List.mem_cons_self
    simp only [mapLoop]
    cases (get? st.valid (partitionKey key).1).isSome with
    | false => rfl
    | true =>
      cases hs : (partitionKey key).2 with
      | none => exact absurd hs h0
      | some sub => exact ih (fun kv hm => h kv (List.mem_cons_of_mem _ hm)) _

/-- the part of the clause that does hold: when every name of the call is a nested one (`module__sub`), the wrapper's own `__dict__` is
exactly what it was, whatever the call raises (the nested estimators validate before they assign: C19 for
`BaseART.set_params`, `Art.GenSpec.Params.gen_rejected_unchanged`). -/
theorem ARTMAP_rejected_unchanged_partial (gpf : Bool → Q.M Store) (gp : Store) (w : Q.World)
    (kvs : List (String × Val)) (hgp : gpf true w = (.ok gp, w))
    (hn : ∀ kv ∈ kvs, (partitionKey kv.1).2 ≠ none) :
    (BaseARTMAP.set_params gpf Q.logSetParams kvs w).2.self = w.self := by
  rw [map_set_params_spec gpf gp w kvs hgp]
  simp only [ofRes, mapSetParams]
  split
  · rfl
  · have := mapLoop_nested_dict Q.Slot.val kvs hn ⟨gp, w.self, []⟩
    generalize mapLoop Q.Slot.val ⟨gp, w.self, []⟩ kvs = L at this
    obtain ⟨st, err⟩ := L
    cases err <;> exact this

/-- C19 (b), on a concrete object: `est.set_params(**est.get_params())` leaves the SimpleARTMAP as it is and hands the
nested estimator exactly its own parameters (for which `BaseART.set_params` is a no-op:
`Art.GenSpec.Params.gen_set_get_noop`) -/
theorem SimpleARTMAP_set_get_example :
    ∃ ps, (SimpleARTMAP.get_params (extOf (objs half half)) true ⟨smDict (.mod 7), []⟩).1.toOption = some ps ∧
      outcome (BaseARTMAP.set_params (SimpleARTMAP.get_params (extOf (objs half half))) Q.logSetParams ps
        ⟨smDict (.mod 7), []⟩) = (none, ⟨smDict (.mod 7), [(7, (fz half).params)]⟩) :=
  ⟨[("module_a", .mod 7), ("module_a__rho", .flt half), ("module_a__alpha", .flt 0), ("module_a__beta", .flt 1)],
    by decide +kernel, by decide +kernel⟩

/-! ### DualVigilanceART -/

theorem validate_DualVigilanceART (p : Store) : DualVigilanceART.validate_params p = vpOf dualChecks p := by
  simp only [DualVigilanceART.validate_params, dualChecks, vpOf_cons, vpOf_nil, L_has, L_float, L_lo_ge0]

/-- `DualVigilanceART.get_params(deep)`: own `rho_lower_bound`, the base module, and when `deep` the base module's
parameters as `base_module__k`; nothing is written -/
theorem DualVigilanceART_get_params_spec (ext : Q2.Ext) (w : Q.World) (p : Store) (r m : Val) (dm : Store)
    (deep : Bool) (hp : Q.dget w.self "params" = some (.dict p)) (hr : get? p "rho_lower_bound" = some r)
    (hm : Q.dget w.self "base_module" = some (.val m)) (hgp : ext.get_params m w = (.ok dm, w)) :
    DualVigilanceART.get_params ext deep w
      = (.ok (getParamsNode [("rho_lower_bound", r)] [⟨"base_module", m, dm⟩] deep), w) := by
  have h1 := selfParams_of w p hp
  have h2 := selfAttrB_of BaseART.__getattr__ w "base_module" m hm
  simp only [DualVigilanceART.get_params, bind_apply, pure_apply, h1, h2, Q.Py.lift, Q.getitem, dget_eq, hr]
  cases deep
  · rfl
  · simp only [if_true, bind_apply, pure_apply, h2, hgp, dupdate_eq]
    rfl

/-- C19 (a) for DualVigilanceART: `get_params(deep=False)` has the constructor's argument names (in another order) -/
theorem DualVigilanceART_names (r m : Val) (dm : Store) (k : String) :
    k ∈ keys (getParamsNode [("rho_lower_bound", r)] [⟨"base_module", m, dm⟩] false) ↔ k ∈ DualVigilanceART.args := by
  simp [getParamsNode, keys, DualVigilanceART.args, or_comm]

abbrev dualVP : Store → Q.M Unit := fun p => Q.Py.lift (DualVigilanceART.validate_params p)

/-- `DualVigilanceART(FuzzyART(r7, …), 0.25)` -/
def dualW (r7 : Rat) : Q.World :=
  (DualVigilanceART.__init__ (extOf (objs r7 half)) (.mod 7) (.flt (mkRat 1 4)) ⟨[], []⟩).2

/-- what `set_params` is on a DualVigilanceART: the inherited `BaseART.set_params` with the class's own
`get_params` and `validate_params` -/
abbrev dualSet (r7 : Rat) := BaseART.set_params_dyn (DualVigilanceART.get_params (extOf (objs r7 half))) dualVP Q.logSetParams

/-- the constructor: `rho > rho_lower_bound >= 0` is required -/
theorem DualVigilanceART_init_example :
    outcome (DualVigilanceART.__init__ (extOf (objs half half)) (.mod 7) (.flt (mkRat 1 4)) ⟨[], []⟩)
      = (none, ⟨[("base_module", .val (.mod 7)), ("params", .dict [("rho_lower_bound", .flt (mkRat 1 4))]),
          ("sample_counter_", .val (.int 0)), ("weight_sample_counter_", .val (.lst [])), ("d_min_", .val .non),
          ("d_max_", .val .non), ("map", .dict [])], []⟩) ∧
    outcome (DualVigilanceART.__init__ (extOf (objs half half)) (.mod 7) (.flt (mkRat 3 4)) ⟨[], []⟩)
      = (some .assert, ⟨[], []⟩) ∧
    outcome (DualVigilanceART.__init__ (extOf (objs half half)) (.mod 7) (.flt half) ⟨[], []⟩)
      = (some .assert, ⟨[], []⟩) ∧
    (outcome (DualVigilanceART.__init__ (extOf (objs half half)) (.mod 7) (.flt 0) ⟨[], []⟩)).1 = none ∧
    outcome (DualVigilanceART.__init__ (extOf (objs half half)) (.mod 3) (.flt 0) ⟨[], []⟩)
      = (some .assert, ⟨[], []⟩) := by decide +kernel

/-- C19 (d) is FALSE for DualVigilanceART: `set_params(rho_lower_bound=0.75)` on `DualVigilanceART(FuzzyART(rho=0.5), 0.25)` is ACCEPTED —
`validate_params` only asks `rho_lower_bound >= 0` — although no estimator can be constructed with these values
(the constructor asserts `rho > rho_lower_bound`): "rejects out-of-range values" fails, and the accepted call does
not give a constructed estimator. -/
theorem DualVigilanceART_bound_above_rho_accepted_counterexample :
    (outcome (dualSet half [("rho_lower_bound", .flt (mkRat 3 4))] (dualW half))).1 = none ∧
    Q.dget (dualSet half [("rho_lower_bound", .flt (mkRat 3 4))] (dualW half)).2.self "params"
      = some (.dict [("rho_lower_bound", .flt (mkRat 3 4))]) ∧
    (outcome (DualVigilanceART.__init__ (extOf (objs half half)) (.mod 7) (.flt (mkRat 3 4)) ⟨[], []⟩)).1
      = some .assert := by decide +kernel

/-- the part that does hold (on the same object): a new bound below `rho` gives exactly the constructed estimator; a negative
one is rejected and nothing changes; `base_module__rho` is delegated; `set_params(**get_params())` changes nothing
and hands the base module its own parameters; a new base module replaces the old one -/
theorem DualVigilanceART_set_examples :
    outcome (dualSet half [("rho_lower_bound", .flt (mkRat 1 8))] (dualW half))
      = outcome (DualVigilanceART.__init__ (extOf (objs half half)) (.mod 7) (.flt (mkRat 1 8)) ⟨[], []⟩) ∧
    outcome (dualSet half [("rho_lower_bound", .flt (-1))] (dualW half)) = (some .assert, dualW half) ∧
    outcome (dualSet half [("rho_lower_bound", .int 0)] (dualW half)) = (some .assert, dualW half) ∧
    outcome (dualSet half [("zz", .flt 1)] (dualW half)) = (some .value, dualW half) ∧
    outcome (dualSet half [("base_module__rho", .flt 1)] (dualW half))
      = (none, { dualW half with calls := [(7, [("rho", .flt 1)])] }) ∧
    outcome (dualSet half [("rho_lower_bound", .flt (mkRat 1 4)), ("base_module", .mod 7),
        ("base_module__rho", .flt half), ("base_module__alpha", .flt 0), ("base_module__beta", .flt 1)] (dualW half))
      = (none, { dualW half with calls := [(7, (fz half).params)] }) ∧
    outcome (dualSet half [("base_module", .mod 9)] (dualW half))
      = outcome (DualVigilanceART.__init__ (extOf (objs half half)) (.mod 9) (.flt (mkRat 1 4)) ⟨[], []⟩) := by
  decide +kernel

/-! ### TopoART and CVIART: the private flat copy (F21, F22) -/

abbrev topoVP : Store → Q.M Unit := fun p => Q.Py.lift (TopoART.validate_params p)

/-- `TopoART(FuzzyART(r7, 0.0, 1.0), 0.5, 5, 2)` -/
def topoW (r7 : Rat) : Q.World :=
  (TopoART.__init__ (extOf (objs r7 half)) (.mod 7) (.flt half) (.int 5) (.int 2) ⟨[], []⟩).2

abbrev topoSet := BaseART.set_params topoVP Q.logSetParams

/-- the generated constructor leaves the object of the reference `constructTopo`: `params` is the flat copy -/
theorem TopoART_init_example :
    (constructTopo (.mod 7) (fz half).params (.flt half) (.int 5) (.int 2)).toOption.map (fun e => toWorld e [])
      = some (topoW half) ∧
    (outcome (TopoART.__init__ (extOf (objs half half)) (.mod 7) (.flt half) (.int 5) (.int 2) ⟨[], []⟩)).1 = none ∧
    outcome (TopoART.__init__ (extOf (objs half half)) (.mod 7) (.flt 2) (.int 5) (.int 2) ⟨[], []⟩)
      = (some .assert, ⟨[], []⟩) ∧
    (outcome (TopoART.__init__ (extOf (objs half half)) (.mod 7) (.flt 1) (.int 5) (.int 5) ⟨[], []⟩)).1 = none ∧
    outcome (TopoART.__init__ (extOf (objs half half)) (.mod 7) (.flt half) (.int 5) (.int 6) ⟨[], []⟩)
      = (some .assert, ⟨[], []⟩) ∧
    outcome (TopoART.__init__ (extOf (objs half half)) (.mod 7) (.flt half) (.flt 5) (.int 2) ⟨[], []⟩)
      = (some .assert, ⟨[], []⟩) ∧
    outcome (TopoART.__init__ (extOf (objs half half)) (.mod 3) (.flt half) (.int 5) (.int 2) ⟨[], []⟩)
      = (some .assert, ⟨[], []⟩) := by decide +kernel

/-- F21, C19 (a) is FALSE for TopoART: `get_params` (BaseART's: `self.params`, the flat copy, whatever `deep`) has the
base module's parameter names instead of `base_module` — `sklearn.clone` calls `TopoART(rho=…, alpha=…, …)`. -/
theorem TopoART_names_counterexample :
    ((BaseART.get_params false (topoW half)).1.toOption.map keys)
      = some ["rho", "alpha", "beta", "beta_lower", "tau", "phi"] ∧
    TopoART.args = ["base_module", "beta_lower", "tau", "phi"] ∧
    (outcome (BaseART.set_params topoVP Q.logSetParams [("base_module__rho", .flt 1)] (topoW half))).1
      = some .value := by
  decide +kernel

theorem upsertAll_get_same (p : Store) (kvs : List (String × Val)) (k : String)
    (h : k ∈ keys kvs) : (get? (upsertAll p kvs) k).isSome := by
  induction kvs generalizing p with
  | nil => simp [keys] at h
  | cons kv r ih =>
    simp only [keys, List.map_cons, List.mem_cons] at h
    show (get? (upsertAll (upsert p kv.1 kv.2) r) k).isSome
    rcases h with h | h
    · apply upsertAll_isSome; rw [h, Art.Params.get?_upsert_same]; rfl
    · exact ih _ h

/-- the part of (a) that does hold: every constructor argument other than `base_module` is exposed, for every base module -/
theorem TopoART_names_partial (base : Store) (bl tau phi : Val) :
    ∀ a ∈ TopoART.args, a ≠ "base_module" → (get? (topoParams base bl tau phi) a).isSome := by
  intro a ha hne
  -- the other three arguments are the keys that `topoParams` writes over the base module's
  exact upsertAll_get_same base _ a ((List.mem_cons.mp ha).resolve_left hne)

/-- F22, C19 (d) is FALSE for TopoART: `TopoART(FuzzyART(rho=0), …).set_params(rho=0.5)` returns normally and leaves a
wrapper that is, attribute for attribute, the one constructed over `FuzzyART(rho=0.5)` — but NOTHING was delegated
(`calls = []`): the base module, whose `params` training reads, still has `rho = 0`.  `rho = 7.0`, which no
FuzzyART accepts, is accepted too (TopoART.validate_params does not run the base module's checks on the copy). -/
theorem TopoART_flat_copy_counterexample :
    outcome (topoSet [("rho", .flt half)] (topoW 0)) = (none, topoW half) ∧ (topoW half).calls = [] ∧
    ((extOf (objs 0 half)).params (.mod 7) (topoW half)).1.toOption = some (fz 0).params ∧
    (outcome (topoSet [("rho", .flt 7)] (topoW 0))).1 = none := by decide +kernel

/-- the part of (d) that does hold: for TopoART's own arguments `set_params` gives exactly the constructed estimator, an out-of-range
value (`beta_lower > beta`, `phi > tau`, a float `tau`) or an unknown name is rejected and nothing changes, and
`set_params(**get_params())` changes nothing -/
theorem TopoART_own_params_examples :
    outcome (topoSet [("beta_lower", .flt 1), ("tau", .int 9), ("phi", .int 9)] (topoW half))
      = outcome (TopoART.__init__ (extOf (objs half half)) (.mod 7) (.flt 1) (.int 9) (.int 9) ⟨[], []⟩) ∧
    outcome (topoSet [("beta_lower", .flt 7)] (topoW half)) = (some .assert, topoW half) ∧
    outcome (topoSet [("phi", .int 6)] (topoW half)) = (some .assert, topoW half) ∧
    outcome (topoSet [("tau", .flt 9)] (topoW half)) = (some .assert, topoW half) ∧
    outcome (topoSet [("tau", .int 9), ("zz", .int 1)] (topoW half)) = (some .value, topoW half) ∧
    (BaseART.get_params true (topoW half)).1.toOption
      = some [("rho", .flt half), ("alpha", .flt 0), ("beta", .flt 1), ("beta_lower", .flt half), ("tau", .int 5),
          ("phi", .int 2)] ∧
    outcome (topoSet [("rho", .flt half), ("alpha", .flt 0), ("beta", .flt 1), ("beta_lower", .flt half),
        ("tau", .int 5), ("phi", .int 2)] (topoW half)) = (none, topoW half) := by decide +kernel

/-- `CVIART(FuzzyART(r7, 0.0, 1.0), 1)` -/
def cviW (r7 : Rat) : Q.World := (CVIART.__init__ (extOf (objs r7 half)) (.mod 7) (.int 1) ⟨[], []⟩).2

abbrev cviSet (r7 : Rat) := BaseART.set_params (CVIART.validate_params (extOf (objs r7 half))) Q.logSetParams

/-- CVIART: the constructor (flat copy `dict(base_module.params, validity=…)`), F21 (the names), F22 (a new `rho`
lands in the copy, nothing is delegated, the wrapper equals the one constructed over `FuzzyART(rho=0.5)` while the
base module keeps `rho = 0`).  Unlike TopoART, CVIART.validate_params runs the base module's checks on the copy:
`rho = 7.0` is rejected and nothing changes; so are `validity = 9` and a float `validity`. -/
theorem CVIART_flat_copy_counterexample :
    Q.dget (cviW half).self "params"
      = some (.dict (cviParams (fz half).params (.int 1))) ∧
    ((BaseART.get_params false (cviW half)).1.toOption.map keys) = some ["rho", "alpha", "beta", "validity"] ∧
    CVIART.args = ["base_module", "validity"] ∧
    outcome (cviSet 0 [("rho", .flt half)] (cviW 0)) = (none, cviW half) ∧ (cviW half).calls = [] ∧
    outcome (cviSet 0 [("rho", .flt 7)] (cviW 0)) = (some .assert, cviW 0) ∧
    outcome (cviSet 0 [("validity", .int 9)] (cviW 0)) = (some .assert, cviW 0) ∧
    outcome (cviSet 0 [("validity", .flt 1)] (cviW 0)) = (some .assert, cviW 0) ∧
    outcome (cviSet 0 [("validity", .int 3)] (cviW 0))
      = outcome (CVIART.__init__ (extOf (objs 0 half)) (.mod 7) (.int 3) ⟨[], []⟩) ∧
    outcome (CVIART.__init__ (extOf (objs 0 half)) (.mod 7) (.int 0) ⟨[], []⟩)
      = (some .assert, ⟨[("base_module", .val (.mod 7))], []⟩) := by decide +kernel

/-! ### iCVIFuzzyART -/

/-- C19 (a) holds for iCVIFuzzyART (since /repo 9f458f8): the parameter store after the constructor has exactly the
constructor's argument names, `offline` included; a float `validity` is rejected — after the FuzzyART part was
constructed (the object exists, with the two extra entries already in `params`) -/
theorem iCVIFuzzyART_names_example :
    ((BaseART.get_params false
        (iCVIFuzzyART.__init__ (.flt half) (.flt 0) (.flt 1) (.int 1) (.int 0) ⟨[], []⟩).2).1.toOption.map keys)
      = some iCVIFuzzyART.args ∧
    (outcome (iCVIFuzzyART.__init__ (.flt half) (.flt 0) (.flt 1) (.int 1) (.int 0) ⟨[], []⟩)).1 = none ∧
    (outcome (iCVIFuzzyART.__init__ (.flt half) (.flt 0) (.flt 1) (.flt 1) (.int 0) ⟨[], []⟩)).1 = some .assert ∧
    (outcome (iCVIFuzzyART.__init__ (.flt 2) (.flt 0) (.flt 1) (.int 1) (.int 0) ⟨[], []⟩)) = (some .assert, ⟨[], []⟩) ∧
    iCVIFuzzyART.defaults = [("offline", .int 1)] := by decide +kernel

/-- C19 `set_rejection_leaves_state` and `set_get_noop` (ArtProps/C19.lean) transported to iCVIFuzzyART, which
inherits `BaseART.set_params` and `FuzzyART.validate_params` (its extra entries `validity` / `offline` are ordinary
keys of the store): a rejected call changes nothing, `set_params(**get_params())` is a no-op. -/
theorem iCVIFuzzyART_rejected_unchanged (e : Est) (c : List (Nat × Store)) (kvs : List (String × Val))
    (hn : (keys kvs).Nodup) (x : Err) (w' : Q.World)
    (h : BaseART.set_params (fun p => Q.Py.lift (FuzzyART.validate_params p)) Q.logSetParams kvs (toWorld e c)
      = (.error x, w')) (hx : x ≠ .attr) : w' = toWorld e c :=
  Art.GenSpec.Params.gen_rejected_unchanged _ fuzzyART.checks Art.GenSpec.Params.validate_FuzzyART e c kvs hn x w' h hx

theorem iCVIFuzzyART_set_get_noop (e : Est) (hwf : e.WF) (hv : validate fuzzyART.checks e.params = none)
    (c : List (Nat × Store)) :
    ∃ ps, BaseART.get_params true (toWorld e c) = (.ok ps, toWorld e c) ∧
      BaseART.set_params (fun p => Q.Py.lift (FuzzyART.validate_params p)) Q.logSetParams ps (toWorld e c)
        = (.ok (), toWorld e c) :=
  Art.GenSpec.Params.gen_set_get_noop _ fuzzyART.checks Art.GenSpec.Params.validate_FuzzyART e hwf hv c

/-! ### the whole tree: the wrapper's generated step, then the delegated calls on the nested estimators -/

/-- the step of an ARTMAP wrapper, from the generated code: `__dict__` after the call, the exception, the calls -/
def artmapStep (ext : Q2.Ext) (kvs : List (String × Val)) (d : List (String × Q.Slot)) :
    List (String × Q.Slot) × Option Err × List (Nat × Store) :=
  let r := BaseARTMAP.set_params (ARTMAP.get_params ext) Q.logSetParams kvs ⟨d, []⟩
  (r.2.self, (outcome r).1, r.2.calls)

def fzEst (rho : Rat) : Est := ⟨"FuzzyART", (fz rho).params, initAttrs⟩

def artmapTree : Tree2 (List (String × Q.Slot)) :=
  ⟨amDict (.mod 7) (.mod 9), [(7, fzEst half, validate fuzzyART.checks), (9, fzEst half, validate fuzzyART.checks)]⟩

/-- C19 (c) on the whole tree is FALSE for ARTMAP: `set_params(module_a__rho=0.75, module_b__rho=7.0)` raises
(module_b rejects 7.0) after module_a was changed.  `_partial`: a call that reaches one nested estimator only is all
or nothing (second and third conjunct) and equals constructing over the changed module. -/
theorem ARTMAP_tree_partial_update_counterexample :
    let ext := extOf (objs half half)
    let r := artmapTree.setParams (artmapStep ext [("module_a__rho", .flt (mkRat 3 4)), ("module_b__rho", .flt 7)])
    let r1 := artmapTree.setParams (artmapStep ext [("module_b__rho", .flt 7), ("module_b__beta", .flt half)])
    let r2 := artmapTree.setParams (artmapStep ext [("module_b__rho", .flt 1), ("module_b__beta", .flt half)])
    (r.2 = some .assert ∧ r.1.top = artmapTree.top ∧
      r.1.kids.map (fun k => (k.1, k.2.1)) = [(7, fzEst (mkRat 3 4)), (9, fzEst half)]) ∧
    (r1.2 = some .assert ∧ r1.1.top = artmapTree.top ∧
      r1.1.kids.map (fun k => (k.1, k.2.1)) = [(7, fzEst half), (9, fzEst half)]) ∧
    (r2.2 = none ∧ r2.1.top = artmapTree.top ∧
      r2.1.kids.map (fun k => (k.1, k.2.1))
        = [(7, fzEst half), (9, ⟨"FuzzyART", [("rho", .flt 1), ("alpha", .flt 0), ("beta", .flt half)], initAttrs⟩)]) := by
  decide +kernel

end Art.GenSpec.Params2
