/-
ArtGenProofs.MiscSpec — the last public functions of artlib, as translated from the Python source by
`harness/artv/mtrans.py` (ArtGen/Misc.lean), compute their reference definitions (`ArtModel/Misc.lean`, on top of
`ArtModel/Fusion.lean` / `ArtModel/Falcon.lean`) — for all arguments.

1. `FusionART.match_criterion` (C10 / C11)
  npNanmax_eq                        the generated helper's fold = `Misc.nanmax` (non-empty tuple)
  fusion_match_criterion_none        a missing cache raises
  fusion_match_criterion_empty       no channel: `M, caches = zip(*[])` raises
  fusion_match_criterion_spec        = (nanmax of the answers, their caches): channel k not skipped ↦ module k's own
                                     match_criterion on slice k of i and of w, with modules[k].params and cache[k];
                                     a skipped channel ↦ (NaN, {"match_criterion": inf})
  fusion_match_criterion_model       the value = `Misc.fusionMatch` (nanmax of `Fusion.matchVec`, skipped = NaN)
  fusion_match_criterion_caches      the returned cache holds, per channel, the module's cache / the skip constant
  fusionMatch_is_max / _none_iff     it is an upper bound of the non-skipped channel values and is attained; NaN iff all skipped
  fusion_match_skip_independent      the value does not depend on the skipped columns (C11)
  gen_fusion_resonance_bound         transport of C10.fusion_match_all: when the fused vigilance test passes (non-strict
                                     mode), rho_k ≤ m_k ≤ the generated match_criterion for every channel
  fusion_match_not_bin               …but the converse fails: match_criterion is a max, the resonance test a conjunction
2. `FALCON.get_probabilistic_action` (C16 / C04)
  probVector_pos_sum                 every probability > 0, they sum to 1 — every reward vector (all-zero included), offset ≥ 0
  prob_pipeline_spec                 the generated arithmetic = `Misc.probVector` and never divides by zero
  get_probabilistic_action_spec      generated = `Misc.probAction` of what the generated get_actions_and_rewards returns
  get_probabilistic_action_total     it never raises when the draw is a position of the vector (np.random.choice's contract)
  get_probabilistic_action_model     on top of the FusionART model (FalconSpec's `Tie`)
  prob_min_inverts, clip_nesting_matters
3. `CVIART._set_params / _deep_copy_params`, `BaseART.shrink_clusters`
  cvi_set_params_spec, cvi_deep_copy_params_spec, cvi_get_set, cvi_set_get, cvi_set_set, cvi_set_frame, shrink_clusters_spec
-/
import ArtGen.Misc
import ArtModel.Misc
import ArtGenProofs.FusionSpec
import ArtGenProofs.FalconSpec
import ArtProps.C10
import Mathlib.Tactic.Positivity
import Mathlib.Tactic.FieldSimp
import Mathlib.Tactic.Linarith

set_option linter.unusedSectionVars false

namespace Art.GenSpec.Misc
open Art Art.Fusion Art.Imp Art.ImpMisc

/-! ## 1. FusionART.match_criterion -/
section Match
open Art.Gen.Misc.FusionART
variable {TM TP TC α : Type} [LinearOrder α]

theorem nanmax_cons (t : Option α) (l : List (Option α)) :
    Art.Misc.nanmax (t :: l) = fmax t (Art.Misc.nanmax l) := by
  cases t with
  | none => rfl
  | some a => rw [Art.Misc.nanmax]; cases Art.Misc.nanmax l <;> rfl

theorem fmax_assoc (a b c : Option α) : fmax (fmax a b) c = fmax a (fmax b c) := by
  cases a with
  | none => rfl
  | some a =>
    cases b with
    | none => rfl
    | some b =>
      cases c with
      | none => rfl
      | some c => exact congrArg some (max_assoc a b c)

theorem fmax_eq_none {a b : Option α} : fmax a b = none ↔ a = none ∧ b = none := by
  cases a with
  | none => exact ⟨fun h => ⟨rfl, h⟩, fun h => h.2⟩
  | some a => cases b <;> exact ⟨nofun, fun h => nomatch h.1⟩

/-- the left fold the translator renders `np.nanmax` with computes the same -/
theorem foldl_fmax (l : List (Option α)) (acc : Option α) :
    l.foldl fmax acc = fmax acc (Art.Misc.nanmax l) := by
  induction l generalizing acc with
  | nil => cases acc <;> rfl
  | cons t l ih => rw [List.foldl_cons, ih, nanmax_cons, fmax_assoc]

/-- `np.nanmax` as rendered by the translator = the reference `nanmax`; an empty tuple raises -/
theorem npNanmax_eq (l : List (Option α)) :
    npNanmax l = if l = [] then none else some (Art.Misc.nanmax l) := by
  cases l with
  | nil => rfl
  | cons t l => exact congrArg some (foldl_fmax (t :: l) none)

/-- the answers of the channels: module `k`'s own `match_criterion` on slice `k` of sample and weight, with its own
`params` and `cache[k]`; `(NaN, {"match_criterion": inf})` for a skipped channel -/
def chanAnswers (ops : ModOps TM α TP TC) (chans : List (Chan α)) (modules : List TM) (dictSkip : TC)
    (x w : List α) (cache : List TC) (skip : List Nat) : List (Option α × TC) :=
  (modules.zip cache).zipIdx.map (fun mck =>
    if skip.contains mck.2 then (none, dictSkip)
    else ops.match_criterion mck.1.1 (slice (widths chans) mck.2 x) (slice (wlens chans) mck.2 w)
      (ops.params mck.1.1) mck.1.2)

theorem fusion_match_criterion_none (ops : ModOps TM α TP TC) (modules : List TM) (n : Nat)
    (chIdx wIdx : List (Nat × Nat)) (dictSkip : TC) (x w : List α) (skip : List Nat) :
    match_criterion ops modules n chIdx wIdx dictSkip x w none skip = none := rfl

/-- a FusionART without channels: `M, caches = zip(*[])` raises -/
theorem fusion_match_criterion_empty (ops : ModOps TM α TP TC) (modules : List TM)
    (chIdx wIdx : List (Nat × Nat)) (dictSkip : TC) (x w : List α) (cache : Option (List TC)) (skip : List Nat) :
    match_criterion ops modules 0 chIdx wIdx dictSkip x w cache skip = none := by
  cases cache <;> rfl

/-- **`FusionART.match_criterion`** = `np.nanmax` of the channels' answers, and their caches -/
theorem fusion_match_criterion_spec (ops : ModOps TM α TP TC) (chans : List (Chan α)) (modules : List TM) (n : Nat)
    (chIdx wIdx : List (Nat × Nat)) (gamma_values : List α) (dictSkip : TC)
    (L : Layout chans modules n chIdx wIdx gamma_values) (hn : 0 < n)
    (x w : List α) (cache : List TC) (hcache : cache.length = n) (skip : List Nat) :
    match_criterion ops modules n chIdx wIdx dictSkip x w (some cache) skip
      = some (Art.Misc.nanmax ((chanAnswers ops chans modules dictSkip x w cache skip).map (·.1)),
              (chanAnswers ops chans modules dictSkip x w cache skip).map (·.2)) := by
  have hlen : (modules.zip cache).length = n := by rw [List.length_zip, hcache, ← L.n_eq, Nat.min_self]
  unfold match_criterion chanAnswers
  dsimp only [Option.bind_eq_bind, Option.bind_some]
  rw [mapM_range_zipIdx hlen.symm (g := fun mck => if skip.contains mck.2 then (none, dictSkip)
    else ops.match_criterion mck.1.1 (slice (widths chans) mck.2 x) (slice (wlens chans) mck.2 w)
      (ops.params mck.1.1) mck.1.2)]
  · -- there is at least one channel, so neither `zip(*…)` nor `np.nanmax` raises
    have hne : ∀ {β : Type} (F : (TM × TC) × Nat → β), (modules.zip cache).zipIdx.map F ≠ [] := fun F =>
      List.ne_nil_of_length_pos (by rw [zipIdx_map_length, hlen]; exact hn)
    rw [Option.bind_some, pyUnzip2, if_neg (mt List.isEmpty_iff.1 (hne _)), Option.bind_some, npNanmax_eq,
      if_neg (mt List.map_eq_nil_iff.1 (hne _))]
    rfl
  · intro k mc hk hmc
    obtain ⟨hm, hc⟩ := List.getElem?_zip_eq_some.1 hmc
    obtain ⟨m', -, p, q, hm', -, hp, hq, -, hsx, hsw⟩ := L.reads hk
    cases hm.symm.trans hm'
    cases hs : skip.contains k <;>
      simp only [Bool.not_false, Bool.not_true, Bool.false_eq_true, if_true, if_false, hm, hc, hp, hq, hsx, hsw,
        Option.bind_some, Option.pure_def]

theorem maskedMatch_getElem? (chans : List (Chan α)) (skip : Nat → Bool) (x w : List α) (k : Nat) :
    (Art.Misc.maskedMatch chans skip x w)[k]? = (chans[k]?).map (fun c =>
      if skip k then none else some (c.K.matchv (slice (widths chans) k x) (slice (wlens chans) k w))) := by
  unfold Art.Misc.maskedMatch matchVec
  rw [zipIdx_map_getElem?, zipIdx_map_getElem?]
  cases chans[k]? <;> rfl

/-- the answers' values, when every module's match value is its channel kernel's `matchv` -/
theorem chanAnswers_values (ops : ModOps TM α TP TC) (chans : List (Chan α)) (modules : List TM) (dictSkip : TC)
    (hlen : modules.length = chans.length)
    (hK : ∀ (k : Nat) m (c : Chan α), modules[k]? = some m → chans[k]? = some c → ∀ xi wi cc,
      (ops.match_criterion m xi wi (ops.params m) cc).1 = some (c.K.matchv xi wi))
    (x w : List α) (cache : List TC) (hcache : cache.length = modules.length) (skip : List Nat) :
    (chanAnswers ops chans modules dictSkip x w cache skip).map (·.1)
      = Art.Misc.maskedMatch chans (fun k => skip.contains k) x w := by
  rw [chanAnswers, List.map_map, Art.Misc.maskedMatch]
  apply zipIdx_map_congr (by rw [List.length_zip, hcache, Nat.min_self, matchVec, zipIdx_map_length, hlen])
  intro k mc v hmc hv
  obtain ⟨hm, -⟩ := List.getElem?_zip_eq_some.1 hmc
  rw [matchVec, zipIdx_map_getElem?] at hv
  obtain ⟨c, hc, rfl⟩ := Option.map_eq_some_iff.1 hv
  show (if skip.contains k then (none, dictSkip) else _).1 = if skip.contains k then none else some _
  cases skip.contains k
  · exact hK k _ c hm hc _ _ _
  · rfl

/-- **`FusionART.match_criterion`'s value on the model**: `np.nanmax` of the channel match values `Fusion.matchVec`,
the skipped channels masked by NaN — `Misc.fusionMatch` -/
theorem fusion_match_criterion_model (ops : ModOps TM α TP TC) (chans : List (Chan α)) (modules : List TM) (n : Nat)
    (chIdx wIdx : List (Nat × Nat)) (gamma_values : List α) (dictSkip : TC)
    (L : Layout chans modules n chIdx wIdx gamma_values) (hn : 0 < n)
    (hK : ∀ (k : Nat) m (c : Chan α), modules[k]? = some m → chans[k]? = some c → ∀ xi wi cc,
      (ops.match_criterion m xi wi (ops.params m) cc).1 = some (c.K.matchv xi wi))
    (x w : List α) (cache : List TC) (hcache : cache.length = n) (skip : List Nat) :
    (match_criterion ops modules n chIdx wIdx dictSkip x w (some cache) skip).map (·.1)
      = some (Art.Misc.fusionMatch chans (fun k => skip.contains k) x w) := by
  rw [fusion_match_criterion_spec ops chans modules n chIdx wIdx gamma_values dictSkip L hn x w cache hcache skip]
  obtain ⟨hn', hlen, -, -, -⟩ := L
  subst hn'
  simp only [Option.map_some, Art.Misc.fusionMatch]
  rw [chanAnswers_values ops chans modules dictSkip hlen hK x w cache hcache skip]

/-- the returned cache: per channel, the module's own returned cache, the constant `{"match_criterion": inf}` for a
skipped channel -/
theorem fusion_match_criterion_caches (ops : ModOps TM α TP TC) (chans : List (Chan α)) (modules : List TM) (n : Nat)
    (chIdx wIdx : List (Nat × Nat)) (gamma_values : List α) (dictSkip : TC)
    (L : Layout chans modules n chIdx wIdx gamma_values) (hn : 0 < n)
    (x w : List α) (cache : List TC) (hcache : cache.length = n) (skip : List Nat) :
    ∃ out, match_criterion ops modules n chIdx wIdx dictSkip x w (some cache) skip = some out ∧
      out.2.length = n ∧
      ∀ (k : Nat) m cc, modules[k]? = some m → cache[k]? = some cc →
        out.2[k]? = some (if skip.contains k then dictSkip
          else (ops.match_criterion m (slice (widths chans) k x) (slice (wlens chans) k w) (ops.params m) cc).2) := by
  refine ⟨_, fusion_match_criterion_spec ops chans modules n chIdx wIdx gamma_values dictSkip L hn x w cache hcache skip,
    ?_, ?_⟩
  · rw [List.length_map, chanAnswers, zipIdx_map_length, List.length_zip, hcache, ← L.n_eq, Nat.min_self]
  · intro k m cc hm hcc
    show ((chanAnswers ops chans modules dictSkip x w cache skip).map (·.2))[k]? = _
    rw [chanAnswers, List.map_map, zipIdx_map_getElem?, List.getElem?_zip_eq_some (z := (m, cc)) |>.2 ⟨hm, hcc⟩]
    exact congrArg some (apply_ite Prod.snd _ _ _)

/-! ### what the value is -/

theorem nanmax_none_iff (l : List (Option α)) : Art.Misc.nanmax l = none ↔ ∀ t ∈ l, t = none := by
  induction l with
  | nil => exact ⟨fun _ _ h => (nomatch h), fun _ => rfl⟩
  | cons t l ih => rw [nanmax_cons, fmax_eq_none, ih, List.forall_mem_cons]

theorem fmax_eq_some {a b : Option α} {v : α} (h : fmax a b = some v) :
    (∀ x, a = some x → x ≤ v) ∧ (∀ y, b = some y → y ≤ v) ∧ (a = some v ∨ b = some v) := by
  cases a with
  | none => exact ⟨nofun, fun y hy => le_of_eq (Option.some.inj (hy.symm.trans h)), Or.inr h⟩
  | some a =>
    cases b with
    | none =>
      cases h
      exact ⟨fun _ hx => le_of_eq (Option.some.inj hx).symm, nofun, Or.inl rfl⟩
    | some b =>
      cases h
      exact ⟨fun _ hx => Option.some.inj hx ▸ le_max_left a b, fun _ hy => Option.some.inj hy ▸ le_max_right a b,
        (max_choice a b).imp (congrArg some ·.symm) (congrArg some ·.symm)⟩

theorem nanmax_some (l : List (Option α)) (v : α) (h : Art.Misc.nanmax l = some v) :
    (∀ a, some a ∈ l → a ≤ v) ∧ some v ∈ l := by
  induction l generalizing v with
  | nil => cases h
  | cons t l ih =>
    rw [nanmax_cons] at h
    obtain ⟨h1, h2, h3⟩ := fmax_eq_some h
    refine ⟨fun a ha => ?_, h3.elim (fun ht => ht ▸ List.mem_cons_self) fun hl => List.mem_cons_of_mem _ (ih v hl).2⟩
    rcases List.mem_cons.1 ha with ha | ha
    · exact h1 a ha.symm
    · cases hl : Art.Misc.nanmax l with
      | none => cases (nanmax_none_iff l).1 hl _ ha
      | some c => exact ((ih c hl).1 a ha).trans (h2 c hl)

theorem mem_maskedMatch (chans : List (Chan α)) (skip : Nat → Bool) (x w : List α) (t : Option α) :
    t ∈ Art.Misc.maskedMatch chans skip x w ↔
      ∃ (k : Nat) (c : Chan α), chans[k]? = some c ∧
        t = if skip k then none else some (c.K.matchv (slice (widths chans) k x) (slice (wlens chans) k w)) := by
  constructor
  · intro h
    obtain ⟨k, hk⟩ := List.getElem?_of_mem h
    rw [maskedMatch_getElem?] at hk
    obtain ⟨c, hc, rfl⟩ := Option.map_eq_some_iff.1 hk
    exact ⟨k, c, hc, rfl⟩
  · rintro ⟨k, c, hc, rfl⟩
    apply List.mem_of_getElem? (i := k)
    rw [maskedMatch_getElem?, hc]
    rfl

/-- **the value is the largest match value among the channels that are not skipped**: an upper bound, attained -/
theorem fusionMatch_is_max (chans : List (Chan α)) (skip : Nat → Bool) (x w : List α) (v : α)
    (h : Art.Misc.fusionMatch chans skip x w = some v) :
    (∀ (k : Nat) (c : Chan α), chans[k]? = some c → skip k = false →
        c.K.matchv (slice (widths chans) k x) (slice (wlens chans) k w) ≤ v) ∧
    ∃ (k : Nat) (c : Chan α), chans[k]? = some c ∧ skip k = false ∧
        v = c.K.matchv (slice (widths chans) k x) (slice (wlens chans) k w) := by
  obtain ⟨h1, h2⟩ := nanmax_some _ v h
  constructor
  · intro k c hc hs
    apply h1
    rw [mem_maskedMatch]
    exact ⟨k, c, hc, by rw [hs]; rfl⟩
  · rw [mem_maskedMatch] at h2
    obtain ⟨k, c, hc, hv⟩ := h2
    cases hs : skip k with
    | true => rw [hs] at hv; cases hv
    | false =>
      rw [hs] at hv
      exact ⟨k, c, hc, hs, Option.some.inj hv⟩

/-- it is NaN exactly when every channel is skipped (numpy: "All-NaN slice encountered") -/
theorem fusionMatch_none_iff (chans : List (Chan α)) (skip : Nat → Bool) (x w : List α) :
    Art.Misc.fusionMatch chans skip x w = none ↔ ∀ k, k < chans.length → skip k = true := by
  unfold Art.Misc.fusionMatch
  rw [nanmax_none_iff]
  constructor
  · intro h k hk
    have := h _ ((mem_maskedMatch chans skip x w _).2 ⟨k, chans[k], List.getElem?_eq_getElem hk, rfl⟩)
    cases hs : skip k with
    | true => rfl
    | false => rw [hs] at this; cases this
  · intro h t ht
    rw [mem_maskedMatch] at ht
    obtain ⟨k, c, hc, rfl⟩ := ht
    rw [h k (List.getElem?_eq_some_iff.1 hc).1]
    rfl

/-- **the value does not depend on the skipped columns** (C11's clause, for the match value): two samples that agree on
the slices of the channels that are not skipped get the same `match_criterion` -/
theorem fusion_match_skip_independent (chans : List (Chan α)) (skip : Nat → Bool) (x x' w : List α)
    (hx : ∀ k, k < chans.length → skip k = false → slice (widths chans) k x = slice (widths chans) k x') :
    Art.Misc.fusionMatch chans skip x w = Art.Misc.fusionMatch chans skip x' w := by
  unfold Art.Misc.fusionMatch
  congr 1
  apply List.ext_getElem?
  intro k
  rw [maskedMatch_getElem?, maskedMatch_getElem?]
  cases hc : chans[k]? with
  | none => rfl
  | some c =>
    have hk := (List.getElem?_eq_some_iff.1 hc).1
    cases hs : skip k with
    | true => rfl
    | false => rw [hx k hk hs]

end Match

/-! ### the relation with the resonance test `match_criterion_bin` -/
section MatchBin
open Art.Gen.Misc.FusionART
variable {TM TP TC α : Type} [Field α] [LinearOrder α] [IsStrictOrderedRing α]

/-- **transport of `C10.fusion_match_all`**: when the fused vigilance test of the training loop passes with a
non-strict operator (MT+, MT-, MT1), every channel has `rho_k ≤ m_k`, and the *generated* `match_criterion` (no channel
skipped) returns a number that is at least every `m_k`: the resonance test implies `match_criterion ≥ rho_k` for all k -/
theorem gen_fusion_resonance_bound (ops : ModOps TM α TP TC) (chans : List (Chan α)) (modules : List TM) (n : Nat)
    (chIdx wIdx : List (Nat × Nat)) (gamma_values : List α) (dictSkip : TC)
    (L : Layout chans modules n chIdx wIdx gamma_values) (hn : 0 < n)
    (hK : ∀ (k : Nat) m (c : Chan α), modules[k]? = some m → chans[k]? = some c → ∀ xi wi cc,
      (ops.match_criterion m xi wi (ops.params m) cc).1 = some (c.K.matchv xi wi))
    (x w : List α) (cache : List TC) (hcache : cache.length = n)
    (mode : MT) (hmode : mtStrict mode = false) (adjP adjM : α → α) (top : α) (th : List α)
    (hpass : (fusionCfg mode adjP adjM top).passes th ((fusionKernel chans).matchv x w) = true) :
    ∃ v caches, match_criterion ops modules n chIdx wIdx dictSkip x w (some cache) [] = some (some v, caches) ∧
      ∀ (k : Nat) (c : Chan α) (rho : α), chans[k]? = some c → th[k]? = some rho →
        rho ≤ c.K.matchv (slice (widths chans) k x) (slice (wlens chans) k w) ∧
        c.K.matchv (slice (widths chans) k x) (slice (wlens chans) k w) ≤ v := by
  have hspec := fusion_match_criterion_spec ops chans modules n chIdx wIdx gamma_values dictSkip L hn x w cache hcache []
  have hmodel := fusion_match_criterion_model ops chans modules n chIdx wIdx gamma_values dictSkip L hn hK x w cache
    hcache []
  rw [hspec] at hmodel
  simp only [Option.map_some, Option.some.injEq] at hmodel
  obtain ⟨hn', hlen, -, -, -⟩ := L
  subst hn'
  cases hv : Art.Misc.fusionMatch chans (fun k => ([] : List Nat).contains k) x w with
  | none =>
    rw [fusionMatch_none_iff] at hv
    cases hv 0 (hlen ▸ hn)
  | some v =>
    refine ⟨v, _, by rw [hspec, hmodel, hv], ?_⟩
    intro k c rho hc hr
    have hall := (Art.C10.fusion_match_all chans mode adjP adjM top th x w).1 hpass k c rho hc hr
    constructor
    · simpa only [passesScalar, hmode, decide_eq_true_eq] using hall
    · exact (fusionMatch_is_max chans _ x w v hv).1 k c hc rfl

/-- two constant-match channels: match values 1 and 0 -/
def exKernel (m : ℚ) : Kernel (List ℚ) (List ℚ) ℚ ℚ :=
  { choice := fun _ _ _ => some 0, matchv := fun _ _ => m, update := fun _ w => w, newW := fun x => x }

/-- **…but not conversely**: `match_criterion` is the *largest* channel match, the resonance test
(`match_criterion_bin`) is the *conjunction* of the channel tests.  Two channels with match values 1 and 0 and
vigilances 1/2, 1/2: `match_criterion = 1 ≥ rho_k` for both k, and `match_criterion_bin` is false.  (So thresholding
FusionART.match_criterion the way `BaseART.match_criterion_bin` thresholds a module's value would not be FusionART's
resonance test; FusionART overrides `match_criterion_bin` and never calls its own `match_criterion`.) -/
theorem fusion_match_not_bin :
    Art.Misc.fusionMatch [⟨exKernel 1, 1, 1/2, 1⟩, ⟨exKernel 0, 1, 1/2, 1⟩] noSkip [0, 0] [0, 0] = some (1 : ℚ) ∧
    matchBinSkip MT.plus noSkip [1/2, 1/2]
      (matchVec [⟨exKernel 1, 1, 1/2, 1⟩, ⟨exKernel 0, 1, 1/2, 1⟩] [0, 0] [0, 0]) = false := by
  constructor <;> decide +kernel

/-! #### the generated code runs: two FuzzyART channels over ℚ (widths 2 | 2, `d = 1`); a module is its channel -/

def exChans : List (Chan ℚ) := [⟨fuzzyKernel (1/4) 1 1, 2, 1/2, 2⟩, ⟨fuzzyKernel (1/4) 1 1, 2, 1/2, 2⟩]
/-- a module's cache is a number (the match value it stored), its params are trivial -/
def exOps : ModOps (Chan ℚ) ℚ Unit ℚ :=
  { match_criterion := fun m xi wi _ _ => (some (m.K.matchv xi wi), m.K.matchv xi wi), params := fun _ => () }

example : match_criterion exOps exChans 2 [(0, 2), (2, 4)] [(0, 2), (2, 4)] (-1) [1/2, 1/2, 1, 0] [1/2, 1/4, 1/2, 0]
    (some [0, 0]) [] = some (some (3/4), [3/4, 1/2]) := by decide +kernel
-- channel 0 skipped: its value is ignored, its cache is the constant
example : match_criterion exOps exChans 2 [(0, 2), (2, 4)] [(0, 2), (2, 4)] (-1) [1/2, 1/2, 1, 0] [1/2, 1/4, 1/2, 0]
    (some [0, 0]) [0] = some (some (1/2), [-1, 1/2]) := by decide +kernel
-- every channel skipped: NaN
example : match_criterion exOps exChans 2 [(0, 2), (2, 4)] [(0, 2), (2, 4)] (-1) [1/2, 1/2, 1, 0] [1/2, 1/4, 1/2, 0]
    (some [0, 0]) [0, 1] = some (none, [-1, -1]) := by decide +kernel
-- a cache that is too short raises (KeyError)
example : match_criterion exOps exChans 2 [(0, 2), (2, 4)] [(0, 2), (2, 4)] (-1) [1/2, 1/2, 1, 0] [1/2, 1/4, 1/2, 0]
    (some [0]) [] = none := by decide +kernel
example : Layout exChans exChans 2 [(0, 2), (2, 4)] [(0, 2), (2, 4)] [1/2, 1/2] :=
  ⟨rfl, rfl, by decide, by decide, rfl⟩

end MatchBin

/-! ## 2. FALCON.get_probabilistic_action -/
section Prob
open Art.Gen.Misc.FALCON Art.Falcon Art.Misc
variable {F α θ : Type} [Field α] [LinearOrder α] [IsStrictOrderedRing α]

theorem probFloor_pos : (0 : α) < probFloor := by
  unfold probFloor
  positivity

theorem decLit_floor : (decLit 1 4 : α) = probFloor := rfl

theorem clipProb_ge (offset p : α) : probFloor ≤ clipProb offset p := le_max_right _ _

theorem clipProb_pos (offset p : α) : 0 < clipProb offset p := probFloor_pos.trans_le (clipProb_ge offset p)

theorem clipProb_mono (offset : α) {a b : α} (h : a ≤ b) : clipProb offset a ≤ clipProb offset b :=
  max_le_max (min_le_min h le_rfl) le_rfl

theorem npSum_eq_sum (l : List α) : npSum l = l.sum := List.sum_eq_foldl.symm

theorem sum_map_div (l : List α) (s : α) : (l.map (· / s)).sum = l.sum / s := by
  induction l with
  | nil => exact (zero_div s).symm
  | cons a l ih => rw [List.map_cons, List.sum_cons, List.sum_cons, ih, add_div]

theorem rewardDist_eq_map (inv : Bool) (rs : List α) :
    rewardDist inv rs = rs.map fun r =>
      (fun p => if inv then 1 - p else p) (if 0 < rs.sum then r / rs.sum else r) := by
  unfold rewardDist normalise
  by_cases ht : 0 < rs.sum <;> cases inv <;>
    simp only [ht, if_true, if_false, Bool.false_eq_true, List.map_map, List.map_id', Function.comp_def]

theorem rewardDist_length (inv : Bool) (rs : List α) : (rewardDist inv rs).length = rs.length := by
  rw [rewardDist_eq_map, List.length_map]

/-- a bounded vector has a positive sum: the second normalisation never divides by zero -/
theorem clipped_sum_pos (offset : α) (d : List α) (hne : d ≠ []) : 0 < (d.map (clipProb offset)).sum :=
  List.sum_pos _ (fun a ha => by obtain ⟨p, -, rfl⟩ := List.mem_map.1 ha; exact clipProb_pos offset p)
    (mt List.map_eq_nil_iff.1 hne)

theorem normalise_clipped (offset : α) (d : List α) (hne : d ≠ []) :
    (normalise (d.map (clipProb offset))).length = d.length ∧
      (∀ q ∈ normalise (d.map (clipProb offset)), 0 < q) ∧ (normalise (d.map (clipProb offset))).sum = 1 := by
  have hS := clipped_sum_pos offset d hne
  refine ⟨by rw [normalise, List.length_map, List.length_map], fun q hq => ?_, ?_⟩
  · obtain ⟨c, hc, rfl⟩ := List.mem_map.1 hq
    obtain ⟨p, -, rfl⟩ := List.mem_map.1 hc
    exact div_pos (clipProb_pos offset p) hS
  · rw [normalise, sum_map_div, div_self hS.ne']

/-- **every action probability is positive and they sum to 1** — for every reward vector (negative entries and the
all-zero vector included), every `offset` (in particular every `offset ≥ 0`, also below the floor 1e-4), "max" and
"min": the vector handed to `np.random.choice` is a probability vector -/
theorem probVector_pos_sum (offset : α) (inv : Bool) (rs : List α) (hne : rs ≠ []) :
    (probVector offset inv rs).length = rs.length ∧ (∀ q ∈ probVector offset inv rs, 0 < q) ∧
      (probVector offset inv rs).sum = 1 := by
  have h := normalise_clipped offset (rewardDist inv rs)
    (List.ne_nil_of_length_pos (by rw [rewardDist_length]; exact List.length_pos_of_ne_nil hne))
  rwa [rewardDist_length] at h

/-- **the generated arithmetic after the first normalisation**: bound, normalise (never by zero), draw, look the action
up — for every intermediate vector `d` -/
theorem prob_pipeline_spec (choice : List α → Nat) (sp : List (List α)) (offset : α) (d : List α) :
    ((npDivS1 (npMaximumS1 (npMinimumS1 d offset) (decLit 1 4))
        (npSum (npMaximumS1 (npMinimumS1 d offset) (decLit 1 4)))).bind fun p =>
      (npRandomChoice1 choice (List.range sp.length) p).bind fun a =>
        a[0]?.bind fun i => sp[i]?.bind fun r => r[0]?)
      = if d ≠ [] ∧ sp.length = d.length then
          (sp[choice (normalise (d.map (clipProb offset)))]?).bind (·[0]?)
        else none := by
  have hc : npMaximumS1 (npMinimumS1 d offset) (decLit 1 4) = d.map (clipProb offset) := List.map_map
  rw [hc, npSum_eq_sum, npDivS1]
  by_cases hne : d = []
  · subst hne
    rw [if_pos (show (List.map (clipProb offset) ([] : List α)).sum = 0 from rfl), if_neg fun h => h.1 rfl]
    rfl
  · obtain ⟨hl, hpos, hsum⟩ := normalise_clipped offset d hne
    rw [if_neg (clipped_sum_pos offset d hne).ne']
    show (npRandomChoice1 choice (List.range sp.length) (normalise (d.map (clipProb offset)))).bind _ = _
    rw [npRandomChoice1, List.length_range]
    by_cases hlen : sp.length = d.length
    · -- numpy's checks on `p` pass: the draw is a position of `range(len(action_space))`
      rw [if_pos (show d ≠ [] ∧ sp.length = d.length from ⟨hne, hlen⟩),
        if_pos ⟨fun h => hne (List.length_eq_zero_iff.1 (hlen ▸ h)), hlen.trans hl.symm,
        List.all_eq_true.2 fun q hq => decide_eq_true (hpos q hq).le, (npSum_eq_sum _).trans hsum⟩]
      by_cases hi : choice (normalise (d.map (clipProb offset))) < sp.length
      · rw [List.getElem?_range hi]
        rfl
      · rw [List.getElem?_eq_none (by rw [List.length_range]; exact Nat.not_lt.1 hi), List.getElem?_eq_none (Nat.not_lt.1 hi)]
        rfl
    · rw [if_neg (show ¬(d ≠ [] ∧ sp.length = d.length) from fun h => hlen h.2), if_neg fun h => hlen (h.2.1.trans hl)]
      rfl

/-- the first normalisation, as generated on the (n, 1) array: guarded by `total > 0`, so it never divides by zero -/
theorem first_normalisation (R : List (List α)) :
    ∃ R', (if decide (npSum2 R > 0) = true then npDivS2 R (npSum2 R) >>= fun r => pure r else pure R) = some R' ∧
      R'.flatten = if 0 < R.flatten.sum then normalise R.flatten else R.flatten := by
  rw [npSum2, npSum_eq_sum]
  by_cases ht : 0 < R.flatten.sum
  · refine ⟨R.map (·.map (· / R.flatten.sum)), ?_, ?_⟩
    · rw [if_pos (decide_eq_true ht), npDivS2, if_neg ht.ne']
      rfl
    · rw [if_pos ht, ← List.map_flatten]
      rfl
  · exact ⟨R, by rw [if_neg (by rwa [decide_eq_true_iff])]; rfl, by rw [if_neg ht]⟩

theorem get_probabilistic_action_spec (ops : Art.Gen.FALCON.FusionOps F α) (choice : List α → Nat) (fa : F)
    (state : List α) (space : Option (List (List α))) (offset : α) (optimality : String) :
    get_probabilistic_action ops choice fa state space offset optimality
      = (Art.Gen.FALCON.get_actions_and_rewards ops fa state space).bind (fun sr =>
          if sr.2.flatten ≠ [] ∧ sr.1.length = sr.2.flatten.length then
            probAction choice sr.1 sr.2 offset (optimality == "min")
          else none) := by
  unfold get_probabilistic_action
  dsimp only
  cases Art.Gen.FALCON.get_actions_and_rewards ops fa state space with
  | none => rfl
  | some sr =>
    obtain ⟨sp, R⟩ := sr
    obtain ⟨R', hR', hflat⟩ := first_normalisation R
    have hd : (if (optimality == "min") = true then npSSub1 1 R'.flatten else R'.flatten)
        = rewardDist (optimality == "min") R.flatten := by
      rw [hflat]
      rfl
    rw [Option.bind_some]
    show (if _ then _ >>= _ else _ >>= _) = _
    rw [ite_bind, hR']
    show (if _ then _ >>= _ else _ >>= _) = _
    rw [ite_bind, ← apply_ite pure, pure_bind, hd]
    refine (prob_pipeline_spec choice sp offset _).trans (if_congr ?_ rfl rfl)
    rw [rewardDist_length, ← List.length_pos_iff, ← List.length_pos_iff, rewardDist_length]

/-- **`get_probabilistic_action` never raises on a well-formed query**: when `get_actions_and_rewards` answers with one
scalar reward per member of a non-empty action space of non-empty actions, and the draw is a position of the
probability vector (what `np.random.choice` returns), the call succeeds and returns the first coordinate of the drawn
member — for **every** reward array (all-zero, negative) and **every** `offset`.  Neither normalisation can divide by
zero: the first is guarded by `total > 0`, the second divides by a sum of terms ≥ 1e-4. -/
theorem get_probabilistic_action_total (ops : Art.Gen.FALCON.FusionOps F α) (choice : List α → Nat)
    (hchoice : ∀ p : List α, p ≠ [] → choice p < p.length) (fa : F)
    (state : List α) (space : Option (List (List α))) (offset : α) (optimality : String)
    (sp R : List (List α)) (hget : Art.Gen.FALCON.get_actions_and_rewards ops fa state space = some (sp, R))
    (hR : R.flatten.length = sp.length) (hsp : sp ≠ []) (hact : ∀ a ∈ sp, a ≠ []) :
    ∃ a a0, sp[choice (probVector offset (optimality == "min") R.flatten)]? = some a ∧ a[0]? = some a0 ∧
      get_probabilistic_action ops choice fa state space offset optimality = some a0 := by
  have hne : R.flatten ≠ [] := fun h => hsp (List.length_eq_zero_iff.1 (by rw [← hR, h]; rfl))
  obtain ⟨hl, -, -⟩ := probVector_pos_sum offset (optimality == "min") R.flatten hne
  have hi : choice (probVector offset (optimality == "min") R.flatten) < sp.length := by
    rw [← hR, ← hl]
    exact hchoice _ (List.ne_nil_of_length_pos (hl ▸ List.length_pos_of_ne_nil hne))
  obtain ⟨a, ha⟩ : ∃ a, sp[choice (probVector offset (optimality == "min") R.flatten)]? = some a :=
    ⟨_, List.getElem?_eq_getElem hi⟩
  obtain ⟨a0, ha0⟩ : ∃ a0, a[0]? = some a0 :=
    ⟨_, List.getElem?_eq_getElem (List.length_pos_of_ne_nil (hact a (List.mem_of_getElem? ha)))⟩
  refine ⟨a, a0, ha, ha0, ?_⟩
  rw [get_probabilistic_action_spec, hget, Option.bind_some, if_pos ⟨hne, hR.symm⟩, probAction, ha]
  exact ha0

/-- **on the FusionART model** (FalconSpec's `Tie`): the action space and the predicted rewards are the model's
`actionSpace` / `actionRewards` -/
theorem get_probabilistic_action_model {ops : Art.Gen.FALCON.FusionOps F α} {chans : List (Chan α)}
    {centre prep : Nat → List α → List α} {st : F → ArtState (List α)} {cfg : SearchCfg (List α) θ} {th0 : θ}
    (T : Art.GenSpec.Falcon.Tie ops chans centre prep st cfg th0) (choice : List α → Nat) (fa : F)
    (state : List α) (space : Option (List (List α))) (offset : α) (optimality : String) :
    get_probabilistic_action ops choice fa state space offset optimality
      = (allSome (actionRewards chans (centre 1) (centre 2) (prep 1) (st fa).W state space)).bind (fun rs =>
          if rs.flatten ≠ [] ∧ (actionSpace chans (centre 1) (st fa).W space).length = rs.flatten.length then
            probAction choice (actionSpace chans (centre 1) (st fa).W space) rs offset (optimality == "min")
          else none) := by
  rw [get_probabilistic_action_spec, Art.GenSpec.Falcon.get_actions_and_rewards_spec T]
  cases allSome (actionRewards chans (centre 1) (centre 2) (prep 1) (st fa).W state space) <;> rfl

/-- **"min" inverts, "max" does not**: the probability of an action is a monotone function of its predicted reward for
`optimality = "max"`, an antitone one for "min" (the same function for all members of the action space) -/
theorem prob_min_inverts (offset : α) (inv : Bool) (rs : List α) :
    ∃ f : α → α, probVector offset inv rs = rs.map f ∧
      ∀ a b, a ≤ b → if inv then f b ≤ f a else f a ≤ f b := by
  have hS : 0 ≤ ((rewardDist inv rs).map (clipProb offset)).sum :=
    List.sum_nonneg fun a ha => by obtain ⟨p, -, rfl⟩ := List.mem_map.1 ha; exact (clipProb_pos offset p).le
  refine ⟨fun r => clipProb offset ((fun p => if inv then 1 - p else p) (if 0 < rs.sum then r / rs.sum else r)) /
    ((rewardDist inv rs).map (clipProb offset)).sum, ?_, fun a b hab => ?_⟩
  · rw [probVector, normalise, rewardDist_eq_map, List.map_map, List.map_map]
    rfl
  · -- before the inversion the entry of the reward distribution is monotone in the reward
    have hp : (if 0 < rs.sum then a / rs.sum else a) ≤ (if 0 < rs.sum then b / rs.sum else b) := by
      split
      · exact div_le_div_of_nonneg_right hab (le_of_lt ‹_›)
      · exact hab
    cases inv with
    | false => exact div_le_div_of_nonneg_right (clipProb_mono offset hp) hS
    | true => exact div_le_div_of_nonneg_right (clipProb_mono offset (sub_le_sub_left hp 1)) hS

/-- **the nesting of the bounds matters** (seeded C04m): with the cap `offset = 0` the source's
`np.maximum(np.minimum(p, 0), 1e-4)` is the floor 1e-4 for every `p` (uniform draw), whereas `np.clip(p, 1e-4, 0)` =
`np.minimum(np.maximum(p, 1e-4), 0)` is 0 for every `p`: all "probabilities" 0, and the normalisation divides by zero -/
theorem clip_nesting_matters (p : α) (v : List α) :
    clipProb 0 p = probFloor ∧ npClip1 v (decLit 1 4) (0 : α) = v.map (fun _ => 0) ∧
      npDivS1 (npClip1 v (decLit 1 4) (0 : α)) (npSum (npClip1 v (decLit 1 4) (0 : α))) = none := by
  have hfl := probFloor_pos (α := α)
  have h2 : npClip1 v (decLit 1 4) (0 : α) = v.map (fun _ => 0) := by
    unfold npClip1
    apply List.map_congr_left
    intro x _
    rw [decLit_floor]
    exact min_eq_right (le_trans (le_of_lt hfl) (le_max_right _ _))
  refine ⟨?_, h2, ?_⟩
  · unfold clipProb
    exact max_eq_right (le_trans (min_le_right _ _) (le_of_lt hfl))
  · rw [h2, npSum_eq_sum]
    exact if_pos List.sum_map_zero

end Prob

/-! #### the generated code runs: FalconSpec's three-channel FuzzyART FALCON over ℚ, trained on three transitions;
the generator is "the first most probable position" -/
section ProbExample
open Art.Gen.Misc.FALCON Art.GenSpec.Falcon

def exChoice (p : List ℚ) : Nat := (Art.argmaxFirst p).getD 0

-- rewards 1/4 (action 0) and 1/2 (action 1) in state [0,1]: normalised 1/3, 2/3; capped at offset = 1/2: 1/3, 1/2
example : get_probabilistic_action Falcon.exOps exChoice exFa [0, 1] (some [[0], [1]]) (1/2) "max" = some 1 := by
  decide +kernel
-- "min": 1 - p = 2/3, 1/3, capped 1/2, 1/3: action 0
example : get_probabilistic_action Falcon.exOps exChoice exFa [0, 1] (some [[0], [1]]) (1/2) "min" = some 0 := by
  decide +kernel
-- offset = 0 (every probability at the floor: uniform) still answers; the first position wins the tie
example : get_probabilistic_action Falcon.exOps exChoice exFa [0, 1] (some [[0], [1]]) 0 "max" = some 0 := by
  decide +kernel
-- an untrained object has no reward centre to read: the call raises (as get_action does)
example : get_probabilistic_action Falcon.exOps exChoice {} [0, 1] (some [[0], [1]]) (1/2) "max" = none := by
  decide +kernel
-- the probability vector itself; the all-zero reward vector gives the uniform distribution (F46)
example : Art.Misc.probVector (1/2 : ℚ) false [1/4, 1/2] = [2/5, 3/5] := by decide +kernel
example : Art.Misc.probVector (1/10 : ℚ) false [0, 0, 0, 0] = [1/4, 1/4, 1/4, 1/4] := by decide +kernel
example : Art.Misc.probVector (0 : ℚ) true [0, 3] = [1/2, 1/2] := by decide +kernel

end ProbExample

/-! ## 3. CVIART._set_params / _deep_copy_params, BaseART.shrink_clusters -/
section Plumb
open Art.Gen.Misc.CVIART
variable {TP TR TS α : Type}

/-- **`CVIART._set_params(new_params)`** stores `new_params` as the held `base_module`'s `params` -/
theorem cvi_set_params_spec (s : Wrapper TP TR TS) (p : TP) :
    _set_params s p = { s with base_module := { s.base_module with params := p } } := rfl

/-- **`CVIART._deep_copy_params()`** returns (a copy of) the held `base_module`'s `params` -/
theorem cvi_deep_copy_params_spec (s : Wrapper TP TR TS) : _deep_copy_params s = s.base_module.params := rfl

/-- reading after writing returns what was written -/
theorem cvi_get_set (s : Wrapper TP TR TS) (p : TP) : _deep_copy_params (_set_params s p) = p := rfl

/-- writing back what was read changes nothing -/
theorem cvi_set_get (s : Wrapper TP TR TS) : _set_params s (_deep_copy_params s) = s := rfl

/-- the second write wins; in particular the save / track / restore bracket of `BaseART.step_fit` (C07's mechanism:
`base_params = self._deep_copy_params()` … `self._set_params(base_params)`) restores the wrapper exactly -/
theorem cvi_set_set (s : Wrapper TP TR TS) (p q : TP) :
    _set_params (_set_params s p) q = _set_params s q ∧
      _set_params (_set_params s p) (_deep_copy_params s) = s := ⟨rfl, rfl⟩

/-- `_set_params` touches nothing but `base_module.params` -/
theorem cvi_set_frame (s : Wrapper TP TR TS) (p : TP) :
    (_set_params s p).rest = s.rest ∧ (_set_params s p).base_module.rest = s.base_module.rest := ⟨rfl, rfl⟩

/-- **`BaseART.shrink_clusters(shrink_ratio)`** (the base class's default) returns the estimator unchanged -/
theorem shrink_clusters_spec (s : TS) (r : α) : Art.Gen.Misc.BaseART.shrink_clusters s r = s := rfl

example : _deep_copy_params (_set_params (⟨⟨3, "W"⟩, "cvi"⟩ : Wrapper Nat String String) 7) = 7 := by decide
example : (_set_params (⟨⟨3, "W"⟩, "cvi"⟩ : Wrapper Nat String String) 7).base_module.rest = "W" := by decide
example : Art.Gen.Misc.BaseART.shrink_clusters (5 : Nat) (1/10 : ℚ) = 5 := by decide

end Plumb

end Art.GenSpec.Misc
