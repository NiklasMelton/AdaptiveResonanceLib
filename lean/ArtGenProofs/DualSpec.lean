/-
ArtGenProofs.DualSpec — `DualVigilanceART.step_fit`, `step_pred` and `n_clusters`, as translated from the Python
source by `harness/artv/dtrans.py` (ArtGen/Dual.lean), compute the model's `dualStepFit`, `dualStepPred`, `nClusters`
(ArtModel/DualVig.lean) — for every state, sample, reset function, match-tracking mode and epsilon, under the kernel
contract `Contract` on the base module's methods; no bound on the number of categories.
-/
import Mathlib.Order.Basic
import Mathlib.Order.Defs.LinearOrder
import ArtGen.Dual
import ArtProofs.DualVig
import ArtProofs.Imp
import ArtProps.C13
import ArtGenProofs.GenSpec
import Mathlib.Algebra.Order.Field.Rat

namespace Art.GenSpec.Dual

open Art Art.Imp

set_option linter.unusedSectionVars false

/-! ### The dict `map` (keyed by category, `none` = absent) against the model's `List Nat` -/

theorem mapGet_map_some (m : List Nat) (c : Nat) : (mapGet (m.map some) c).getD 0 = m.getD c 0 := by
  rw [mapGet, List.getElem?_map, List.getD_eq_getElem?_getD]
  cases m[c]? <;> rfl

theorem mapPut_map_some_length (m : List Nat) (v : Nat) : mapPut (m.map some) m.length v = (m ++ [v]).map some := by
  simp [mapPut]

theorem dictValues_map_some (m : List Nat) : dictValues (m.map some) = m := by
  induction m with
  | nil => rfl
  | cons a as ih => simp [dictValues]

theorem getD_append_length (m : List Nat) (v : Nat) : (m ++ [v]).getD m.length 0 = v := by
  rw [List.getD_eq_getElem?_getD, List.getElem?_append_right (Nat.le_refl _), Nat.sub_self]
  rfl

section Loop
variable {P α μ θ : Type} [LinearOrder α]

/-- `any(T > 0)` as translated is the model's `anyPos` -/
theorem any_vecGtZero [Zero α] (T : List (Option α)) : ((vecGtZero T).any id) = anyPos (posOf (0 : α)) T :=
  List.any_map

/-- MT1 blanks the whole activation vector: the next guard fails -/
theorem anyPos_blank (pos : α → Bool) (T : List (Option α)) (c : Nat) :
    anyPos pos ((T.map (fun _ => (none : Option α))).set c none) = false := by
  refine List.any_eq_false.mpr fun t ht => ?_
  rcases List.mem_or_eq_of_mem_set ht with h | rfl
  · obtain ⟨_, _, rfl⟩ := List.mem_map.mp h
    exact Bool.false_ne_true
  · exact Bool.false_ne_true

/-- what one iteration of the translated loop body does, in the model's vocabulary (`pack p T` is the tuple of
loop-carried variables when the base module's params are `p` and the activation vector is `T`) -/
structure BodySpec {R S : Type} (cfg : SearchCfg μ θ) (lb : θ) (M : Nat → μ) (veto : Nat → Bool) (th : P → θ)
    (pack : P → List (Option α) → S) (resA resS : Nat → R) (body : S → Flow R S) (L : Nat) : Prop where
  step : ∀ (p : P) (T : List (Option α)) (c : Nat), T.length = L → nanargmax T = some c →
    if veto c then
      if cfg.passes (th p) (M c) then
        ∃ p1, th p1 = cfg.track (th p) (M c) ∧
          body (pack p T) = .next (pack p1 (if cfg.keep then T.set c none else (T.map (fun _ => none)).set c none))
      else body (pack p T) = .next (pack p (T.set c none))
    else if cfg.passes (th p) (M c) then body (pack p T) = .ret (resA c)
    else if cfg.passes lb (M c) then body (pack p T) = .ret (resS c)
    else body (pack p T) = .next (pack p (T.set c none))

/-- **the translated `while any(T > 0)` loop follows the model's `dualSearch`**: it returns from inside the loop
exactly when the model absorbs or spawns (with the corresponding value), and falls through when the model answers
`fresh` — for every fuel, every params state and every activation vector. -/
theorem loop_follows_dualSearch {R S : Type} (cfg : SearchCfg μ θ) (lb : θ) (pos : α → Bool) (M : Nat → μ)
    (veto : Nat → Bool) (th : P → θ) (pack : P → List (Option α) → S) (resA resS : Nat → R)
    (cond : S → Bool) (body : S → Flow R S)
    (hcond : ∀ p T, cond (pack p T) = anyPos pos T)
    (L : Nat) (hbody : BodySpec cfg lb M veto th pack resA resS body L) :
    ∀ (fuel : Nat) (p : P) (T : List (Option α)), T.length = L →
      match (dualSearch cfg lb pos M veto fuel T (th p)).outcome with
      | .absorb c => whileFuel cond body fuel (pack p T) = .ret (resA c)
      | .spawn c => whileFuel cond body fuel (pack p T) = .ret (resS c)
      | .fresh => ∃ p' T', whileFuel cond body fuel (pack p T) = .next (pack p' T') := by
  intro fuel
  induction fuel with
  | zero => intro p T _; exact ⟨p, T, rfl⟩
  | succ n ih =>
    intro p T hL
    cases hp : anyPos pos T with
    | false =>
      rw [dualSearch_of_not_anyPos hp]
      exact ⟨p, T, whileFuel_stop _ ((hcond p T).trans hp)⟩
    | true =>
      obtain ⟨c, hc⟩ := nanargmax_isSome_of_anyPos hp
      have hcd : cond (pack p T) = true := (hcond p T).trans hp
      have hs := hbody.step p T c hL hc
      have hih := fun p' => ih p' (T.set c none) (List.length_set.trans hL)
      rw [dualSearch_of_anyPos hp hc]
      -- the model's decision table in terms of the three Booleans; the cases below are those of `BodySpec.step`
      unfold dualVisit dVisit DVisit.decides dNextTh
      generalize veto c = v, cfg.passes (th p) (M c) = m1, cfg.passes lb (M c) = m2 at hs ⊢
      cases v <;> cases m1
      · cases m2
        · rw [whileFuel_next n hcd hs]; exact hih p
        · exact whileFuel_ret n hcd hs
      · exact whileFuel_ret n hcd hs
      · rw [whileFuel_next n hcd hs]; exact hih p
      · obtain ⟨p1, hp1, hb⟩ := hs
        rw [whileFuel_next n hcd hb]
        cases cfg.keep
        · exact ⟨p1, _, whileFuel_stop n ((hcond _ _).trans (anyPos_blank pos T c))⟩
        · exact hp1 ▸ hih p1
end Loop

/-! ### The kernel contract and the loop body -/

section Step
variable {X Wt P C α μ θ : Type} [LinearOrder α] [Zero α]

/-- The kernel contract: how the base module's methods called by `DualVigilanceART.step_fit` (fields of `E`) relate
to the model's kernel `K` and search configuration `cfg`.  `th` reads the vigilance state out of a `params`
dictionary; `lb` is what it reads after `rho` was replaced by `rho_lower_bound` (`rlb`); `m` is the category → cluster
map; `vetoL` answers for a cluster label (the model's reset function). -/
structure Contract (K : Kernel X Wt α μ) (cfg : SearchCfg μ θ) (E : DualExt X Wt P C α) (th : P → θ) (lb : θ) (rlb : α)
    (W : List Wt) (m : List Nat) (x : X) (p0 : P) (is_none : Bool) (reset : X → Wt → Nat → P → C → Bool)
    (vetoL : Nat → Bool) (mt : MT) (eps : α) : Prop where
  /-- activations are computed with the configured parameters -/
  choice : ∀ w, (E.category_choice W x w p0).1 = K.choice W x w
  /-- the binary match test depends on `params` only through the vigilance state -/
  passes : ∀ w p c, (E.match_criterion_bin x w p c (E.operator mt)).1 = cfg.passes (th p) (K.matchv x w)
  /-- `dict(params, rho=rho_lower_bound)` carries the lower threshold -/
  lower : ∀ p, th (E.dict_with p "rho" rlb) = lb
  /-- `_match_tracking` reads the match value from the cache `match_criterion_bin` returned -/
  track : ∀ w p c, th (E.match_tracking (E.match_criterion_bin x w p c (E.operator mt)).2 eps p mt).2
            = cfg.track (th p) (K.matchv x w)
  keep : ∀ c p, (E.match_tracking c eps p mt).1 = cfg.keep
  /-- learning does not depend on the vigilance state or the cache contents beyond the kernel's own rule -/
  update : ∀ w p c, E.update x w p c = K.update x w
  newW : ∀ p, E.new_weight x p = K.newW x
  /-- `base_module.add_weight` appends the weight with a count of one and touches nothing else -/
  add_weight : ∀ (b : Self Wt P) w, E.add_weight b w = { b with W := b.W ++ [w], cnt := b.cnt ++ [1] }
  /-- `base_module.set_weight` replaces the weight, counts the sample and touches nothing else -/
  set_weight : ∀ (b : Self Wt P) i w,
    E.set_weight b i w = { b with W := b.W.set i w, cnt := b.cnt.set i (b.cnt[i]! + 1) }
  veto_none : is_none = true → ∀ l, vetoL l = false
  /-- the reset function's answer for category `c` is a function of its cluster label `m[c]` -/
  veto_some : is_none = false → ∀ c w p ch, W[c]? = some w → reset x w (m.getD c 0) p ch = !vetoL (m.getD c 0)

variable [Inhabited Wt] [Inhabited C]

/-- one iteration of the translated loop body, in the model's vocabulary -/
theorem body_spec (K : Kernel X Wt α μ) (cfg : SearchCfg μ θ) (E : DualExt X Wt P C α) (th : P → θ) (lb : θ)
    (base : Self Wt P) (m : List Nat) (n : Nat) (rlb : α) (x : X) (is_none : Bool)
    (reset : X → Wt → Nat → P → C → Bool) (vetoL : Nat → Bool) (mt : MT) (eps : α) (Tc : List C)
    (hlen : m.length = base.W.length)
    (hC : Contract K cfg E th lb rlb base.W m x base.params is_none reset vetoL mt eps) :
    BodySpec cfg lb (matchAt K base.W x) (fun c => vetoL (m.getD c 0)) th
      (fun p T => (({ base with params := p } : Self Wt P), m.map some, T))
      (fun c => (({ base := { base with W := base.W.set c (K.update x base.W[c]!),
                                        cnt := base.cnt.set c (base.cnt[c]! + 1) },
                    map := m.map some, n := n, rho_lower_bound := rlb } : DualSelf Wt P α), m.getD c 0))
      (fun c => (({ base := { base with W := base.W ++ [K.newW x], cnt := base.cnt ++ [1] },
                    map := (m ++ [m.getD c 0]).map some, n := n, rho_lower_bound := rlb } : DualSelf Wt P α),
                 m.getD c 0))
      (Art.Gen.DualVigilanceART.step_fit_loop1_body E n rlb x mt eps base.params (E.operator mt) Tc is_none reset)
      base.W.length := by
  constructor
  intro p T c hL hn
  have hc : c < base.W.length := hL ▸ nanargmax_lt_length hn
  have hWc : base.W[c]? = some base.W[c] := List.getElem?_eq_getElem hc
  have hget : base.W[c]! = base.W[c] := getElem!_pos base.W c hc
  have hM : matchAt K base.W x c = K.matchv x base.W[c] := by rw [matchAt, hWc]
  -- the veto, as the model names it (whatever cache the reset function is shown)
  have hok : ∀ (pp : P) (ch : C), (is_none || reset x base.W[c] (m.getD c 0) pp ch) = !vetoL (m.getD c 0) := by
    intro pp ch
    cases hn' : is_none with
    | true => rw [Bool.true_or, hC.veto_none hn' (m.getD c 0)]; rfl
    | false => rw [Bool.false_or]; exact hC.veto_some hn' c _ pp ch hWc
  unfold Art.Gen.DualVigilanceART.step_fit_loop1_body
  simp only [hn, Option.getD_some, hget, hM, mapGet_map_some, hC.passes, hC.update, hC.keep, hC.newW, hC.lower,
    hC.add_weight, hC.set_weight, hok, ← hlen, mapPut_map_some_length, getD_append_length]
  generalize vetoL (m.getD c 0) = v, cfg.passes (th p) (K.matchv x base.W[c]) = m1,
    cfg.passes lb (K.matchv x base.W[c]) = m2
  cases v <;> cases m1
  · cases m2 <;> exact rfl
  · exact rfl
  · exact rfl
  · refine ⟨_, hC.track base.W[c] p Tc[c]!, ?_⟩
    cases cfg.keep <;> rfl

omit [Inhabited Wt] [Inhabited C] [Zero α] in
/-- the activation vector computed before the loop is the model's -/
theorem activations_spec (K : Kernel X Wt α μ) (cfg : SearchCfg μ θ) (E : DualExt X Wt P C α) (th : P → θ) (lb : θ)
    (rlb : α) (W : List Wt) (m : List Nat) (p0 : P) (x : X) (is_none : Bool) (reset : X → Wt → Nat → P → C → Bool)
    (vetoL : Nat → Bool) (mt : MT) (eps : α) (hC : Contract K cfg E th lb rlb W m x p0 is_none reset vetoL mt eps) :
    (W.map (fun w => E.category_choice W x w p0)).map Prod.fst = activations K W x := by
  rw [activations, List.map_map]
  exact List.map_congr_left fun w _ => hC.choice w

/-- the first sample: one category, `map = {0: 0}`, label 0 — whatever `map` held before -/
theorem step_fit_first_sample (K : Kernel X Wt α μ) (cfg : SearchCfg μ θ) (E : DualExt X Wt P C α) (th : P → θ)
    (lb : θ) (self : DualSelf Wt P α) (m : List Nat) (x : X) (is_none : Bool)
    (reset : X → Wt → Nat → P → C → Bool) (vetoL : Nat → Bool) (mt : MT) (eps : α) (fuel : Nat)
    (hW : self.base.W = [])
    (hC : Contract K cfg E th lb self.rho_lower_bound self.base.W m x self.base.params is_none reset vetoL mt eps) :
    Art.Gen.DualVigilanceART.step_fit E fuel self x is_none reset mt eps =
      (let r := dualStepFit K cfg (th self.base.params) lb (posOf 0) vetoL
                  ⟨⟨self.base.W, self.base.cnt, self.n, self.base.labels⟩, m⟩ x
       ({ base := { self.base with W := r.1.base.W, cnt := r.1.base.cnt }, map := r.1.map.map some, n := r.1.base.n,
          rho_lower_bound := self.rho_lower_bound }, r.2)) := by
  unfold Art.Gen.DualVigilanceART.step_fit dualStepFit dualDecide
  simp only [hW, List.length_nil, beq_self_eq_true, if_true, List.isEmpty_nil, hC.newW, hC.add_weight]
  rfl

/-- **The translated `DualVigilanceART.step_fit` computes the model's `dualStepFit`** — base weights, counters, the
wrapper's sample counter, the category → cluster map (as a dict), the returned cluster label — and leaves the base
module's `params` exactly as it found them, for every state with one map entry per category, every sample, reset
function, mode and epsilon that satisfy the kernel contract.  `fuel = len(W)` iterations suffice. -/
theorem step_fit_spec (K : Kernel X Wt α μ) (cfg : SearchCfg μ θ) (E : DualExt X Wt P C α) (th : P → θ)
    (lb : θ) (self : DualSelf Wt P α) (m : List Nat) (x : X) (is_none : Bool)
    (reset : X → Wt → Nat → P → C → Bool) (vetoL : Nat → Bool) (mt : MT) (eps : α)
    (hmap : self.map = m.map some) (hlen : m.length = self.base.W.length)
    (hC : Contract K cfg E th lb self.rho_lower_bound self.base.W m x self.base.params is_none reset vetoL mt eps) :
    Art.Gen.DualVigilanceART.step_fit E self.base.W.length self x is_none reset mt eps =
      (let r := dualStepFit K cfg (th self.base.params) lb (posOf 0) vetoL
                  ⟨⟨self.base.W, self.base.cnt, self.n, self.base.labels⟩, m⟩ x
       ({ base := { self.base with W := r.1.base.W, cnt := r.1.base.cnt }, map := r.1.map.map some, n := r.1.base.n,
          rho_lower_bound := self.rho_lower_bound }, r.2)) := by
  by_cases hW : self.base.W = []
  · exact step_fit_first_sample K cfg E th lb self m x is_none reset vetoL mt eps _ hW hC
  · have hlen0 : (self.base.W.length == 0) = false := beq_false_of_ne (fun h => hW (List.length_eq_zero_iff.mp h))
    have hTlen : (activations K self.base.W x).length = self.base.W.length := List.length_map _
    have hloop := fun Tc => loop_follows_dualSearch cfg lb (posOf (0 : α)) (matchAt K self.base.W x)
      (fun c => vetoL (m.getD c 0)) th
      (fun p T => (({ self.base with params := p } : Self Wt P), m.map some, T)) _ _
      (Art.Gen.DualVigilanceART.step_fit_loop1_cond E) _
      (fun p T => any_vecGtZero T) self.base.W.length
      (body_spec K cfg E th lb self.base m (self.n + 1) self.rho_lower_bound x is_none reset vetoL mt eps Tc hlen hC)
      self.base.W.length self.base.params (activations K self.base.W x) hTlen
    have hlt := dualSearch_outcome_lt cfg lb (posOf (0 : α)) (matchAt K self.base.W x)
      (fun c => vetoL (m.getD c 0)) self.base.W.length (activations K self.base.W x) (th self.base.params)
      (hTlen ▸ liveCount_le_length _)
    rw [dualStepFit_of_ne_nil K cfg _ lb _ vetoL _ x hW, dualStepSearch]
    unfold Art.Gen.DualVigilanceART.step_fit
    simp only [hlen0, Bool.false_eq_true, if_false, hmap, hTlen,
      activations_spec K cfg E th lb _ self.base.W m self.base.params x is_none reset vetoL mt eps hC]
    revert hloop hlt
    cases (dualSearch cfg lb (posOf (0 : α)) (matchAt K self.base.W x) (fun c => vetoL (m.getD c 0))
        self.base.W.length (activations K self.base.W x) (th self.base.params)).outcome with
    | absorb c =>
      intro hloop hlt
      have hcl : c < self.base.W.length := hTlen ▸ hlt c (Or.inl rfl)
      have hcnt : self.base.cnt[c]! = self.base.cnt.getD c 0 := by
        rw [List.getD_eq_getElem?_getD, List.getElem!_eq_getElem?_getD]; rfl
      simp only [hloop, dualApply, List.getElem?_eq_getElem hcl, getElem!_pos self.base.W c hcl, hcnt]
    | spawn c =>
      intro hloop _
      simp only [hloop]
      rfl
    | fresh =>
      intro hloop _
      obtain ⟨p', T', h2⟩ := hloop _
      rw [h2]
      simp only [hC.newW, hC.add_weight, dictValues_map_some, ← hlen, mapPut_map_some_length, mapGet_map_some,
        getD_append_length]
      rfl

/-- **The base module's hyper-parameters are restored**: whatever match tracking did to `rho` during the search, the
translated `step_fit` hands the base module back with the dictionary it had. -/
theorem step_fit_restores_params (K : Kernel X Wt α μ) (cfg : SearchCfg μ θ) (E : DualExt X Wt P C α) (th : P → θ)
    (lb : θ) (self : DualSelf Wt P α) (m : List Nat) (x : X) (is_none : Bool)
    (reset : X → Wt → Nat → P → C → Bool) (vetoL : Nat → Bool) (mt : MT) (eps : α)
    (hmap : self.map = m.map some) (hlen : m.length = self.base.W.length)
    (hC : Contract K cfg E th lb self.rho_lower_bound self.base.W m x self.base.params is_none reset vetoL mt eps) :
    (Art.Gen.DualVigilanceART.step_fit E self.base.W.length self x is_none reset mt eps).1.base.params = self.base.params ∧
    (Art.Gen.DualVigilanceART.step_fit E self.base.W.length self x is_none reset mt eps).1.rho_lower_bound
      = self.rho_lower_bound ∧
    (Art.Gen.DualVigilanceART.step_fit E self.base.W.length self x is_none reset mt eps).1.base.labels = self.base.labels ∧
    (Art.Gen.DualVigilanceART.step_fit E self.base.W.length self x is_none reset mt eps).1.base.n = self.base.n := by
  rw [step_fit_spec K cfg E th lb self m x is_none reset vetoL mt eps hmap hlen hC]
  exact ⟨rfl, rfl, rfl, rfl⟩

/-! ### `step_pred` and `n_clusters` -/

/-- **The translated `step_pred` answers what the model's `dualStepPred` answers** (the model answers `none` exactly
where the Python code raises: no category, or a winner without map entry). -/
theorem step_pred_spec (K : Kernel X Wt α μ) (E : DualExt X Wt P C α) (self : DualSelf Wt P α) (m : List Nat) (x : X)
    (hmap : self.map = m.map some)
    (hchoice : ∀ w, (E.category_choice self.base.W x w self.base.params).1 = K.choice self.base.W x w) :
    (Art.Gen.DualVigilanceART.step_pred E self x).1 = self ∧
    ∀ l, dualStepPred K ⟨⟨self.base.W, self.base.cnt, self.n, self.base.labels⟩, m⟩ x = some l →
      (Art.Gen.DualVigilanceART.step_pred E self x).2 = l := by
  refine ⟨rfl, ?_⟩
  intro l hl
  unfold Art.Gen.DualVigilanceART.step_pred
  have hT : (self.base.W.map (fun w => E.category_choice self.base.W x w self.base.params)).map Prod.fst
      = activations K self.base.W x := by
    simp only [activations, List.map_map]
    exact List.map_congr_left (fun w _ => hchoice w)
  simp only [hT, hmap, mapGet_map_some]
  simp only [dualStepPred, stepPred, Option.bind_eq_some_iff] at hl
  obtain ⟨c, hc, hm⟩ := hl
  simp [hc, List.getD_eq_getElem?_getD, hm]

/-- on a consistent non-empty model the translated `step_pred` *is* the model's answer -/
theorem step_pred_spec_inv (K : Kernel X Wt α μ) (E : DualExt X Wt P C α) (self : DualSelf Wt P α) (m : List Nat) (x : X)
    (hmap : self.map = m.map some)
    (hchoice : ∀ w, (E.category_choice self.base.W x w self.base.params).1 = K.choice self.base.W x w)
    (hi : DualInv (⟨⟨self.base.W, self.base.cnt, self.n, self.base.labels⟩, m⟩ : DualState Wt))
    (hne : self.base.W ≠ []) :
    dualStepPred K ⟨⟨self.base.W, self.base.cnt, self.n, self.base.labels⟩, m⟩ x =
      some (Art.Gen.DualVigilanceART.step_pred E self x).2 := by
  obtain ⟨l, hl⟩ := dualStepPred_isSome K _ x hi hne
  rw [hl, (step_pred_spec K E self m x hmap hchoice).2 l hl]

theorem n_clusters_spec (E : DualExt X Wt P C α) (self : DualSelf Wt P α) (m : List Nat)
    (hmap : self.map = m.map some) :
    Art.Gen.DualVigilanceART.n_clusters E self = (self, nClusters m) := by
  have hv : dictValues self.map = m := by rw [hmap, dictValues_map_some]
  unfold Art.Gen.DualVigilanceART.n_clusters
  dsimp only
  rw [hv, List.map_id']
  rfl

/-! ### Property theorems of C13, transported to the generated code -/

/-- **C13 on the generated code: the map stays total, the returned label is a cluster label below the generated
`n_clusters`.**  From a consistent state (`DualInv`: one map entry per category, values an initial segment of ℕ) the
translated `step_fit` ends in a state whose map again has one entry per category, and the label it returns is an entry
of that map and is `<` the translated `n_clusters` of the new state (`dualApply_spec`, `nClusters_spec`). -/
theorem gen_step_fit_inv (K : Kernel X Wt α μ) (cfg : SearchCfg μ θ) (E : DualExt X Wt P C α) (th : P → θ)
    (lb : θ) (self : DualSelf Wt P α) (m : List Nat) (x : X) (is_none : Bool)
    (reset : X → Wt → Nat → P → C → Bool) (vetoL : Nat → Bool) (mt : MT) (eps : α)
    (hmap : self.map = m.map some)
    (hi : DualInv (⟨⟨self.base.W, self.base.cnt, self.n, self.base.labels⟩, m⟩ : DualState Wt))
    (hC : Contract K cfg E th lb self.rho_lower_bound self.base.W m x self.base.params is_none reset vetoL mt eps) :
    let r := Art.Gen.DualVigilanceART.step_fit E self.base.W.length self x is_none reset mt eps
    r.1.map.length = r.1.base.W.length ∧ some r.2 ∈ r.1.map ∧ (∀ e ∈ r.1.map, e.isSome) ∧
      r.2 < (Art.Gen.DualVigilanceART.n_clusters E r.1).2 := by
  intro r
  obtain ⟨h1, h2, h3, _, _⟩ := dualApply_spec K ⟨⟨self.base.W, self.base.cnt, self.n, self.base.labels⟩, m⟩ x
    (dualDecide K cfg (th self.base.params) lb (posOf 0) vetoL ⟨⟨self.base.W, self.base.cnt, self.n, self.base.labels⟩, m⟩ x)
    (dualDecide_none_iff K cfg (th self.base.params) lb (posOf 0) vetoL _ x) hi
  have hr : r = _ := step_fit_spec K cfg E th lb self m x is_none reset vetoL mt eps hmap hi.total hC
  rw [hr]
  refine ⟨(List.length_map _).trans h1, List.mem_map_of_mem h3, fun e he => ?_, ?_⟩
  · obtain ⟨_, _, rfl⟩ := List.mem_map.mp he
    rfl
  · rw [n_clusters_spec E _ _ rfl]
    exact (nClusters_spec h2).1 _ h3

/-- **C13 (`dual_upper_bound_respected`) on the generated code: frame and upper vigilance.**  On a non-empty model the
translated `step_fit` either appends exactly the category `new_weight x` (no existing weight changes), or changes one
weight `W[c]` to `update x W[c]`, where `c` was not vetoed and passed the UPPER vigilance test against the threshold in
force at its visit. -/
theorem gen_upper_bound (K : Kernel X Wt α μ) (cfg : SearchCfg μ θ) (E : DualExt X Wt P C α) (th : P → θ)
    (lb : θ) (self : DualSelf Wt P α) (m : List Nat) (x : X) (is_none : Bool)
    (reset : X → Wt → Nat → P → C → Bool) (vetoL : Nat → Bool) (mt : MT) (eps : α)
    (hmap : self.map = m.map some) (hlen : m.length = self.base.W.length) (hne : self.base.W ≠ [])
    (hC : Contract K cfg E th lb self.rho_lower_bound self.base.W m x self.base.params is_none reset vetoL mt eps) :
    let r := Art.Gen.DualVigilanceART.step_fit E self.base.W.length self x is_none reset mt eps
    (r.1.base.W = self.base.W ++ [K.newW x] ∧ r.1.map.take m.length = self.map) ∨
    (∃ c w th', self.base.W[c]? = some w ∧ r.1.base.W = self.base.W.set c (K.update x w) ∧ r.1.map = self.map ∧
      cfg.passes th' (K.matchv x w) = true ∧ vetoL (m.getD c 0) = false) := by
  intro r
  have hr : r = _ := step_fit_spec K cfg E th lb self m x is_none reset vetoL mt eps hmap hlen hC
  rw [hr, hmap]
  rcases C13.dual_upper_bound_respected K cfg (th self.base.params) lb (posOf 0) vetoL
      ⟨⟨self.base.W, self.base.cnt, self.n, self.base.labels⟩, m⟩ x hne with ⟨h1, _, h3, _⟩ | ⟨c, w, th', _, hw, hW, hm, _, hp, hv⟩
  · exact Or.inl ⟨h1, List.map_take.symm.trans (congrArg _ h3)⟩
  · exact Or.inr ⟨c, w, th', hw, hW, congrArg _ hm, hp, hv⟩

end Step

/-! ### The contract is met by every base module with a scalar, non-inverted vigilance — with the decision tables
taken from the GENERATED `DualVigilanceART._match_tracking`, `_match_tracking_operator` and `match_criterion_bin`
(ArtGen/Kernels.lean) and `add_weight` / `set_weight` as `BaseART` defines them -/

section Scalar
variable {X Wt β : Type} [Field β] [LinearOrder β] [IsStrictOrderedRing β]

/-- externals of a wrapped elementary module: the numeric kernel `K`, and for the decisions the generated tables.
`params` is abstracted to the vigilance value `rho`, a cache to the match value it carries. -/
def scalarExt (K : Kernel X Wt β β) (inf : β) : DualExt X Wt β β β where
  category_choice := fun W x w _ => (K.choice W x w, K.matchv x w)
  match_criterion_bin := fun x w rho _ strict =>
    (Gen.BaseART.match_bin (fun a b => if strict then decide (b < a) else decide (b ≤ a)) (K.matchv x w) rho, K.matchv x w)
  update := fun x w _ _ => K.update x w
  new_weight := fun x _ => K.newW x
  match_tracking := fun M eps rho mt =>
    ((Gen.DualVigilanceART.match_tracking inf mt M eps rho).2, (Gen.DualVigilanceART.match_tracking inf mt M eps rho).1)
  operator := Gen.BaseART.strict
  noneC := 0
  add_weight := fun b w => { b with W := b.W ++ [w], cnt := b.cnt ++ [1] }
  set_weight := fun b i w => { b with W := b.W.set i w, cnt := b.cnt.set i (b.cnt[i]! + 1) }
  dict_with := fun p key v => if key = "rho" then v else p

theorem scalar_contract (K : Kernel X Wt β β) (W : List Wt) (m : List Nat) (inf rho lb eps : β) (x : X) (mt : MT)
    (is_none : Bool) (vetoL : Nat → Bool) (hv : is_none = true → ∀ l, vetoL l = false) :
    Contract K (scalarCfg mt false (· + eps) (· - eps) inf) (scalarExt K inf) id lb lb W m x rho is_none
      (fun _ _ l _ _ => !vetoL l) vetoL mt eps where
  choice := fun _ => rfl
  passes := fun w p _ => base_match_bin mt (K.matchv x w) p
  lower := fun p => if_pos (t := lb) (e := p) (rfl : "rho" = "rho")
  track := fun w p _ => congrArg Prod.fst
    ((dual_match_tracking inf mt (K.matchv x w) eps p).trans (base_match_tracking inf mt (K.matchv x w) eps p))
  keep := fun c p => congrArg Prod.snd
    ((dual_match_tracking inf mt c eps p).trans (base_match_tracking inf mt c eps p))
  update := fun _ _ _ => rfl
  newW := fun _ => rfl
  add_weight := fun _ _ => rfl
  set_weight := fun _ _ _ => rfl
  veto_none := hv
  veto_some := fun _ _ _ _ _ _ => rfl

/-- **`DualVigilanceART.step_fit`, as translated from the source and with the decision tables as translated from the
source, is the model's `dualStepFit` under the scalar configuration** — for every wrapped module with a scalar,
non-inverted vigilance, every consistent state, sample, label-veto pattern, mode and epsilon. -/
theorem scalar_step_fit [Inhabited Wt] (K : Kernel X Wt β β) (inf eps : β) (self : DualSelf Wt β β) (m : List Nat)
    (x : X) (mt : MT) (is_none : Bool) (vetoL : Nat → Bool) (hv : is_none = true → ∀ l, vetoL l = false)
    (hmap : self.map = m.map some) (hlen : m.length = self.base.W.length) :
    letI : Inhabited β := ⟨0⟩
    Art.Gen.DualVigilanceART.step_fit (scalarExt K inf) self.base.W.length self x is_none (fun _ _ l _ _ => !vetoL l) mt eps =
      (let r := dualStepFit K (scalarCfg mt false (· + eps) (· - eps) inf) self.base.params self.rho_lower_bound
                  (posOf 0) vetoL ⟨⟨self.base.W, self.base.cnt, self.n, self.base.labels⟩, m⟩ x
       ({ base := { self.base with W := r.1.base.W, cnt := r.1.base.cnt }, map := r.1.map.map some, n := r.1.base.n,
          rho_lower_bound := self.rho_lower_bound }, r.2)) := by
  let _ : Inhabited β := ⟨0⟩
  exact step_fit_spec K _ (scalarExt K inf) id self.rho_lower_bound self m x is_none _ vetoL mt eps hmap hlen
    (scalar_contract K self.base.W m inf self.base.params self.rho_lower_bound eps x mt is_none vetoL hv)

end Scalar

/-! ### Non-vacuity: the generated code run on concrete data (Fuzzy ART over ℚ, `rho = 7/8`, `rho_lower_bound = 5/8`,
the stream of `C13.fzX1`: spawn under cluster 0, fresh cluster 1, absorb into category 0) -/

section Examples

private def exE : DualExt (List ℚ) (List ℚ) ℚ ℚ ℚ := scalarExt C13.fzK1 1000

private def exInit : DualSelf (List ℚ) ℚ ℚ :=
  { base := { W := [], cnt := [], n := 0, params := 7/8 }, map := [], n := 0, rho_lower_bound := 5/8 }

/-- one translated `step_fit` with no reset function, MT+ and `epsilon = 0`; fuel = `len(W)` -/
private def exStep (s : DualSelf (List ℚ) ℚ ℚ × List Nat) (x : List ℚ) : DualSelf (List ℚ) ℚ ℚ × List Nat :=
  letI : Inhabited ℚ := ⟨0⟩
  let r := Art.Gen.DualVigilanceART.step_fit exE s.1.base.W.length s.1 x true (fun _ _ _ _ _ => true) MT.plus 0
  (r.1, s.2 ++ [r.2])

/-- the translated code on the four samples: labels `[0, 0, 1, 0]`, `map = {0: 0, 1: 0, 2: 1}`, counters `[2, 1, 1]`,
`sample_counter_ = 4`, the base module's `rho` back at 7/8, translated `n_clusters = 2`, translated `step_pred` of the
third sample = cluster 1 -/
example :
    letI : Inhabited ℚ := ⟨0⟩
    let s := C13.fzX1.foldl exStep (exInit, [])
    s.2 = [0, 0, 1, 0] ∧ s.1.map = [some 0, some 0, some 1] ∧ s.1.base.cnt = [2, 1, 1] ∧ s.1.n = 4 ∧
      s.1.base.params = 7/8 ∧ (Art.Gen.DualVigilanceART.n_clusters exE s.1).2 = 2 ∧
      (Art.Gen.DualVigilanceART.step_pred exE s.1 [1, 0]).2 = 1 := by
  decide +kernel

/-- a vetoing reset function (cluster label 0 is refused), MT+ with `epsilon = 1/1000`: the sample that category 0
would absorb is refused there, the threshold tracks, and a fresh cluster 2 is opened; `rho` is restored -/
example :
    letI : Inhabited ℚ := ⟨0⟩
    let s := (C13.fzX1.foldl exStep (exInit, [])).1
    let r := Art.Gen.DualVigilanceART.step_fit exE s.base.W.length s [1/4, 3/4] false (fun _ _ l _ _ => !(l == 0)) MT.plus (1/1000)
    r.2 = 2 ∧ r.1.map = [some 0, some 0, some 1, some 2] ∧ r.1.base.params = 7/8 ∧ r.1.base.cnt = [2, 1, 1, 1] := by
  decide +kernel

/-- and the contract holds there (so `scalar_step_fit` / `step_fit_spec` apply) -/
example : Contract C13.fzK1 (scalarCfg MT.plus false (· + 1/1000) (· - 1/1000) 1000) exE id (5/8) (5/8)
    [[1/4, 3/4], [1/2, 1/2], [1, 0]] [0, 0, 1] [1/4, 3/4] (7/8) false (fun _ _ l _ _ => !(l == 0)) (fun l => l == 0)
    MT.plus (1/1000) :=
  scalar_contract _ _ _ _ _ _ _ _ _ _ _ (by simp)

end Examples

end Art.GenSpec.Dual
