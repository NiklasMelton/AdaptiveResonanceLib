/-
ArtGenProofs.TopoSpec — the bookkeeping of `TopoART` (`prune`, `post_step_fit`, `add_weight`, `update`,
`step_pred`, the inherited `set_weight` and hooks), as translated from the Python source by
`harness/artv/ttrans.py` (ArtGen/Topo.lean), computes the model's definitions of `ArtModel/Topo.lean`
(`prune` with `pruneMask` / `keepIdx` / `gather` / `relabel` / `topoPredLabel`, `padAdj`, `incAdj`, the
counter / weight / adjacency updates of `applyTopo`, the pruning trigger of `topoFitStep`) — for every state
and every data matrix — and C14's pruning theorems hold of the *generated* `prune`.
-/
import Mathlib.Order.Basic
import Mathlib.Order.Defs.LinearOrder
import ArtGen.Topo
import ArtProofs.Topo
import ArtProps.C14

namespace Art.GenSpec.Topo

open Art Art.ImpTopo
open Art.Imp (Flow forEach)

/-! ## A. the numpy helpers of `ArtModel/ImpTopo.lean` against the model's list functions -/

section Helpers

theorem keepIdx_cons (b : Bool) (m : List Bool) :
    keepIdx (b :: m) = (if b then [0] else []) ++ (keepIdx m).map Nat.succ := by
  unfold keepIdx
  rw [List.length_cons, List.range_succ_eq_map, List.filter_cons, List.filter_map]
  cases b <;> rfl

theorem whereFrom_eq (m : List Bool) : ∀ k, whereFrom k m = (keepIdx m).map (· + k) := by
  induction m with
  | nil => exact fun _ => rfl
  | cons b m ih =>
    intro k
    have hshift : (keepIdx m).map (· + (k + 1)) = ((keepIdx m).map Nat.succ).map (· + k) := by
      rw [List.map_map]
      exact List.map_congr_left fun i _ => (Nat.succ_add i k).symm
    rw [keepIdx_cons, whereFrom, ih (k + 1), hshift]
    cases b
    · rfl
    · exact congrArg (· :: _) (Nat.zero_add k).symm

/-- `np.where(mask)[0]` is the model's `keepIdx` -/
theorem npWhere_eq (m : List Bool) : npWhere m = keepIdx m :=
  (whereFrom_eq m 0).trans (List.map_id _)

/-- `_permanent_mask += (counter >= phi)` is the model's `pruneMask` -/
theorem npOr_npGe {Wt : Type} (phi : Nat) (s : TopoState Wt) :
    npOr s.perm (npGe s.cnt phi) = pruneMask phi s := by
  unfold npOr npGe pruneMask
  rw [List.zipWith_map_right]

theorem gather_nil {β : Type} (keep : List Nat) : gather keep ([] : List β) = [] := by
  induction keep with
  | nil => rfl
  | cons a t ih => exact ih

theorem gather_succ_cons {β : Type} (keep : List Nat) (w : β) (W : List β) :
    gather (keep.map Nat.succ) (w :: W) = gather keep W := by
  unfold gather
  rw [List.filterMap_map]
  congr 1

/-- `[w for w, pm in zip(W, mask) if pm]` is `W[np.where(mask)[0]]`, whatever the two lengths -/
theorem zip_filter_eq_gather {β : Type} (mask : List Bool) :
    ∀ W : List β, ((List.zip W mask).filter (fun (_, pm) => pm)).map (fun (w, _) => w) = gather (keepIdx mask) W := by
  induction mask with
  | nil => intro W; rw [List.zip_nil_right]; rfl
  | cons b m ih =>
    intro W
    cases W with
    | nil => rw [gather_nil]; rfl
    | cons w W =>
      have h := (ih W).trans (gather_succ_cons (keepIdx m) w W).symm
      rw [keepIdx_cons, List.zip_cons_cons, List.filter_cons]
      cases b
      · exact h
      · exact congrArg (w :: ·) h

/-- fancy indexing with in-range indices is the model's `gather` -/
theorem npTake_eq_gather {β : Type} [Inhabited β] (l : List β) (keep : List Nat) (h : ∀ i ∈ keep, i < l.length) :
    npTake l keep = gather keep l := by
  induction keep with
  | nil => rfl
  | cons a t ih =>
    have ha : a < l.length := h a List.mem_cons_self
    show l[a]! :: npTake l t = gather (a :: t) l
    rw [getElem!_pos l a ha, ih fun i hi => h i (List.mem_cons_of_mem _ hi), gather, gather,
      List.filterMap_cons_some (List.getElem?_eq_getElem ha)]

/-- `adjacency[keep][:, keep]` is the model's sub-matrix when every kept index is a row and a column -/
theorem subMatrix_eq (adj : List (List Nat)) (keep : List Nat) (hr : ∀ i ∈ keep, i < adj.length)
    (hc : ∀ r ∈ adj, ∀ i ∈ keep, i < r.length) :
    npTakeCols (npTake adj keep) keep = (gather keep adj).map (gather keep) := by
  rw [npTake_eq_gather adj keep hr]
  unfold npTakeCols
  apply List.map_congr_left
  intro r hrm
  exact npTake_eq_gather r keep (hc r (mem_gather hrm))

/-- `label in perm_labels` -/
theorem npContains_iff (keep : List Nat) (l : Int) : npContains keep l = true ↔ 0 ≤ l ∧ l.toNat ∈ keep := by
  unfold npContains npEq
  simp only [List.any_map, List.any_eq_true, Function.comp, id, decide_eq_true_eq]
  constructor
  · rintro ⟨p, hp, rfl⟩
    exact ⟨Int.natCast_nonneg p, by simpa using hp⟩
  · rintro ⟨h0, hm⟩
    exact ⟨l.toNat, hm, by simp [Int.toNat_of_nonneg h0]⟩

/-- `np.where(perm_labels == label)[0][0]` is the position of `label` in `perm_labels` -/
theorem whereFrom_npEq_head (keep : List Nat) (a : Nat) (ha : a ∈ keep) :
    ∀ k, (whereFrom k (npEq keep (Int.ofNat a))).head? = some (k + keep.idxOf a) := by
  induction keep with
  | nil => exact nomatch ha
  | cons p ps ih =>
    intro k
    rw [npEq, List.map_cons, whereFrom, List.idxOf_cons]
    by_cases hpa : p = a
    · rw [if_pos (decide_eq_true (congrArg Int.ofNat hpa)), hpa, beq_self_eq_true]
      rfl
    · have hmem : a ∈ ps := (List.mem_cons.mp ha).resolve_left fun h => hpa h.symm
      rw [if_neg (mt (fun h => Int.ofNat.inj (of_decide_eq_true h)) hpa), beq_false_of_ne hpa]
      exact (ih hmem (k + 1)).trans (congrArg some (Nat.succ_add_eq_add_succ k _))

theorem npWhere_npEq_first (keep : List Nat) (a : Nat) (ha : a ∈ keep) :
    (npWhere (npEq keep (Int.ofNat a)))[0]! = keep.idxOf a := by
  have := whereFrom_npEq_head keep a ha 0
  rw [npWhere, List.getElem!_eq_getElem?_getD, ← List.head?_eq_getElem?, this]
  simp

theorem mem_insertUniq (x a : Int) (l : List Int) : a ∈ insertUniq x l ↔ a = x ∨ a ∈ l := by
  induction l with
  | nil => simp [insertUniq]
  | cons y ys ih =>
    unfold insertUniq
    split
    · simp
    · split
      · rename_i _ hxy; subst hxy; simp
      · rw [List.mem_cons, ih, List.mem_cons]
        exact or_left_comm

/-- `np.unique` has the same members as its argument -/
theorem mem_npUnique (a : Int) (l : List Int) : a ∈ npUnique l ↔ a ∈ l := by
  unfold npUnique
  induction l with
  | nil => simp
  | cons x xs ih => simp only [List.foldr_cons, mem_insertUniq, ih, List.mem_cons]

/-- lookup in a dict whose values are a function of the key -/
theorem dictGet_map {ν : Type} (f : Int → ν) (ks : List Int) (q : Int) :
    dictGet (ks.map (fun k => (k, f k))) q = if q ∈ ks then some (f q) else none := by
  induction ks with
  | nil => simp [dictGet]
  | cons k ks ih =>
    simp only [List.map_cons, dictGet, ih]
    by_cases hq : q ∈ ks
    · simp [hq]
    · simp only [hq, if_false, List.mem_cons, or_false]
      by_cases hk : k = q
      · subst hk; simp
      · have : ¬ q = k := fun h => hk h.symm
        simp [hk, this]

/-- **the `label_map` dict of `prune`**: an old label is a key iff it occurs in `labels_` and its category survives;
its value is the category's new index -/
theorem label_map_get (labels : List Int) (keep : List Nat) (l : Int) :
    dictGet (((npUnique labels).filter (fun label => npContains keep label)).map
        (fun label => (label, (npWhere (npEq keep label))[0]!))) l
      = if l ∈ labels ∧ (0 ≤ l ∧ l.toNat ∈ keep) then some (keep.idxOf l.toNat) else none := by
  rw [dictGet_map (fun label => (npWhere (npEq keep label))[0]!)]
  simp only [List.mem_filter, mem_npUnique, npContains_iff]
  by_cases h : l ∈ labels ∧ (0 ≤ l ∧ l.toNat ∈ keep)
  · rw [if_pos h, if_pos h]
    obtain ⟨n, rfl⟩ : ∃ n : Nat, l = Int.ofNat n := ⟨l.toNat, by simp [Int.toNat_of_nonneg h.2.1]⟩
    have hn : n ∈ keep := by simpa using h.2.2
    rw [npWhere_npEq_first keep n hn]
    simp
  · rw [if_neg h, if_neg h]

theorem set_getElem!_eq_modify {β : Type} [Inhabited β] (l : List β) (i : Nat) (f : β → β) :
    l.set i (f l[i]!) = l.modify i f := by
  apply List.ext_getElem?
  intro j
  rw [List.getElem?_set, List.getElem?_modify]
  by_cases hij : i = j
  · subst hij
    by_cases hi : i < l.length
    · simp [hi]
    · simp [hi]
  · simp [hij]

/-- `adjacency[i, j] += 1` is the model's `incAdj` -/
theorem npAddAt2_eq_incAdj (a : List (List Nat)) (i j : Nat) : npAddAt2 a i j 1 = incAdj i j a := by
  unfold npAddAt2 incAdj
  rw [set_getElem!_eq_modify (a[i]!) j (· + 1)]
  exact set_getElem!_eq_modify a i (fun row => row.modify j (· + 1))

theorem npCols_eq_adjCols (a : List (List Nat)) : npCols a = adjCols a := by
  cases a <;> rfl

/-- `np.pad(adjacency, ((0, 1), (0, 1)), "constant")` is the model's `padAdj` -/
theorem npPad2_eq_padAdj (a : List (List Nat)) : npPad2 a 0 1 0 1 = padAdj a := by
  unfold npPad2 padAdj
  simp [npCols_eq_adjCols]

end Helpers

/-! ## B. the generated methods against the model -/

section Spec
variable {X Wt P C α μ : Type} [LinearOrder α] [Inhabited Wt] [Inhabited C]

/-- the model state of a generated `self` -/
def toState (s : Self Wt P) : TopoState Wt :=
  { W := s.W, cnt := s.cnt, adj := s.adj, perm := s.perm, labels := s.labels, n := s.n }

/-- a generated `self` whose model-visible attributes are replaced by those of `t` (`params`, `phi`, `tau` stay) -/
def withState (s : Self Wt P) (t : TopoState Wt) : Self Wt P :=
  { s with W := t.W, cnt := t.cnt, adj := t.adj, perm := t.perm, labels := t.labels, n := t.n }

/-- **the inherited hooks `pre_step_fit` and `post_fit` do nothing** -/
theorem hooks_spec (E : Ext X Wt P C α) (self : Self Wt P) (Xs : List X) :
    Art.Gen.TopoART.pre_step_fit E self Xs = (self, ()) ∧ Art.Gen.TopoART.post_fit E self Xs = (self, ()) :=
  ⟨rfl, rfl⟩

/-- **`set_weight`** (inherited from `BaseART`): the counter of the category is incremented (the model's
`cnt.modify b (· + 1)`) and its weight replaced; with the weight `f W[idx]` this is the model's `W.modify idx f` -/
theorem set_weight_spec (E : Ext X Wt P C α) (self : Self Wt P) (idx : Nat) (f : Wt → Wt) :
    Art.Gen.TopoART.set_weight E self idx (f self.W[idx]!) =
      ({ self with W := self.W.modify idx f, cnt := self.cnt.modify idx (· + 1) }, ()) := by
  unfold Art.Gen.TopoART.set_weight
  simp only [set_getElem!_eq_modify self.cnt idx (· + 1), set_getElem!_eq_modify self.W idx f]

/-- **`add_weight`**: weight and counter `1` appended, the mask padded with `False`, the adjacency matrix padded
with a zero row and column (`padAdj`) — or re-created as `[[0]]` when the model was empty -/
theorem add_weight_spec (E : Ext X Wt P C α) (self : Self Wt P) (w : Wt) :
    Art.Gen.TopoART.add_weight E self w =
      ({ self with W := self.W ++ [w], cnt := self.cnt ++ [1], perm := self.perm ++ [false],
                   adj := if self.W.length == 0 then [[0]] else padAdj self.adj }, ()) := by
  unfold Art.Gen.TopoART.add_weight
  simp only [npPad2_eq_padAdj, npPad1, npZeros2, List.replicate, List.nil_append]

omit [Inhabited Wt] [Inhabited C] in
theorem toState_withState (s : Self Wt P) (t : TopoState Wt) : toState (withState s t) = t := rfl

/-- **`add_weight` is the new-category branch of the model's `applyTopo`** (which also counts the sample: `n + 1`
is `step_fit`'s own `self.sample_counter_ += 1`) on a non-empty model -/
theorem add_weight_model (K : TopoKernel X Wt α μ) (E : Ext X Wt P C α) (self : Self Wt P) (x : X)
    (sec : Option Nat) (hne : self.W ≠ []) :
    toState (Art.Gen.TopoART.add_weight E self (K.newW x)).1 =
      { (applyTopo K (toState self) x none sec).1 with n := self.n } := by
  rw [add_weight_spec]
  have : (self.W.length == 0) = false := by
    cases h : self.W with
    | nil => exact absurd h hne
    | cons _ _ => simp
  simp only [this, toState, applyTopo]
  rfl

/-- **`update`**: when the cache names a first winner (`resonant_c >= 0`) the edge `(resonant_c, current_c)` of the
adjacency matrix is incremented — the model's `incAdj` — and the new weight is the base module's -/
theorem update_spec (E : Ext X Wt P C α) (self : Self Wt P) (i : X) (w : Wt) (p : P) (c : C) :
    Art.Gen.TopoART.update E self i w p c =
      (match E.cache_int c "resonant_c" with
        | some r => if 0 ≤ r then
            { self with adj := incAdj r.toNat ((E.cache_int c "current_c").get!).toNat self.adj } else self
        | none => self,
       E.update i w p c) := by
  unfold Art.Gen.TopoART.update
  simp only [npAddAt2_eq_incAdj]
  cases h : E.cache_int c "resonant_c" with
  | none => simp
  | some r =>
    by_cases hr : 0 ≤ r
    · simp [hr]
    · simp [hr]

/-- the part of the kernel contract that `prune` needs: activations are the model kernel's, with the estimator's
own `params` (what `BaseART.step_pred` passes) -/
def ChoiceContract (K : TopoKernel X Wt α μ) (E : Ext X Wt P C α) (p : P) : Prop :=
  ∀ (W : List Wt) (x : X) (w : Wt), (E.category_choice W x w p).1 = K.choice W x w

theorem argmaxNp_nil : argmaxNp ([] : List (Option α)) = none := by
  simp [argmaxNp, nanargmax, nanargmaxV]

/-- **`TopoART.step_pred`** (`-1` on an empty model, else `BaseART.step_pred`, whose `category_choice` calls are
forwarded to the base module) is the model's `topoPredLabel` and leaves the estimator unchanged -/
theorem step_pred_spec (K : TopoKernel X Wt α μ) (E : Ext X Wt P C α) (self : Self Wt P) (x : X)
    (hch : ChoiceContract K E self.params) :
    Art.Gen.TopoART.step_pred E self x = (self, topoPredLabel K self.W x) := by
  obtain ⟨W, cnt, adj, perm, labels, n, params, phi, tau⟩ := self
  unfold Art.Gen.TopoART.step_pred Art.Gen.TopoART.BaseART_step_pred topoPredLabel topoActivations
  simp only [List.map_map]
  have : (Prod.fst ∘ fun w => E.category_choice W x w params) = K.choice W x := by
    funext w; exact hch W x w
  rw [this]
  cases W with
  | nil => simp [argmaxNp_nil]
  | cons w0 ws =>
    obtain ⟨c, hc⟩ := argmaxNp_isSome (T := (w0 :: ws).map (K.choice (w0 :: ws) x)) (by simp)
    rw [List.map_cons] at hc
    simp [hc]

/-- the relabelling loop of `prune`, abstractly: a loop over `enumerate(X)` whose body rewrites `labels_[i]` from its
own old value leaves `labels_.mapIdx …` — as long as the body behaves so on every vector that still agrees with the
original one at position `i` -/
theorem relabel_loop {R S' : Type} (g : X → Int → Int) (L0 : List Int) (r : S')
    (body : List Int × S' → X × Nat → Flow R (List Int × S'))
    (hbody : ∀ (L : List Int) (x : X) (i : Nat), L[i]? = L0[i]? →
        body (L, r) (x, i) = .next (L.set i (g x L[i]!), r)) (xs : List X) :
    forEach body xs.zipIdx (L0, r) =
      .next (L0.mapIdx (fun i l => match xs[i]? with
                                   | some x => g x l
                                   | none => l), r) := by
  have key : ∀ (xs : List X) (k : Nat) (L : List Int), (∀ j, k ≤ j → L[j]? = L0[j]?) →
      ∃ L', forEach body (xs.zipIdx k) (L, r) = .next (L', r) ∧
        ∀ j, L'[j]? = if k ≤ j then (match xs[j - k]? with
                                      | some x => (L[j]?).map (g x)
                                      | none => L[j]?) else L[j]? := by
    intro xs
    induction xs with
    | nil => exact fun k L _ => ⟨L, rfl, fun j => by split <;> rfl⟩
    | cons x xs ih =>
      intro k L hL
      obtain ⟨L', hrun, hget⟩ := ih (k + 1) (L.set k (g x L[k]!))
        fun j hj => (List.getElem?_set_ne (Nat.ne_of_lt hj)).trans (hL j (Nat.le_of_succ_le hj))
      refine ⟨L', ?_, fun j => (hget j).trans ?_⟩
      · rw [List.zipIdx_cons, forEach, hbody L x k (hL k (Nat.le_refl k))]
        exact hrun
      rcases Nat.lt_trichotomy j k with h | rfl | h
      · rw [if_neg (Nat.not_le_of_lt (Nat.lt_succ_of_lt h)), if_neg (Nat.not_le_of_lt h),
          List.getElem?_set_ne (Nat.ne_of_gt h)]
      · rw [if_neg (Nat.not_succ_le_self j), if_pos (Nat.le_refl j), Nat.sub_self, List.getElem?_set_self',
          List.getElem!_eq_getElem?_getD]
        cases L[j]? <;> rfl
      · obtain ⟨d, rfl⟩ := Nat.exists_eq_add_of_le (Nat.succ_le_of_lt h)
        rw [if_pos (Nat.le_add_right ..), if_pos (Nat.le_of_lt h), List.getElem?_set_ne (Nat.ne_of_lt h),
          Nat.add_sub_cancel_left, Nat.succ_add_eq_add_succ, Nat.add_sub_cancel_left, List.getElem?_cons_succ]
  obtain ⟨L', hrun, hget⟩ := key xs 0 L0 fun _ _ => rfl
  rw [hrun]
  refine congrArg (fun L => Flow.next (L, r)) (List.ext_getElem? fun j => ?_)
  rw [hget j, List.getElem?_mapIdx, if_pos (Nat.zero_le j)]
  cases xs[j - 0]? <;> cases L0[j]? <;> rfl

/-- one iteration of the generated relabelling loop, for any `label_map`: the row's label is looked up in the map,
else re-predicted on the pruned model, else `-1`; nothing else changes -/
theorem prune_body_eval (K : TopoKernel X Wt α μ) (E : Ext X Wt P C α) (lm : List (Int × Nat)) (L : List Int)
    (W' : List Wt) (cnt' : List Nat) (adj' : List (List Nat)) (perm' : List Bool) (n : Nat) (params : P)
    (phi tau : Nat) (hch : ChoiceContract K E params) (x : X) (i : Nat) :
    Art.Gen.TopoART.prune_loop1_body E lm (L, W', cnt', adj', perm', n, params, phi, tau) (x, i) =
      .next (L.set i (match dictGet lm L[i]! with
                      | some j => (j : Int)
                      | none => if !W'.isEmpty then topoPredLabel K W' x else -1),
             W', cnt', adj', perm', n, params, phi, tau) := by
  have hsp := step_pred_spec K E
    { W := W', cnt := cnt', adj := adj', perm := perm', labels := L, n := n, params := params, phi := phi,
      tau := tau } x hch
  rw [Art.Gen.TopoART.prune_loop1_body]
  cases dictGet lm L[i]! with
  | some j => rfl
  | none =>
    cases W' with
    | nil => rfl
    | cons w ws => rw [hsp]; rfl

/-- one iteration of the generated relabelling loop writes the model's `relabel` of the row's old label — on every
label vector that still agrees with the original `labels0` at position `i` (so that `labels_[i]`, when it exists, is
one of the keys `np.unique(labels_)` offered to `label_map`) -/
theorem prune_body_spec (K : TopoKernel X Wt α μ) (E : Ext X Wt P C α) (labels0 : List Int) (keep : List Nat)
    (W' : List Wt) (cnt' : List Nat) (adj' : List (List Nat)) (perm' : List Bool) (n : Nat) (params : P)
    (phi tau : Nat) (hch : ChoiceContract K E params)
    (L : List Int) (x : X) (i : Nat) (hL : L[i]? = labels0[i]?) :
    Art.Gen.TopoART.prune_loop1_body E
        (((npUnique labels0).filter (fun label => npContains keep label)).map
          (fun label => (label, (npWhere (npEq keep label))[0]!)))
        (L, W', cnt', adj', perm', n, params, phi, tau) (x, i)
      = .next (L.set i (relabel K keep W' x L[i]!), W', cnt', adj', perm', n, params, phi, tau) := by
  rw [prune_body_eval K E _ L W' cnt' adj' perm' n params phi tau hch x i, label_map_get]
  by_cases hi : i < L.length
  · have hm : L[i]! ∈ labels0 := by
      rw [getElem!_pos L i hi]
      exact List.mem_of_getElem? (hL.symm.trans (List.getElem?_eq_getElem hi))
    rw [relabel]
    by_cases hc : 0 ≤ L[i]! ∧ (L[i]!).toNat ∈ keep
    · rw [if_pos ⟨hm, hc⟩, if_pos hc]
    · rw [if_neg (fun h => hc h.2), if_neg hc]
  · rw [List.set_eq_of_length_le (Nat.le_of_not_lt hi), List.set_eq_of_length_le (Nat.le_of_not_lt hi)]

/-- the shape hypothesis under which `self.adjacency[perm_labels][:, perm_labels]` does not raise in Python: every
surviving index is a row and a column of the adjacency matrix (part of C14's `ShapeInv`) -/
def AdjCovers (phi : Nat) (s : TopoState Wt) : Prop :=
  (∀ i ∈ pruneKeep phi s, i < s.adj.length) ∧ (∀ r ∈ s.adj, ∀ i ∈ pruneKeep phi s, i < r.length)

omit [Inhabited Wt] in
theorem AdjCovers.of_shape {phi : Nat} {s : TopoState Wt} (hs : ShapeInv s) : AdjCovers phi s := by
  have hk := pruneKeep_lt (phi := phi) hs
  refine ⟨fun i hi => by rw [hs.adj_len]; exact hk i hi, ?_⟩
  intro r hr i hi
  obtain ⟨j, hj⟩ := List.getElem?_of_mem hr
  rw [hs.row_len j r hj]
  exact hk i hi

/-- **`TopoART.prune` as generated from the source is the model's `prune`** — for every state (whatever the lengths of
`W`, the counters, the mask and `labels_`), every data matrix and every `phi`, provided the sub-matrix selection is in
range (`AdjCovers`; implied by `ShapeInv`).  `params`, `phi`, `tau` are not touched. -/
theorem prune_spec (K : TopoKernel X Wt α μ) (E : Ext X Wt P C α) (self : Self Wt P) (Xs : List X)
    (hch : ChoiceContract K E self.params) (hadj : AdjCovers self.phi (toState self)) :
    Art.Gen.TopoART.prune E self Xs = (withState self (Art.prune K self.phi (toState self) Xs), ()) := by
  have hkeep : ∀ i ∈ pruneKeep self.phi (toState self), i < min self.perm.length self.cnt.length :=
    fun i hi => pruneMask_length self.phi (toState self) ▸ (mem_keepIdx.mp hi).1
  have hcnt : (pruneKeep self.phi (toState self)).map (fun i => self.cnt[i]!) = gather _ self.cnt :=
    npTake_eq_gather self.cnt _ fun i hi => Nat.lt_of_lt_of_le (hkeep i hi) (Nat.min_le_right ..)
  have hperm := npTake_eq_gather (pruneMask self.phi (toState self)) (pruneKeep self.phi (toState self))
    fun i hi => (mem_keepIdx.mp hi).1
  have hmask : npOr self.perm (npGe self.cnt self.phi) = pruneMask self.phi (toState self) :=
    npOr_npGe self.phi (toState self)
  rw [Art.Gen.TopoART.prune, hmask, npWhere_eq, zip_filter_eq_gather,
    show keepIdx (pruneMask self.phi (toState self)) = pruneKeep self.phi (toState self) from rfl,
    hcnt, hperm, subMatrix_eq self.adj _ hadj.1 hadj.2,
    -- the relabelling loop: each iteration writes the model's `relabel` of the row's old label
    relabel_loop (relabel K _ _) _ _ _ (prune_body_spec K E _ _ _ _ _ _ _ _ _ _ hch)]
  rfl

theorem toState_prune (K : TopoKernel X Wt α μ) (E : Ext X Wt P C α) (self : Self Wt P) (Xs : List X)
    (hch : ChoiceContract K E self.params) (hadj : AdjCovers self.phi (toState self)) :
    toState (Art.Gen.TopoART.prune E self Xs).1 = Art.prune K self.phi (toState self) Xs := by
  rw [prune_spec K E self Xs hch hadj]
  exact toState_withState _ _

/-- `prune` does not touch `params`, `phi`, `tau` (and `sample_counter_`) -/
theorem prune_params (K : TopoKernel X Wt α μ) (E : Ext X Wt P C α) (self : Self Wt P) (Xs : List X)
    (hch : ChoiceContract K E self.params) (hadj : AdjCovers self.phi (toState self)) :
    (Art.Gen.TopoART.prune E self Xs).1.params = self.params ∧ (Art.Gen.TopoART.prune E self Xs).1.phi = self.phi ∧
    (Art.Gen.TopoART.prune E self Xs).1.tau = self.tau ∧ (Art.Gen.TopoART.prune E self Xs).1.n = self.n := by
  rw [prune_spec K E self Xs hch hadj]
  exact ⟨rfl, rfl, rfl, rfl⟩

/-- **`post_step_fit`**: the generated `prune` runs exactly when `sample_counter_ > 0` and
`sample_counter_ % tau == 0` (no hypothesis) -/
theorem post_step_fit_spec (E : Ext X Wt P C α) (self : Self Wt P) (Xs : List X) :
    Art.Gen.TopoART.post_step_fit E self Xs =
      (if 0 < self.n ∧ self.n % self.tau = 0 then (Art.Gen.TopoART.prune E self Xs).1 else self, ()) := by
  have hc : (decide (self.n > 0) && (self.n % self.tau == 0)) = true ↔ 0 < self.n ∧ self.n % self.tau = 0 := by
    rw [Bool.and_eq_true, decide_eq_true_eq, beq_iff_eq]
  rw [Art.Gen.TopoART.post_step_fit]
  by_cases h : 0 < self.n ∧ self.n % self.tau = 0
  · rw [if_pos h, if_pos (hc.mpr h)]
  · rw [if_neg h, if_neg (mt hc.mp h)]

/-- **`post_step_fit` is the pruning trigger of the model's `topoFitStep`** (`if s.n % tau == 0 then prune … else s`)
once a sample has been counted (`step_fit` increments `sample_counter_` first, so `0 < n` always holds there; the
source's extra test `sample_counter_ > 0` is then redundant — the model omits it) -/
theorem post_step_fit_model (K : TopoKernel X Wt α μ) (E : Ext X Wt P C α) (self : Self Wt P) (Xs : List X)
    (hch : ChoiceContract K E self.params) (hadj : AdjCovers self.phi (toState self)) (hn : 0 < self.n) :
    toState (Art.Gen.TopoART.post_step_fit E self Xs).1 =
      (if (toState self).n % self.tau == 0 then Art.prune K self.phi (toState self) Xs else toState self) := by
  rw [post_step_fit_spec]
  show _ = if (self.n % self.tau == 0) = true then _ else _
  by_cases h : self.n % self.tau = 0
  · rw [if_pos ⟨hn, h⟩, if_pos (beq_iff_eq.mpr h)]
    exact toState_prune K E self Xs hch hadj
  · rw [if_neg fun h' => h h'.2, if_neg (mt beq_iff_eq.mp h)]

/-! ## C. C14's pruning theorems hold of the generated `prune` -/

/-- **the generated `prune` preserves the shape invariant**: afterwards the adjacency matrix is square with one row
and one column per surviving category, counters and mask have one entry per category, the diagonal is zero
(`ArtProofs.Topo.prune_shape` transported) -/
theorem gen_prune_shape (K : TopoKernel X Wt α μ) (E : Ext X Wt P C α) (self : Self Wt P) (Xs : List X)
    (hch : ChoiceContract K E self.params) (hs : ShapeInv (toState self)) :
    ShapeInv (toState (Art.Gen.TopoART.prune E self Xs).1) := by
  rw [toState_prune K E self Xs hch (AdjCovers.of_shape hs)]
  exact prune_shape K self.phi (toState self) Xs hs

/-- **the generated `prune` keeps exactly the right set** (`C14.prune_keeps_exactly` transported): category `i`
survives iff it was permanent or has at least `phi` samples; as many categories remain as survivors; all of them are
permanent afterwards -/
theorem gen_prune_keeps_exactly (K : TopoKernel X Wt α μ) (E : Ext X Wt P C α) (self : Self Wt P) (Xs : List X)
    (hch : ChoiceContract K E self.params) (hs : ShapeInv (toState self)) :
    (∀ i, i ∈ pruneKeep self.phi (toState self) ↔
      i < self.W.length ∧ (self.perm[i]? = some true ∨ ∃ c, self.cnt[i]? = some c ∧ self.phi ≤ c)) ∧
    (Art.Gen.TopoART.prune E self Xs).1.W.length = (pruneKeep self.phi (toState self)).length ∧
    (∀ b ∈ (Art.Gen.TopoART.prune E self Xs).1.perm, b = true) := by
  rw [prune_spec K E self Xs hch (AdjCovers.of_shape hs)]
  exact Art.C14.prune_keeps_exactly K self.phi (toState self) Xs hs

/-- **after the generated `prune` every label of a row of `X` indexes a surviving category or is `-1`**
(`ArtProofs.Topo.prune_labels_ok` transported) -/
theorem gen_prune_labels_ok (K : TopoKernel X Wt α μ) (E : Ext X Wt P C α) (self : Self Wt P) (Xs : List X)
    (hch : ChoiceContract K E self.params) (hs : ShapeInv (toState self)) (hlen : self.labels.length ≤ Xs.length) :
    ∀ (i : Nat) (l : Int), (Art.Gen.TopoART.prune E self Xs).1.labels[i]? = some l →
      l = -1 ∨ (0 ≤ l ∧ l < ((Art.Gen.TopoART.prune E self Xs).1.W.length : Int)) := by
  rw [prune_spec K E self Xs hch (AdjCovers.of_shape hs)]
  exact prune_labels_ok (K := K) (phi := self.phi) (toState self) Xs hs hlen

/-- **the generated `prune` re-indexes the adjacency matrix by the survivors** (`C14.prune_reindex_consistent`
transported): entry `(j, k)` of the new matrix is entry `(ι[j], ι[k])` of the old one, `ι` the ascending list of
surviving old indices; it has `|ι|` rows -/
theorem gen_prune_adj (K : TopoKernel X Wt α μ) (E : Ext X Wt P C α) (self : Self Wt P) (Xs : List X)
    (hch : ChoiceContract K E self.params) (hs : ShapeInv (toState self)) :
    let ι := pruneKeep self.phi (toState self)
    ι.Pairwise (· < ·) ∧ (Art.Gen.TopoART.prune E self Xs).1.adj.length = ι.length ∧
    ∀ j (hj : j < ι.length) k (hk : k < ι.length),
      adjAt (Art.Gen.TopoART.prune E self Xs).1.adj j k = adjAt self.adj ι[j] ι[k] := by
  rw [prune_spec K E self Xs hch (AdjCovers.of_shape hs)]
  have h := Art.C14.prune_reindex_consistent K self.phi (toState self) Xs hs
  simp only at h
  exact ⟨h.1, h.2.2.2.2.2.1, fun j hj k hk => (h.2.2.2.2.2.2.1 j hj).2.2.2 k hk⟩

end Spec

/-! ## D. non-vacuity: the generated code runs on concrete data -/

section Example

/-- a one-dimensional toy base module: activation `-|x - w|`, cache unused -/
def exE : Ext Int Int Unit Unit Int :=
  { category_choice := fun _ x w _ => (some (-(x - w).natAbs : Int), ()),
    match_criterion_bin := fun _ _ _ _ _ => (true, ()),
    update := fun x _ _ _ => x,
    new_weight := fun x _ => x,
    match_tracking := fun _ _ p _ => (true, p),
    operator := fun _ => false,
    noneC := (),
    cache_int := fun _ k => if k == "resonant_c" then some 0 else if k == "current_c" then some 2 else none }

/-- three categories (counts 3, 1, 2), an edge 0→1 and an edge 2→0; four rows labelled 0, 1, 2, 1 -/
def exSelf : Self Int Unit :=
  { W := [0, 10, 20], cnt := [3, 1, 2], adj := [[0, 1, 0], [0, 0, 0], [1, 0, 0]], perm := [false, false, false],
    labels := [0, 1, 2, 1], n := 4, params := (), phi := 2, tau := 4 }

/-- `prune` drops category 1 (one sample < phi = 2), keeps 0 and 2 (re-indexed 0 and 1), takes the sub-matrix, maps
labels 0 ↦ 0 and 2 ↦ 1 and re-predicts the two orphans (9 is nearest to 0, 18 nearest to 20) -/
example : toState (Art.Gen.TopoART.prune exE exSelf [1, 9, 21, 18]).1 =
    { W := [0, 20], cnt := [3, 2], adj := [[0, 0], [1, 0]], perm := [true, true], labels := [0, 0, 1, 1], n := 4 } := by
  decide +kernel

/-- `post_step_fit` prunes at `n = 4 = tau` and not at `n = 3` -/
example : (Art.Gen.TopoART.post_step_fit exE exSelf [1, 9, 21, 18]).1.W = [0, 20] ∧
    (Art.Gen.TopoART.post_step_fit exE { exSelf with n := 3 } [1, 9, 21, 18]).1.W = [0, 10, 20] := by decide +kernel

/-- `add_weight` pads, `update` increments the edge (0, 2) named by the cache -/
example : (Art.Gen.TopoART.add_weight exE exSelf 30).1.adj = [[0, 1, 0, 0], [0, 0, 0, 0], [1, 0, 0, 0], [0, 0, 0, 0]] ∧
    (Art.Gen.TopoART.add_weight exE exSelf 30).1.perm = [false, false, false, false] ∧
    (Art.Gen.TopoART.update exE exSelf 5 0 () ()).1.adj = [[0, 1, 1], [0, 0, 0], [1, 0, 0]] := by decide +kernel

end Example

end Art.GenSpec.Topo
