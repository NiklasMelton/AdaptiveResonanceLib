/-
ArtProofs.Fit — one training step changes exactly one category (frame), and the
bookkeeping invariants of `fit` / `partial_fit` over arbitrary streams.
-/
import ArtProofs.Search
import Mathlib.Data.List.Count

namespace Art

set_option linter.unusedSectionVars false

variable {X Wt α μ θ : Type} [LinearOrder α]

theorem strikeVetoed_length (tilde : Bool) (veto : Nat → Bool) (T : List (Option α)) :
    (strikeVetoed tilde veto T).length = T.length := by
  cases tilde
  · rfl
  · exact (List.length_map _).trans List.length_zipIdx

theorem strikeVetoed_getElem? (tilde : Bool) (veto : Nat → Bool) (T : List (Option α)) (j : Nat) :
    (strikeVetoed tilde veto T)[j]? =
      (T[j]?).map (fun t => if tilde && veto j then none else t) := by
  cases tilde
  · show T[j]? = _
    cases T[j]? <;> rfl
  · rw [strikeVetoed, if_pos rfl, List.getElem?_map, List.getElem?_zipIdx]
    cases T[j]? with
    | none => rfl
    | some t => simp only [Option.map_some, Nat.zero_add, Bool.true_and]

theorem activations_length (K : Kernel X Wt α μ) (W : List Wt) (x : X) :
    (activations K W x).length = W.length :=
  List.length_map _

/-- the search of one training step, with the fuel it is given: one iteration per category -/
theorem stepSearch_eq (K : Kernel X Wt α μ) (cfg : SearchCfg μ θ) (th0 : θ) (veto : Nat → Bool)
    (W : List Wt) (x : X) :
    stepSearch K cfg th0 veto W x =
      search cfg (matchAt K W x) veto W.length (strikeVetoed cfg.tilde veto (activations K W x)) th0 := by
  rw [stepSearch, strikeVetoed_length, activations_length]

/-- A winner of a training step indexes an existing category. -/
theorem stepSearch_winner_lt (K : Kernel X Wt α μ) (cfg : SearchCfg μ θ) (th0 : θ)
    (veto : Nat → Bool) (W : List Wt) (x : X) (c : Nat)
    (h : (stepSearch K cfg th0 veto W x).winner = some c) : c < W.length := by
  unfold stepSearch at h
  obtain ⟨⟨v, hv⟩, _⟩ := search_winner_sound cfg _ veto _ _ th0 (liveCount_le_length _) c h
  have := (List.getElem?_eq_some_iff.mp hv).1
  rwa [strikeVetoed_length, activations_length] at this

/-- A winner of a training step was not vetoed — in every mode, MT~ included
(there the vetoed categories were struck before the loop). -/
theorem stepSearch_winner_not_vetoed (K : Kernel X Wt α μ) (cfg : SearchCfg μ θ) (th0 : θ)
    (veto : Nat → Bool) (W : List Wt) (x : X) (c : Nat)
    (h : (stepSearch K cfg th0 veto W x).winner = some c) : veto c = false := by
  unfold stepSearch at h
  obtain ⟨⟨v, hv⟩, th', _, _, hok⟩ :=
    search_winner_sound cfg _ veto _ _ th0 (liveCount_le_length _) c h
  cases hvc : veto c with
  | false => rfl
  | true =>
    -- a vetoed winner is possible only under MT~, and there the pre-pass struck it
    rw [hvc, Bool.not_true, Bool.or_false] at hok
    rw [strikeVetoed_getElem?, hok, hvc] at hv
    generalize (activations K W x)[c]? = o at hv
    cases o <;> cases hv

/-- A winner passed the vigilance test against *some* threshold reachable from
the configured one by tracking steps; `Q` is any invariant of such thresholds. -/
theorem stepSearch_winner_passes (K : Kernel X Wt α μ) (cfg : SearchCfg μ θ) (th0 : θ)
    (veto : Nat → Bool) (W : List Wt) (x : X) (c : Nat) (Q : θ → Prop) (h0 : Q th0)
    (hQ : ∀ th m, Q th → cfg.passes th m = true → Q (cfg.track th m))
    (h : (stepSearch K cfg th0 veto W x).winner = some c) :
    ∃ th, Q th ∧ cfg.passes th (matchAt K W x c) = true := by
  unfold stepSearch at h
  obtain ⟨_, th', hl, hp, _⟩ := search_winner_sound cfg _ veto _ _ th0 (liveCount_le_length _) c h
  refine ⟨th', ?_, hp⟩
  have := search_threshold_inv cfg (matchAt K W x) veto Q hQ _ _ th0 (liveCount_le_length _) h0
    ⟨c, th', true, true⟩ (List.mem_of_getLast? hl)
  exact this

theorem applyWinner_none (K : Kernel X Wt α μ) (s : ArtState Wt) (x : X) :
    applyWinner K s x none =
      ({ s with W := s.W ++ [K.newW x], cnt := s.cnt ++ [1], n := s.n + 1 }, s.W.length) := rfl

theorem applyWinner_some (K : Kernel X Wt α μ) (s : ArtState Wt) (x : X) {c : Nat} (hc : c < s.W.length) :
    applyWinner K s x (some c) =
      ({ s with W := s.W.set c (K.update x s.W[c]), cnt := s.cnt.set c (s.cnt.getD c 0 + 1),
                n := s.n + 1 }, c) := by
  simp only [applyWinner, List.getElem?_eq_getElem hc]

theorem applyWinner_with_labels (K : Kernel X Wt α μ) (s : ArtState Wt) (l : List Nat) (x : X) (o : Option Nat) :
    applyWinner K { s with labels := l } x o =
      ({ (applyWinner K s x o).1 with labels := l }, (applyWinner K s x o).2) := by
  cases o with
  | none => rfl
  | some c =>
    simp only [applyWinner]
    cases s.W[c]? <;> rfl

/-- the model's training step neither reads nor changes the labels -/
theorem stepFit_with_labels (K : Kernel X Wt α μ) (cfg : SearchCfg μ θ) (th0 : θ) (veto : Nat → Bool)
    (m : ArtState Wt) (l : List Nat) (x : X) :
    stepFit K cfg th0 veto { m with labels := l } x =
      ({ (stepFit K cfg th0 veto m x).1 with labels := l }, (stepFit K cfg th0 veto m x).2) := by
  simp only [stepFit, applyWinner_with_labels]
  split <;> rfl

/-- The two outcomes of a training step: the search resonated with an existing category `c`, which learns the
sample, or a new category is appended. -/
theorem stepFit_cases (K : Kernel X Wt α μ) (cfg : SearchCfg μ θ) (th0 : θ) (veto : Nat → Bool)
    (s : ArtState Wt) (x : X) :
    (∃ c, ∃ hc : c < s.W.length, (stepSearch K cfg th0 veto s.W x).winner = some c ∧
      stepFit K cfg th0 veto s x =
        ({ s with W := s.W.set c (K.update x s.W[c]), cnt := s.cnt.set c (s.cnt.getD c 0 + 1), n := s.n + 1 }, c)) ∨
    stepFit K cfg th0 veto s x =
      ({ s with W := s.W ++ [K.newW x], cnt := s.cnt ++ [1], n := s.n + 1 }, s.W.length) := by
  unfold stepFit
  split
  · exact Or.inr rfl
  · cases h : (stepSearch K cfg th0 veto s.W x).winner with
    | none => exact Or.inr rfl
    | some c =>
      have hc := stepSearch_winner_lt K cfg th0 veto s.W x c h
      exact Or.inl ⟨c, hc, rfl, applyWinner_some K s x hc⟩

/-- `step_fit` returns the label of an *existing* category only when the search
resonated with it. -/
theorem stepFit_existing (K : Kernel X Wt α μ) (cfg : SearchCfg μ θ) (th0 : θ)
    (veto : Nat → Bool) (s : ArtState Wt) (x : X) (c : Nat)
    (h : (stepFit K cfg th0 veto s x).2 = c) (hc : c < s.W.length) :
    (stepSearch K cfg th0 veto s.W x).winner = some c := by
  rcases stepFit_cases K cfg th0 veto s x with ⟨c', _, hwin, e⟩ | e <;> rw [e] at h
  · exact h ▸ hwin
  · exact absurd (h ▸ hc) (Nat.lt_irrefl _)

/-! ### Frame of one step -/

/-- **Frame.**  One training step either re-writes exactly the winner's weight
with `update` and bumps its counter, or appends exactly one category made by
`newW` with counter 1; nothing else changes, the sample counter grows by one. -/
theorem stepFit_frame (K : Kernel X Wt α μ) (cfg : SearchCfg μ θ) (th0 : θ)
    (veto : Nat → Bool) (s : ArtState Wt) (x : X) :
    (stepFit K cfg th0 veto s x).1.n = s.n + 1 ∧
    (stepFit K cfg th0 veto s x).1.labels = s.labels ∧
    (((stepFit K cfg th0 veto s x).2 < s.W.length ∧
        ∃ w, s.W[(stepFit K cfg th0 veto s x).2]? = some w ∧
        (stepFit K cfg th0 veto s x).1.W = s.W.set (stepFit K cfg th0 veto s x).2 (K.update x w) ∧
        (stepFit K cfg th0 veto s x).1.cnt =
          s.cnt.set (stepFit K cfg th0 veto s x).2 (s.cnt.getD (stepFit K cfg th0 veto s x).2 0 + 1)) ∨
     ((stepFit K cfg th0 veto s x).2 = s.W.length ∧
        (stepFit K cfg th0 veto s x).1.W = s.W ++ [K.newW x] ∧
        (stepFit K cfg th0 veto s x).1.cnt = s.cnt ++ [1])) := by
  rcases stepFit_cases K cfg th0 veto s x with ⟨c, hc, _, e⟩ | e <;> rw [e]
  · exact ⟨rfl, rfl, Or.inl ⟨hc, _, List.getElem?_eq_getElem hc, rfl, rfl⟩⟩
  · exact ⟨rfl, rfl, Or.inr ⟨rfl, rfl, rfl⟩⟩

theorem stepFit_labels (K : Kernel X Wt α μ) (cfg : SearchCfg μ θ) (th0 : θ) (veto : Nat → Bool)
    (s : ArtState Wt) (x : X) : (stepFit K cfg th0 veto s x).1.labels = s.labels := by
  rcases stepFit_cases K cfg th0 veto s x with ⟨c, hc, _, e⟩ | e <;> rw [e]

theorem trainStep_eq (K : Kernel X Wt α μ) (cfg : SearchCfg μ θ) (th0 : θ)
    (veto : ArtState Wt → X → Nat → Bool) (s : ArtState Wt) (x : X) :
    trainStep K cfg th0 veto s x =
      { W := (stepFit K cfg th0 (veto s x) s x).1.W, cnt := (stepFit K cfg th0 (veto s x) s x).1.cnt,
        n := (stepFit K cfg th0 (veto s x) s x).1.n,
        labels := s.labels ++ [(stepFit K cfg th0 (veto s x) s x).2] } := by
  rw [← stepFit_labels K cfg th0 (veto s x) s x]
  rfl

theorem epochStep_eq (K : Kernel X Wt α μ) (cfg : SearchCfg μ θ) (th0 : θ)
    (veto : ArtState Wt → X → Nat → Bool) (s : ArtState Wt) (xi : X × Nat) :
    epochStep K cfg th0 veto s xi =
      { W := (stepFit K cfg th0 (veto s xi.1) s xi.1).1.W, cnt := (stepFit K cfg th0 (veto s xi.1) s xi.1).1.cnt,
        n := (stepFit K cfg th0 (veto s xi.1) s xi.1).1.n,
        labels := s.labels.set xi.2 (stepFit K cfg th0 (veto s xi.1) s xi.1).2 } := by
  rw [← stepFit_labels K cfg th0 (veto s xi.1) s xi.1]
  rfl

/-- the label returned by a step is `≤ |W|` before, `< |W|` after -/
theorem stepFit_label_lt (K : Kernel X Wt α μ) (cfg : SearchCfg μ θ) (th0 : θ)
    (veto : Nat → Bool) (s : ArtState Wt) (x : X) :
    (stepFit K cfg th0 veto s x).2 < (stepFit K cfg th0 veto s x).1.W.length ∧
    s.W.length ≤ (stepFit K cfg th0 veto s x).1.W.length := by
  rcases stepFit_cases K cfg th0 veto s x with ⟨c, hc, _, e⟩ | e <;> rw [e]
  · exact ⟨Nat.lt_of_lt_of_eq hc List.length_set.symm, Nat.le_of_eq List.length_set.symm⟩
  · have hlt := Nat.lt_of_lt_of_eq (Nat.lt_succ_self s.W.length) (List.length_append (bs := [K.newW x])).symm
    exact ⟨hlt, Nat.le_of_lt hlt⟩

/-! ### Bookkeeping invariant of training histories (C05) -/

structure Consistent (s : ArtState Wt) : Prop where
  cnt_len : s.cnt.length = s.W.length
  labels_lt : ∀ l ∈ s.labels, l < s.W.length
  cnt_hist : ∀ k, k < s.W.length → s.cnt.getD k 0 = s.labels.count k
  n_eq : s.n = s.labels.length
  /-- no empty category -/
  all_used : ∀ k, k < s.W.length → k ∈ s.labels
  /-- categories are numbered in order of creation: the first occurrence of
  `k+1` comes after the first occurrence of `k` -/
  ordered : ∀ k, k + 1 < s.W.length → s.labels.idxOf k < s.labels.idxOf (k + 1)

theorem consistent_empty : Consistent ({} : ArtState Wt) where
  cnt_len := rfl
  labels_lt := fun _ h => nomatch h
  cnt_hist := fun _ h => nomatch h
  n_eq := rfl
  all_used := fun _ h => nomatch h
  ordered := fun _ h => nomatch h

/-- the counter of `k` is the number of labels `k`, also outside the range of categories (both are 0 there) -/
theorem Consistent.cnt_eq_count {s : ArtState Wt} (h : Consistent s) (k : Nat) :
    s.cnt.getD k 0 = s.labels.count k := by
  by_cases hk : k < s.W.length
  · exact h.cnt_hist k hk
  · rw [List.getD_eq_getElem?_getD, List.getElem?_eq_none (by rw [h.cnt_len]; omega),
      List.count_eq_zero.mpr fun hm => hk (h.labels_lt k hm)]
    rfl

theorem getD_set_bump (l : List Nat) {c : Nat} (hc : c < l.length) (k : Nat) :
    (l.set c (l.getD c 0 + 1)).getD k 0 = l.getD k 0 + if c = k then 1 else 0 := by
  simp only [List.getD_eq_getElem?_getD]
  by_cases e : c = k
  · subst e; rw [List.getElem?_set_self hc, if_pos rfl]; rfl
  · rw [List.getElem?_set_ne e, if_neg e]; rfl

theorem getD_append_one (l : List Nat) (k : Nat) :
    (l ++ [1]).getD k 0 = l.getD k 0 + if l.length = k then 1 else 0 := by
  simp only [List.getD_eq_getElem?_getD]
  rcases Nat.lt_trichotomy k l.length with hk | rfl | hk
  · rw [List.getElem?_append_left hk, if_neg (Nat.ne_of_gt hk)]; rfl
  · rw [List.getElem?_concat_length, List.getElem?_eq_none (Nat.le_refl _), if_pos rfl]; rfl
  · rw [List.getElem?_eq_none (by rw [List.length_append]; exact hk), List.getElem?_eq_none (Nat.le_of_lt hk),
      if_neg (Nat.ne_of_lt hk)]; rfl

/-- The bookkeeping of one training step: the label `c ≤ |W|` is appended, `W` grows (if need be, and by no more) to
cover `c`, counter `c` is bumped, the sample counter grows by one. -/
theorem consistent_step {s : ArtState Wt} (h : Consistent s) {W' : List Wt} {cnt' : List Nat} {c : Nat}
    (hc : c ≤ s.W.length) (hlo : s.W.length ≤ W'.length) (hcW : c < W'.length)
    (hcov : ∀ k, k < W'.length → k < s.W.length ∨ k = c) (hcl : cnt'.length = W'.length)
    (hcnt : ∀ k, cnt'.getD k 0 = s.cnt.getD k 0 + if c = k then 1 else 0) :
    Consistent { W := W', cnt := cnt', n := s.n + 1, labels := s.labels ++ [c] } := by
  refine ⟨hcl, ?_, ?_, ?_, ?_, ?_⟩ <;> dsimp only
  · intro l hl
    rcases List.mem_append.mp hl with hl | hl
    · exact Nat.lt_of_lt_of_le (h.labels_lt l hl) hlo
    · exact List.mem_singleton.mp hl ▸ hcW
  · intro k _
    rw [hcnt, h.cnt_eq_count, List.count_append, List.count_singleton]
    simp only [beq_iff_eq]
  · rw [List.length_append, h.n_eq]; rfl
  · intro k hk
    rcases hcov k hk with hk' | rfl
    · exact List.mem_append_left _ (h.all_used k hk')
    · exact List.mem_append_right _ (List.mem_singleton.mpr rfl)
  · intro k hk
    by_cases hk' : k + 1 < s.W.length
    · rw [List.idxOf_append, if_pos (h.all_used k (Nat.lt_of_succ_lt hk')), List.idxOf_append,
        if_pos (h.all_used _ hk')]
      exact h.ordered k hk'
    · -- `k + 1 = c` is the new category: it does not occur among the old labels
      have e : k + 1 = c := (hcov _ hk).resolve_left hk'
      have h1 : k ∈ s.labels := h.all_used k (by omega)
      rw [List.idxOf_append, if_pos h1, List.idxOf_append, if_neg fun hm => hk' (h.labels_lt _ hm)]
      exact Nat.lt_of_lt_of_le (List.idxOf_lt_length_of_mem h1) (Nat.le_add_left _ _)

theorem trainStep_consistent (K : Kernel X Wt α μ) (cfg : SearchCfg μ θ) (th0 : θ)
    (veto : ArtState Wt → X → Nat → Bool) (s : ArtState Wt) (x : X) (h : Consistent s) :
    Consistent (trainStep K cfg th0 veto s x) := by
  unfold trainStep
  rcases stepFit_cases K cfg th0 (veto s x) s x with ⟨c, hc, _, e⟩ | e <;> rw [e]
  · have hlen : (s.W.set c (K.update x s.W[c])).length = s.W.length := List.length_set
    exact consistent_step h (Nat.le_of_lt hc) (Nat.le_of_eq hlen.symm) (by rw [hlen]; exact hc)
      (fun k hk => Or.inl (by rw [hlen] at hk; exact hk)) (by rw [List.length_set, hlen, h.cnt_len])
      (getD_set_bump _ (by rw [h.cnt_len]; exact hc))
  · have hlen : (s.W ++ [K.newW x]).length = s.W.length + 1 := List.length_append
    exact consistent_step h (Nat.le_refl _) (by rw [hlen]; exact Nat.le_succ _) (by rw [hlen]; exact Nat.lt_succ_self _)
      (fun k hk => Nat.lt_succ_iff_lt_or_eq.mp (by rw [hlen] at hk; exact hk))
      (by rw [hlen, List.length_append, h.cnt_len]; rfl) (by rw [← h.cnt_len]; exact getD_append_one _)

theorem partialFit_consistent (K : Kernel X Wt α μ) (cfg : SearchCfg μ θ) (th0 : θ)
    (veto : ArtState Wt → X → Nat → Bool) (s : ArtState Wt) (xs : List X) (h : Consistent s) :
    Consistent (partialFit K cfg th0 veto s xs) := by
  unfold partialFit
  induction xs generalizing s with
  | nil => exact h
  | cons x xs ih => exact ih _ (trainStep_consistent K cfg th0 veto s x h)

theorem fit_consistent (K : Kernel X Wt α μ) (cfg : SearchCfg μ θ) (th0 : θ)
    (veto : ArtState Wt → X → Nat → Bool) (s : ArtState Wt) (xs : List X) :
    Consistent (fit K cfg th0 veto s xs) :=
  partialFit_consistent K cfg th0 veto {} xs consistent_empty

theorem trainStep_labels_length (K : Kernel X Wt α μ) (cfg : SearchCfg μ θ) (th0 : θ)
    (veto : ArtState Wt → X → Nat → Bool) (s : ArtState Wt) (x : X) :
    (trainStep K cfg th0 veto s x).labels.length = s.labels.length + 1 := by
  rw [trainStep_eq, List.length_append]
  rfl

theorem partialFit_labels_length (K : Kernel X Wt α μ) (cfg : SearchCfg μ θ) (th0 : θ)
    (veto : ArtState Wt → X → Nat → Bool) (s : ArtState Wt) (xs : List X) :
    (partialFit K cfg th0 veto s xs).labels.length = s.labels.length + xs.length := by
  unfold partialFit
  induction xs generalizing s with
  | nil => rfl
  | cons x xs ih =>
    rw [List.foldl_cons, ih, trainStep_labels_length, List.length_cons, Nat.add_assoc, Nat.add_comm 1]

/-! ### Streams (C06) -/

theorem partialFit_append (K : Kernel X Wt α μ) (cfg : SearchCfg μ θ) (th0 : θ)
    (veto : ArtState Wt → X → Nat → Bool) (s : ArtState Wt) (xs ys : List X) :
    partialFit K cfg th0 veto s (xs ++ ys) =
      partialFit K cfg th0 veto (partialFit K cfg th0 veto s xs) ys := by
  unfold partialFit
  exact List.foldl_append

/-- Any partition of a stream into batches gives the state of the single batch. -/
theorem partialFit_flatten (K : Kernel X Wt α μ) (cfg : SearchCfg μ θ) (th0 : θ)
    (veto : ArtState Wt → X → Nat → Bool) (s : ArtState Wt) (batches : List (List X)) :
    batches.foldl (partialFit K cfg th0 veto) s = partialFit K cfg th0 veto s batches.flatten := by
  induction batches generalizing s with
  | nil => rfl
  | cons b bs ih => simp only [List.foldl_cons, List.flatten_cons, partialFit_append, ih]

end Art
