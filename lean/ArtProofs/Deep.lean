/-
ArtProofs.Deep — DeepARTMAP / SMART: the chain of SimpleARTMAP layers keeps
`MapInv` in every layer and "the supervision of layer i+1 is `labels_a` of layer
i", after `fit` and after every `partial_fit` batch; consequences for
`labels_deep_`, `map_deep` and `predict`; batching is irrelevant.
For every linear order, kernel, match-tracking configuration and stream.
-/
import ArtProofs.Predict
import ArtModel.Deep
import Mathlib.Data.Finset.Card
import Mathlib.Data.Finset.Image

namespace Art

set_option linter.unusedSectionVars false

variable {X Wt α μ θ : Type} [LinearOrder α]

/-! ### lists -/

theorem lastN_append {β : Type} (n : Nat) (l t : List β) (ht : t.length = n) (hn : 0 < n) :
    lastN n (l ++ t) = t := by
  rw [lastN, if_neg (Nat.ne_of_gt hn), List.length_append, ht, Nat.add_sub_cancel, List.drop_left]

theorem zipWith_append_length {β : Type} (n₁ n₂ : Nat) (A B : List (List β))
    (hA : ∀ xs ∈ A, xs.length = n₁) (hB : ∀ xs ∈ B, xs.length = n₂) :
    ∀ zs ∈ List.zipWith (· ++ ·) A B, zs.length = n₁ + n₂ := by
  intro zs hz
  obtain ⟨i, hi, rfl⟩ := List.getElem_of_mem hz
  rw [List.getElem_zipWith, List.length_append, hA _ (List.getElem_mem _), hB _ (List.getElem_mem _)]

theorem nested_of_map_eq {f : Nat → Option Nat} {cf cc : List Nat} (h : cf.map f = cc.map some)
    (i j : Nat) (hij : cf[i]? = cf[j]?) : cc[i]? = cc[j]? := by
  have key : ∀ k, (cc[k]?).map some = (cf[k]?).map f := fun k => by
    rw [← List.getElem?_map, ← List.getElem?_map, h]
  exact Option.map_injective (Option.some_injective _) ((key i).trans (hij ▸ (key j).symm))

theorem length_eq_of_map_eq {β γ δ : Type} {f : β → δ} {g : γ → δ} {cf : List β} {cc : List γ}
    (h : cf.map f = cc.map g) : cf.length = cc.length := by
  have := congrArg List.length h
  rwa [List.length_map, List.length_map] at this

theorem toFinset_map' {β γ : Type} [DecidableEq β] [DecidableEq γ] (f : β → γ) (l : List β) :
    (l.map f).toFinset = l.toFinset.image f := by
  ext x; simp

theorem card_le_of_map_eq {f : Nat → Option Nat} {cf cc : List Nat} (h : cf.map f = cc.map some) :
    cc.toFinset.card ≤ cf.toFinset.card := by
  rw [← Finset.card_image_of_injective cc.toFinset (Option.some_injective _), ← toFinset_map', ← h,
    toFinset_map']
  exact Finset.card_image_le

/-! ### one layer -/

/-- a layer in good standing: functional total map consistent with its targets,
and consistent label/weight bookkeeping on the A-side -/
def LayerOK (s : SMapState Wt) : Prop := MapInv s ∧ Consistent s.a

theorem layerOK_empty : LayerOK ({} : SMapState Wt) := ⟨mapInv_empty, consistent_empty⟩

theorem layerOK_partialFit (K : Kernel X Wt α μ) (cfg : SearchCfg μ θ) (th0 : θ)
    (s : SMapState Wt) (xys : List (X × Nat)) (h : LayerOK s) :
    LayerOK (smapPartialFit K cfg th0 s xys) :=
  ⟨(smapPartialFit_inv K cfg th0 s xys h.1).1, smapPartialFit_consistent K cfg th0 s xys h.2⟩

/-! ### the chain invariant -/

/-- Every layer is in good standing and the targets of each layer are exactly
the A-side labels of the layer above it. -/
def DeepInv : List (SMapState Wt) → Prop
  | [] => True
  | s :: r => LayerOK s ∧ (∀ t, r.head? = some t → t.labelsB = s.a.labels) ∧ DeepInv r

theorem deepInv_mem {layers : List (SMapState Wt)} (h : DeepInv layers) : ∀ s ∈ layers, LayerOK s := by
  induction layers with
  | nil => exact fun _ hs => nomatch hs
  | cons s r ih => exact List.forall_mem_cons.mpr ⟨h.1, ih h.2.2⟩

theorem deepInv_getElem? {layers : List (SMapState Wt)} (h : DeepInv layers) {l : Nat} {s : SMapState Wt}
    (hs : layers[l]? = some s) : LayerOK s :=
  deepInv_mem h s (List.mem_of_getElem? hs)

/-- consecutive layers are linked -/
theorem deepInv_link {layers : List (SMapState Wt)} (h : DeepInv layers) {l : Nat} {s t : SMapState Wt}
    (hs : layers[l]? = some s) (ht : layers[l + 1]? = some t) : t.labelsB = s.a.labels := by
  induction layers generalizing l with
  | nil => cases hs
  | cons s0 r ih =>
    cases l with
    | zero => exact Option.some.inj hs ▸ h.2.1 t (List.head?_eq_getElem?.trans ht)
    | succ l => exact ih h.2.2 hs ht

theorem deepInv_replicate (k : Nat) : DeepInv (List.replicate k ({} : SMapState Wt)) := by
  induction k with
  | zero => trivial
  | succ k ih =>
    refine ⟨layerOK_empty, fun t ht => ?_, ih⟩
    rw [List.head?_replicate] at ht
    split at ht
    · cases ht
    · cases ht; rfl

/-! ### `partial_fit` / `fit` preserve the chain invariant -/

theorem chainPartialFit_head (n : Nat) (Ls : List (Level X Wt α μ θ)) (st : List (SMapState Wt))
    (Xs : List (List X)) (y : List Nat) (s' : SMapState Wt)
    (h : (chainPartialFit n Ls st Xs y).head? = some s') :
    ∃ L s xs, Ls.head? = some L ∧ st.head? = some s ∧ Xs.head? = some xs ∧
      s' = smapPartialFit L.K L.cfg L.th s (xs.zip y) := by
  unfold chainPartialFit at h
  split at h
  · exact ⟨_, _, _, rfl, rfl, rfl, (Option.some.inj h).symm⟩
  · cases h

/-- the layers below see a label vector only through `zip`, so it may be cut to the rows of the batch -/
theorem chainPartialFit_lastN (n : Nat) (Ls : List (Level X Wt α μ θ)) (st : List (SMapState Wt))
    (Xs : List (List X)) (l t : List Nat) (hX : ∀ xs ∈ Xs, xs.length = n) (ht : t.length = n) :
    chainPartialFit n Ls st Xs (lastN n (l ++ t)) = chainPartialFit n Ls st Xs t := by
  unfold chainPartialFit
  split
  · next xs _ =>
    -- Python's `v[-0:]` is all of `v`, but zipped with a matrix of no rows that makes no difference
    rcases Nat.eq_zero_or_pos n with rfl | hn
    · rw [List.eq_nil_of_length_eq_zero (hX xs List.mem_cons_self), List.zip_nil_left, List.zip_nil_left]
    · rw [lastN_append n l t ht hn]
  · rfl

/-- One layer of `partial_fit` on a batch of `n` rows: the slice `labels_a[-n:]` handed down is the labels `t`
this batch has added. -/
theorem chainPartialFit_cons (n : Nat) (L : Level X Wt α μ θ) (Ls : List (Level X Wt α μ θ)) (s : SMapState Wt)
    (ss : List (SMapState Wt)) (xs : List X) (Xs : List (List X)) (y : List Nat)
    (hX : ∀ xs' ∈ xs :: Xs, xs'.length = n) (hy : n ≤ y.length) :
    ∃ t, t.length = n ∧ (smapPartialFit L.K L.cfg L.th s (xs.zip y)).a.labels = s.a.labels ++ t ∧
      chainPartialFit n (L :: Ls) (s :: ss) (xs :: Xs) y =
        smapPartialFit L.K L.cfg L.th s (xs.zip y) :: chainPartialFit n Ls ss Xs t := by
  obtain ⟨hxs, hX'⟩ := List.forall_mem_cons.mp hX
  obtain ⟨t, ht, hl⟩ := smapPartialFit_labelsA L.K L.cfg L.th s (xs.zip y)
  have hn : t.length = n := by rw [hl, List.length_zip, hxs, Nat.min_eq_left hy]
  exact ⟨t, hn, ht, by rw [chainPartialFit, ht, chainPartialFit_lastN n Ls ss Xs _ t hX' hn]⟩

/-- **Layer invariant, incremental.**  One `partial_fit` call on a hierarchy in
good standing leaves it in good standing: every layer keeps `MapInv`, and the
targets stored by layer i+1 are still exactly `labels_a` of layer i. -/
theorem chainPartialFit_inv (n : Nat) (Ls : List (Level X Wt α μ θ)) (st : List (SMapState Wt))
    (Xs : List (List X)) (y : List Nat) (hinv : DeepInv st)
    (hX : ∀ xs ∈ Xs, xs.length = n) (hy : n ≤ y.length) :
    DeepInv (chainPartialFit n Ls st Xs y) := by
  induction Ls generalizing st Xs y with
  | nil => trivial
  | cons L Ls ih =>
    rcases st with _ | ⟨s, ss⟩
    · trivial
    rcases Xs with _ | ⟨xs, Xs⟩
    · trivial
    obtain ⟨t, hn, ht, hc⟩ := chainPartialFit_cons n L Ls s ss xs Xs y hX hy
    have hX' := (List.forall_mem_cons.mp hX).2
    rw [hc]
    refine ⟨layerOK_partialFit L.K L.cfg L.th s _ hinv.1, fun t' ht' => ?_, ih ss Xs t hinv.2.2 hX' hn.ge⟩
    -- the next layer was linked to `s.a.labels` and has now been handed `t`
    obtain ⟨L1, s1, xs1, -, hs1, hx1, rfl⟩ := chainPartialFit_head n Ls ss Xs t t' ht'
    rw [smapPartialFit_labelsB, hinv.2.1 s1 hs1, ht,
      List.map_snd_zip ((hX' xs1 (List.mem_of_mem_head? hx1)).trans hn.symm).ge]

/-- On fresh layers one `partial_fit` batch is `fit`. -/
theorem chainPartialFit_fresh (n : Nat) (Ls : List (Level X Wt α μ θ)) (Xs : List (List X))
    (y : List Nat) (hX : ∀ xs ∈ Xs, xs.length = n) (hy : n ≤ y.length) :
    chainPartialFit n Ls (List.replicate Ls.length {}) Xs y = chainFit Ls Xs y := by
  induction Ls generalizing Xs y with
  | nil => rfl
  | cons L Ls ih =>
    rcases Xs with _ | ⟨xs, Xs⟩
    · rfl
    obtain ⟨t, hn, ht, hc⟩ := chainPartialFit_cons n L Ls {} (List.replicate Ls.length {}) xs Xs y hX hy
    rw [List.length_cons, List.replicate_succ, hc, chainFit, ih Xs t (List.forall_mem_cons.mp hX).2 hn.ge,
      show (smapFit L.K L.cfg L.th {} (xs.zip y)).a.labels = t from ht]
    rfl

/-- **Layer invariant, batch.** -/
theorem chainFit_inv (n : Nat) (Ls : List (Level X Wt α μ θ)) (Xs : List (List X)) (y : List Nat)
    (hX : ∀ xs ∈ Xs, xs.length = n) (hy : n ≤ y.length) : DeepInv (chainFit Ls Xs y) := by
  rw [← chainPartialFit_fresh n Ls Xs y hX hy]
  exact chainPartialFit_inv n Ls _ Xs y (deepInv_replicate _) hX hy

/-- Two `partial_fit` batches equal one batch of the concatenated data, layer by layer. -/
theorem chainPartialFit_two_batches (n₁ n₂ : Nat) (Ls : List (Level X Wt α μ θ))
    (st : List (SMapState Wt)) (Xs₁ Xs₂ : List (List X)) (y₁ y₂ : List Nat)
    (h₁ : ∀ xs ∈ Xs₁, xs.length = n₁) (h₂ : ∀ xs ∈ Xs₂, xs.length = n₂)
    (hy₁ : y₁.length = n₁) (hy₂ : y₂.length = n₂) :
    chainPartialFit n₂ Ls (chainPartialFit n₁ Ls st Xs₁ y₁) Xs₂ y₂ =
      chainPartialFit (n₁ + n₂) Ls st (List.zipWith (· ++ ·) Xs₁ Xs₂) (y₁ ++ y₂) := by
  induction Ls generalizing st Xs₁ Xs₂ y₁ y₂ with
  | nil => rfl
  | cons L Ls ih =>
    rcases st with _ | ⟨s, ss⟩
    · rfl
    rcases Xs₁ with _ | ⟨xs₁, Xs₁⟩
    · rfl
    rcases Xs₂ with _ | ⟨xs₂, Xs₂⟩
    · rfl
    obtain ⟨t₁, hn₁, ht₁, hc₁⟩ := chainPartialFit_cons n₁ L Ls s ss xs₁ Xs₁ y₁ h₁ hy₁.ge
    obtain ⟨t₂, hn₂, ht₂, hc₂⟩ := chainPartialFit_cons n₂ L Ls (smapPartialFit L.K L.cfg L.th s (xs₁.zip y₁))
      (chainPartialFit n₁ Ls ss Xs₁ t₁) xs₂ Xs₂ y₂ h₂ hy₂.ge
    obtain ⟨t, hn, ht, hc⟩ := chainPartialFit_cons (n₁ + n₂) L Ls s ss (xs₁ ++ xs₂)
      (List.zipWith (· ++ ·) Xs₁ Xs₂) (y₁ ++ y₂)
      (zipWith_append_length n₁ n₂ (xs₁ :: Xs₁) (xs₂ :: Xs₂) h₁ h₂) (by rw [List.length_append, hy₁, hy₂])
    -- the concatenated batch is the two batches in a row, so its new labels are `t₁ ++ t₂`
    rw [List.zip_append ((h₁ xs₁ List.mem_cons_self).trans hy₁.symm), ← smapPartialFit_append] at ht hc
    obtain rfl : t = t₁ ++ t₂ :=
      List.append_cancel_left (by rw [← ht, ht₂, ht₁, List.append_assoc])
    rw [hc₁, hc₂, List.zipWith_cons_cons, hc, ih ss Xs₁ Xs₂ t₁ t₂
      (List.forall_mem_cons.mp h₁).2 (List.forall_mem_cons.mp h₂).2 hn₁ hn₂]

theorem chainPartialFit_length (n : Nat) (Ls : List (Level X Wt α μ θ)) (st : List (SMapState Wt))
    (Xs : List (List X)) (y : List Nat) :
    (chainPartialFit n Ls st Xs y).length = min Ls.length (min st.length Xs.length) := by
  induction Ls generalizing st Xs y with
  | nil => exact (Nat.zero_min _).symm
  | cons L Ls ih =>
    rcases st with _ | ⟨s, ss⟩
    · rw [List.length_nil, Nat.zero_min, Nat.min_zero]; rfl
    rcases Xs with _ | ⟨xs, Xs⟩
    · rw [List.length_nil, Nat.min_zero, Nat.min_zero]; rfl
    rw [chainPartialFit, List.length_cons, ih, List.length_cons, List.length_cons, List.length_cons,
      Nat.succ_min_succ, Nat.succ_min_succ]

/-! ### `labels_deep_` -/

theorem labelsDeep_cons_cons (s t : SMapState Wt) (r : List (SMapState Wt)) :
    labelsDeep (s :: t :: r) = s.labelsB :: labelsDeep (t :: r) := rfl

/-- the columns are the `labels_` of every layer, then `labels_a` of the last one -/
theorem labelsDeep_eq (layers : List (SMapState Wt)) (last : SMapState Wt) (h : layers.getLast? = some last) :
    labelsDeep layers = layers.map (·.labelsB) ++ [last.a.labels] := by
  induction layers with
  | nil => cases h
  | cons s r ih =>
    rcases r with _ | ⟨t, r⟩
    · cases h; rfl
    · rw [labelsDeep_cons_cons, ih ((List.getLast?_cons_cons).symm.trans h)]; rfl

/-- in a linked hierarchy they are also `labels_` of the first layer, then `labels_a` of every layer -/
theorem labelsDeep_eq_of_inv (s : SMapState Wt) (r : List (SMapState Wt)) (h : DeepInv (s :: r)) :
    labelsDeep (s :: r) = s.labelsB :: (s :: r).map (·.a.labels) := by
  induction r generalizing s with
  | nil => rfl
  | cons t r ih => rw [labelsDeep_cons_cons, ih t h.2.2, h.2.1 t rfl]; rfl

theorem labelsDeep_length (layers : List (SMapState Wt)) (h : layers ≠ []) :
    (labelsDeep layers).length = layers.length + 1 := by
  rw [labelsDeep_eq layers _ (List.getLast?_eq_some_getLast h), List.length_append, List.length_map]; rfl

/-- column `l` is `labels_` of layer `l` (no hypothesis: this is how the property is assembled) -/
theorem labelsDeep_getElem?_labelsB (layers : List (SMapState Wt)) (l : Nat) (s : SMapState Wt)
    (hs : layers[l]? = some s) : (labelsDeep layers)[l]? = some s.labelsB := by
  have hl := (List.getElem?_eq_some_iff.mp hs).1
  rw [labelsDeep_eq layers _ (List.getLast?_eq_some_getLast (List.ne_nil_of_length_pos (Nat.zero_lt_of_lt hl))),
    List.getElem?_append_left (by rwa [List.length_map]), List.getElem?_map, hs]; rfl

/-- in a linked hierarchy column `l+1` is `labels_a` of layer `l`, for every layer -/
theorem labelsDeep_getElem?_labelsA {layers : List (SMapState Wt)} (h : DeepInv layers) (l : Nat)
    (s : SMapState Wt) (hs : layers[l]? = some s) : (labelsDeep layers)[l + 1]? = some s.a.labels := by
  rcases layers with _ | ⟨s0, r⟩
  · cases hs
  · rw [labelsDeep_eq_of_inv s0 r h, List.getElem?_cons_succ, List.getElem?_map, hs]; rfl

/-- the last column is `labels_a` of the last layer -/
theorem labelsDeep_getElem?_last (layers : List (SMapState Wt)) (s : SMapState Wt)
    (hs : layers.getLast? = some s) : (labelsDeep layers)[layers.length]? = some s.a.labels := by
  rw [labelsDeep_eq layers s hs, List.getElem?_append_right (by rw [List.length_map]), List.length_map,
    Nat.sub_self]; rfl

/-- a finer column comes with the layer that owns it -/
theorem labelsDeep_cols {layers : List (SMapState Wt)} (h : DeepInv layers) (l : Nat) (cf : List Nat)
    (hcf : (labelsDeep layers)[l + 1]? = some cf) :
    ∃ s, layers[l]? = some s ∧ cf = s.a.labels ∧ (labelsDeep layers)[l]? = some s.labelsB ∧
      mapA2B s.map cf = s.labelsB.map some := by
  rcases layers with _ | ⟨s0, r⟩
  · cases hcf
  · have hlt : l < (s0 :: r).length := by
      have := (List.getElem?_eq_some_iff.mp hcf).1
      rwa [labelsDeep_length _ (List.cons_ne_nil _ _), Nat.add_lt_add_iff_right] at this
    have hs := List.getElem?_eq_getElem hlt
    cases hcf.symm.trans (labelsDeep_getElem?_labelsA h l _ hs)
    exact ⟨_, hs, rfl, labelsDeep_getElem?_labelsB _ l _ hs, mapInv_mapA2B (deepInv_getElem? h hs).1⟩

/-- in a consistent module the distinct labels are exactly the categories -/
theorem distinct_labels_eq_categories {a : ArtState Wt} (h : Consistent a) :
    a.labels.toFinset.card = a.W.length := by
  have : a.labels.toFinset = Finset.range a.W.length := by
    ext k
    rw [List.mem_toFinset, Finset.mem_range]
    exact ⟨h.labels_lt k, h.all_used k⟩
  rw [this, Finset.card_range]

/-! ### `map_deep` -/

theorem mapA2B?_eq_some_iff (m : List (Option Nat)) (l l' : List Nat) :
    mapA2B? m l = some l' ↔ mapA2B m l = l'.map some :=
  mapM_eq_some_iff_map _ l l'

/-- `map_deep(l, column l+1)` is the top column -/
theorem mapDeepNat_column {layers : List (SMapState Wt)} (h : DeepInv layers) (l : Nat)
    (s : SMapState Wt) (hs : layers[l]? = some s) (top : SMapState Wt) (htop : layers[0]? = some top) :
    mapDeepNat layers l s.a.labels = some top.labelsB := by
  have hmap : ∀ {l : Nat} {s : SMapState Wt}, layers[l]? = some s → mapA2B? s.map s.a.labels = some s.labelsB :=
    fun hs => (mapA2B?_eq_some_iff _ _ _).mpr (mapInv_mapA2B (deepInv_getElem? h hs).1)
  induction l generalizing s with
  | zero => rw [mapDeepNat, hs, Option.bind_some, hmap hs, Option.some.inj (hs.symm.trans htop)]
  | succ l ih =>
    have ht := List.getElem?_eq_getElem (Nat.lt_of_succ_lt (List.getElem?_eq_some_iff.mp hs).1)
    rw [mapDeepNat, hs, Option.bind_some, hmap hs, Option.bind_some, deepInv_link h ht hs]
    exact ih _ ht

theorem mapA2B?_getElem? {m : List (Option Nat)} {ya yb : List Nat} (h : mapA2B? m ya = some yb) {i c : Nat}
    (hc : ya[i]? = some c) : ∃ y, yb[i]? = some y ∧ mapA2B? m [c] = some [y] := by
  have := congrArg (·[i]?) ((mapA2B?_eq_some_iff m ya yb).mp h)
  simp only [mapA2B, List.getElem?_map, hc, Option.map_some] at this
  obtain ⟨y, hy, hm⟩ := Option.map_eq_some_iff.mp this.symm
  exact ⟨y, hy, by rw [mapA2B?, List.mapM_cons, List.mapM_nil, ← hm]; rfl⟩

theorem mapDeepNat_getElem? (layers : List (SMapState Wt)) (l : Nat) (ya yb : List Nat)
    (h : mapDeepNat layers l ya = some yb) (i c y : Nat) (hc : ya[i]? = some c) (hy : yb[i]? = some y) :
    mapDeepNat layers l [c] = some [y] := by
  induction l generalizing ya c with
  | zero =>
    obtain ⟨s, hs, hm⟩ := Option.bind_eq_some_iff.mp h
    obtain ⟨y', hy', hm'⟩ := mapA2B?_getElem? hm hc
    rw [mapDeepNat, hs, Option.bind_some, hm', Option.some.inj (hy'.symm.trans hy)]
  | succ l ih =>
    obtain ⟨s, hs, hm⟩ := Option.bind_eq_some_iff.mp h
    obtain ⟨ym, hym, hrest⟩ := Option.bind_eq_some_iff.mp hm
    obtain ⟨m, hm1, hm2⟩ := mapA2B?_getElem? hym hc
    rw [mapDeepNat, hs, Option.bind_some, hm2, Option.bind_some]
    exact ih ym hrest m hm1

/-- `map_deep` first turns a negative level into the level `k` counted from the top -/
theorem mapDeep_of_nat (layers : List (SMapState Wt)) (level : Int) (k : Nat)
    (hk : (if level < 0 then level + layers.length else level) = k) (ya : List Nat) :
    mapDeep layers level ya = mapDeepNat layers k ya := by
  unfold mapDeep
  simp only [hk]
  rw [if_neg (Int.not_lt.mpr (Int.natCast_nonneg k)), Int.toNat_natCast]

/-! ### `predict` -/

/-- mapping labels that occur among a layer's A-side labels never fails, and
yields targets that layer has stored -/
theorem mapA2B?_of_mem {s : SMapState Wt} (h : LayerOK s) (p : List Nat)
    (hp : ∀ c ∈ p, c ∈ s.a.labels) : ∃ q, mapA2B? s.map p = some q ∧ ∀ c ∈ q, c ∈ s.labelsB := by
  induction p with
  | nil => exact ⟨[], rfl, fun _ hc => nomatch hc⟩
  | cons a p ih =>
    obtain ⟨ha, hp'⟩ := List.forall_mem_cons.mp hp
    obtain ⟨q, hq, hm⟩ := ih hp'
    have hlt := h.2.labels_lt a ha
    obtain ⟨y, hy⟩ := h.1.total a hlt
    refine ⟨y :: q, ?_, List.forall_mem_cons.mpr ⟨map_values_seen h.1 h.2 a y hlt hy, hm⟩⟩
    rw [mapA2B?, List.mapM_cons, hy, ← mapA2B?, hq]; rfl

/-- What `mapUp ss y` returns: one vector per layer plus `y`, consecutive vectors
linked by the layer maps, every label one that the layer has stored. -/
structure UpSpec (ss : List (SMapState Wt)) (y : List Nat) (cols : List (List Nat)) : Prop where
  len : cols.length = ss.length + 1
  last : cols[ss.length]? = some y
  width : ∀ p ∈ cols, p.length = y.length
  linked : ∀ (l : Nat) (s : SMapState Wt), ss[l]? = some s → ∃ pf pc, cols[l + 1]? = some pf ∧ cols[l]? = some pc ∧
    mapA2B s.map pf = pc.map some
  seen : ∀ (l : Nat) (s : SMapState Wt) (p : List Nat), ss[l]? = some s → cols[l]? = some p → ∀ c ∈ p, c ∈ s.labelsB

theorem upSpec_cons {s : SMapState Wt} {ss : List (SMapState Wt)} {y hd q : List Nat} {tl : List (List Nat)}
    (sp : UpSpec ss y (hd :: tl)) (hq : mapA2B s.map hd = q.map some) (hqm : ∀ c ∈ q, c ∈ s.labelsB) :
    UpSpec (s :: ss) y (q :: hd :: tl) where
  len := congrArg (· + 1) sp.len
  last := sp.last
  width := List.forall_mem_cons.mpr ⟨(length_eq_of_map_eq hq).symm.trans (sp.width hd List.mem_cons_self), sp.width⟩
  linked := fun l t ht => by
    cases l with
    | zero => exact ⟨hd, q, rfl, rfl, Option.some.inj ht ▸ hq⟩
    | succ l => exact sp.linked l t ht
  seen := fun l t p ht hp => by
    cases l with
    | zero => exact Option.some.inj ht ▸ Option.some.inj hp ▸ hqm
    | succ l => exact sp.seen l t p ht hp

theorem mapUp_spec (ss : List (SMapState Wt)) (y : List Nat) (hinv : DeepInv ss)
    (hy : ∀ t, ss.getLast? = some t → ∀ c ∈ y, c ∈ t.a.labels) :
    ∃ cols, mapUp ss y = some cols ∧ UpSpec ss y cols := by
  induction ss with
  | nil =>
    exact ⟨[y], rfl, rfl, rfl, fun p hp => congrArg List.length (List.mem_singleton.mp hp),
      (fun _ _ h => nomatch h), (fun _ _ _ h => nomatch h)⟩
  | cons s ss ih =>
    obtain ⟨cols, hc, sp⟩ := ih hinv.2.2 fun t ht => hy t (by rw [List.getLast?_cons, ht]; rfl)
    obtain ⟨hd, tl, rfl⟩ := List.exists_cons_of_length_pos (by rw [sp.len]; exact Nat.succ_pos _)
    -- the head of `cols` consists of labels among `s.a.labels`
    have hhd : ∀ c ∈ hd, c ∈ s.a.labels := by
      rcases ss with _ | ⟨t, r⟩
      · cases sp.last
        exact hy s rfl
      · rw [← hinv.2.1 t rfl]; exact sp.seen 0 t hd rfl rfl
    obtain ⟨q, hq, hqm⟩ := mapA2B?_of_mem hinv.1 hd hhd
    exact ⟨q :: hd :: tl, by rw [mapUp, hc, Option.bind_some, List.head?_cons, Option.bind_some, hq]; rfl,
      upSpec_cons sp ((mapA2B?_eq_some_iff _ _ _).mp hq) hqm⟩

theorem deepInv_append_singleton (init : List (SMapState Wt)) (last : SMapState Wt)
    (h : DeepInv (init ++ [last])) :
    DeepInv init ∧ LayerOK last ∧ (∀ t, init.getLast? = some t → last.labelsB = t.a.labels) := by
  induction init with
  | nil => exact ⟨trivial, h.1, fun _ ht => nomatch ht⟩
  | cons s r ih =>
    obtain ⟨i1, i2, i3⟩ := ih h.2.2
    rcases r with _ | ⟨a, b⟩
    · exact ⟨⟨h.1, (fun _ ht => nomatch ht), i1⟩, i2, fun t ht => Option.some.inj ht ▸ h.2.1 last rfl⟩
    · exact ⟨⟨h.1, h.2.1, i1⟩, i2, fun t ht => i3 t ((List.getLast?_cons_cons).symm.trans ht)⟩

theorem mapUp_ne_nil (ss : List (SMapState Wt)) (y : List Nat) (cols : List (List Nat))
    (h : mapUp ss y = some cols) : cols ≠ [] := by
  rcases ss with _ | ⟨s, ss⟩
  · cases h; exact List.cons_ne_nil _ _
  · obtain ⟨c, -, hc⟩ := Option.bind_eq_some_iff.mp h
    obtain ⟨q, -, rfl⟩ := Option.map_eq_some_iff.mp hc
    exact List.cons_ne_nil _ _

theorem mapUp_append_singleton (init : List (SMapState Wt)) (last : SMapState Wt) (y : List Nat) :
    mapUp (init ++ [last]) y = (mapA2B? last.map y).bind fun yb => (mapUp init yb).map (· ++ [y]) := by
  induction init with
  | nil =>
    show ((mapA2B? last.map y).map fun c => [c, y]) = _
    cases mapA2B? last.map y <;> rfl
  | cons s init ih =>
    rw [List.cons_append, mapUp, ih]
    cases mapA2B? last.map y with
    | none => rfl
    | some yb =>
      rw [Option.bind_some, Option.bind_some, mapUp]
      cases hc : mapUp init yb with
      | none => rfl
      | some cols =>
        obtain ⟨hd, tl, rfl⟩ := List.exists_cons_of_ne_nil (mapUp_ne_nil _ _ _ hc)
        simp only [Option.map_some, Option.bind_some, List.cons_append, List.head?_cons]
        cases mapA2B? s.map hd <;> rfl

/-- row-wise `predict_ab` of a layer in good standing with at least one category -/
theorem predictAB_spec (K : Kernel X Wt α μ) {s : SMapState Wt} (h : LayerOK s) (hne : s.a.W ≠ [])
    (xs : List X) :
    ∃ ab, xs.mapM (smapStepPred K s) = some ab ∧ ab.length = xs.length ∧
      (∀ c ∈ ab.map (·.1), c ∈ s.a.labels) ∧ mapA2B? s.map (ab.map (·.1)) = some (ab.map (·.2)) := by
  induction xs with
  | nil => exact ⟨[], rfl, rfl, fun _ hc => absurd hc List.not_mem_nil, rfl⟩
  | cons x xs ih =>
    obtain ⟨ab, h1, h2, h3, h4⟩ := ih
    obtain ⟨c, y, hc, hm, hp, -⟩ := smapStepPred_spec K h.1 h.2 x hne
    refine ⟨(c, y) :: ab, by rw [List.mapM_cons, hp, h1]; rfl, congrArg (· + 1) h2,
      List.forall_mem_cons.mpr ⟨h.2.all_used c (stepPred_lt K _ x c hc), h3⟩, ?_⟩
    rw [List.map_cons, mapA2B?, List.mapM_cons, hm, ← mapA2B?, h4]; rfl

/-- **predict.**  In a hierarchy in good standing whose last module has a category, `predict` succeeds; what it
returns is the vector `pa` of the last module's own predictions (one per query, each a label that module has
used) carried up through all the layers. -/
theorem deepPredict_spec (K : Kernel X Wt α μ) {layers : List (SMapState Wt)} (h : DeepInv layers)
    (last : SMapState Wt) (hlast : layers.getLast? = some last) (hne : last.a.W ≠ []) (xs : List X) :
    ∃ cols pa, deepPredict K layers xs = some cols ∧ UpSpec layers pa cols ∧ pa.length = xs.length ∧
      ∀ c ∈ pa, c ∈ last.a.labels := by
  obtain ⟨ab, hab, habl, hA, hmap⟩ :=
    predictAB_spec K (deepInv_mem h last (List.mem_of_getLast? hlast)) hne xs
  obtain ⟨cols, hcols, sp⟩ := mapUp_spec layers (ab.map (·.1)) h fun t ht => Option.some.inj (hlast.symm.trans ht) ▸ hA
  refine ⟨cols, ab.map (·.1), ?_, sp, by rw [List.length_map, habl], hA⟩
  rw [← hcols, ← List.dropLast_append_getLast? last hlast, mapUp_append_singleton, hmap, deepPredict,
    List.getLast?_concat]
  simp only [hab, Option.bind_some, List.dropLast_concat]

/-! ### the supervised entry points -/

theorem batchSize_eq (Xs : List (List X)) (m : Nat) (hne : Xs ≠ []) (h : ∀ xs ∈ Xs, xs.length = m) :
    batchSize Xs = m := by
  rcases Xs with _ | ⟨xs, Xs⟩
  · exact absurd rfl hne
  · exact h xs List.mem_cons_self

/-- what `validate_data` asserts about one supervised call on `k` modules -/
def ValidBatch (k : Nat) (Xs : List (List X)) (y : List Nat) : Prop :=
  Xs.length = k ∧ ∀ xs ∈ Xs, xs.length = y.length

theorem chainPartialFit_nil_data (n : Nat) (Ls : List (Level X Wt α μ θ)) (st : List (SMapState Wt)) (y : List Nat) :
    chainPartialFit n Ls st [] y = [] := by
  rcases Ls with _ | ⟨L, Ls⟩
  · rfl
  · rcases st with _ | ⟨s, ss⟩ <;> rfl

theorem deepPartialFitSup_inv (Ls : List (Level X Wt α μ θ)) (st : List (SMapState Wt))
    (Xs : List (List X)) (y : List Nat) (hinv : DeepInv st) (hX : ∀ xs ∈ Xs, xs.length = y.length) :
    DeepInv (deepPartialFitSup Ls st Xs y) := by
  have hst : DeepInv (if st.isEmpty then List.replicate Ls.length ({} : SMapState Wt) else st) := by
    split
    · exact deepInv_replicate _
    · exact hinv
  unfold deepPartialFitSup
  by_cases hne : Xs = []
  · rw [hne, chainPartialFit_nil_data]; trivial
  · rw [batchSize_eq Xs y.length hne hX]
    exact chainPartialFit_inv _ Ls _ Xs y hst hX (Nat.le_refl _)

theorem deepFitSup_inv (Ls : List (Level X Wt α μ θ)) (Xs : List (List X)) (y : List Nat)
    (hX : ∀ xs ∈ Xs, xs.length = y.length) : DeepInv (deepFitSup Ls Xs y) :=
  chainFit_inv y.length Ls Xs y hX (Nat.le_refl _)

/-- `partial_fit` on an estimator without layers is `fit` -/
theorem deepPartialFitSup_fresh (Ls : List (Level X Wt α μ θ)) (Xs : List (List X)) (y : List Nat)
    (hX : ∀ xs ∈ Xs, xs.length = y.length) :
    deepPartialFitSup Ls [] Xs y = deepFitSup Ls Xs y := by
  unfold deepPartialFitSup deepFitSup
  rw [List.isEmpty_nil, if_pos rfl]
  by_cases hne : Xs = []
  · rw [hne, chainPartialFit_nil_data]
    rcases Ls with _ | ⟨L, Ls⟩ <;> rfl
  · rw [batchSize_eq Xs y.length hne hX]
    exact chainPartialFit_fresh _ Ls Xs y hX (Nat.le_refl _)

/-- the state `partial_fit` starts from has one entry per module -/
theorem startState_length (Ls : List (Level X Wt α μ θ)) (st : List (SMapState Wt))
    (hst : st = [] ∨ st.length = Ls.length) :
    (if st.isEmpty then List.replicate Ls.length ({} : SMapState Wt) else st).length = Ls.length := by
  split
  · exact List.length_replicate
  · next h => exact hst.resolve_left fun e => h (e ▸ rfl)

/-- Supervised: two `partial_fit` batches equal one batch of the concatenated data. -/
theorem deepPartialFitSup_two_batches (Ls : List (Level X Wt α μ θ)) (st : List (SMapState Wt))
    (Xs₁ Xs₂ : List (List X)) (y₁ y₂ : List Nat)
    (hst : st = [] ∨ st.length = Ls.length)
    (h₁ : ValidBatch Ls.length Xs₁ y₁) (h₂ : ValidBatch Ls.length Xs₂ y₂) :
    deepPartialFitSup Ls (deepPartialFitSup Ls st Xs₁ y₁) Xs₂ y₂ =
      deepPartialFitSup Ls st (List.zipWith (· ++ ·) Xs₁ Xs₂) (y₁ ++ y₂) := by
  rcases Ls with _ | ⟨L, Ls⟩
  · rfl
  obtain ⟨hl₁, hx₁⟩ := h₁
  obtain ⟨hl₂, hx₂⟩ := h₂
  have hne : ∀ {Xs : List (List X)}, Xs.length = (L :: Ls).length → Xs ≠ [] :=
    fun h => List.ne_nil_of_length_pos (by rw [h]; exact Nat.succ_pos _)
  unfold deepPartialFitSup
  rw [batchSize_eq Xs₁ _ (hne hl₁) hx₁, batchSize_eq Xs₂ _ (hne hl₂) hx₂,
    batchSize_eq _ _ (hne (by rw [List.length_zipWith, hl₁, hl₂, Nat.min_self]))
      (zipWith_append_length y₁.length y₂.length Xs₁ Xs₂ hx₁ hx₂)]
  -- the state the first call starts from has one entry per module, so its result is not "no layers"
  generalize hst0 : (if st.isEmpty then List.replicate (L :: Ls).length ({} : SMapState Wt) else st) = st0
  have hlen0 : st0.length = (L :: Ls).length := hst0 ▸ startState_length (L :: Ls) st hst
  have hmid : (chainPartialFit y₁.length (L :: Ls) st0 Xs₁ y₁).isEmpty = false := by
    rw [List.isEmpty_eq_false_iff, ← List.length_pos_iff, chainPartialFit_length, hlen0, hl₁, Nat.min_self,
      Nat.min_self]
    exact Nat.succ_pos _
  rw [hmid, if_neg Bool.false_ne_true]
  exact chainPartialFit_two_batches _ _ (L :: Ls) st0 Xs₁ Xs₂ y₁ y₂ hx₁ hx₂ rfl rfl

theorem deepPartialFitSup_length (Ls : List (Level X Wt α μ θ)) (st : List (SMapState Wt))
    (Xs : List (List X)) (y : List Nat) (hst : st = [] ∨ st.length = Ls.length)
    (h : ValidBatch Ls.length Xs y) : (deepPartialFitSup Ls st Xs y).length = Ls.length := by
  unfold deepPartialFitSup
  rw [chainPartialFit_length, startState_length Ls st hst, h.1, Nat.min_self, Nat.min_self]

/-! ### unsupervised hierarchies: an ARTMAP on top of the chain -/

structure UnsupInv (d : DeepUnsup Wt) : Prop where
  chain : DeepInv d.layers
  /-- `labels_` stored by the ARTMAP layer are `module_b.labels_` -/
  top_labels : d.top.s.labelsB = d.top.b.labels
  b_ok : Consistent d.top.b

theorem deepUnsup_ext {d d' : DeepUnsup Wt} (hb : d.top.b = d'.top.b) (hl : d.layers = d'.layers) :
    d = d' := by
  obtain ⟨⟨b, s⟩, r⟩ := d
  obtain ⟨⟨b', s'⟩, r'⟩ := d'
  cases hb; cases hl; rfl

/-- what `validate_data` (and the assertion `n_modules >= 2`) demand of an
unsupervised call: at least two matrices, all with the same number of rows -/
def UnsupValid : List (List X) → Prop
  | X0 :: X1 :: Xs => ∀ xs ∈ X1 :: Xs, xs.length = X0.length
  | _ => False

/-- the layers of an unsupervised `fit` are the supervised chain on `modules[1:]`,
supervised by the B-side clustering of `X[0]` -/
theorem deepFitUnsup_layers (L0 L1 : Level X Wt α μ θ) (Ls : List (Level X Wt α μ θ))
    (X0 X1 : List X) (Xs : List (List X)) :
    ∃ d, deepFitUnsup (L0 :: L1 :: Ls) (X0 :: X1 :: Xs) = some d ∧
      d.top.b = fit L0.K L0.cfg L0.th noVeto {} X0 ∧
      d.layers = chainFit (L1 :: Ls) (X1 :: Xs) (fit L0.K L0.cfg L0.th noVeto {} X0).labels :=
  ⟨_, rfl, rfl, rfl⟩

def freshUnsup (k : Nat) : DeepUnsup Wt := { top := {}, rest := List.replicate k {} }

theorem unsupInv_fresh (k : Nat) : UnsupInv (freshUnsup k : DeepUnsup Wt) :=
  ⟨deepInv_replicate (k + 1), rfl, consistent_empty⟩

/-- the layers after an unsupervised `partial_fit` are the supervised chain step on
`modules[1:]`, supervised by the B-side labels of the batch -/
theorem deepPartialFitUnsup_layers (L0 L1 : Level X Wt α μ θ) (Ls : List (Level X Wt α μ θ))
    (st : Option (DeepUnsup Wt)) (X0 X1 : List X) (Xs : List (List X)) :
    ∃ d', deepPartialFitUnsup (L0 :: L1 :: Ls) st (X0 :: X1 :: Xs) = some d' ∧
      d'.top.b = partialFit L0.K L0.cfg L0.th noVeto (st.getD (freshUnsup Ls.length)).top.b X0 ∧
      d'.layers = chainPartialFit X0.length (L1 :: Ls) (st.getD (freshUnsup Ls.length)).layers (X1 :: Xs)
        ((partialFit L0.K L0.cfg L0.th noVeto (st.getD (freshUnsup Ls.length)).top.b X0).labels.drop
          (st.getD (freshUnsup Ls.length)).top.b.labels.length) ∧
      d'.top = artmapPartialFit L1.K L0.K L1.cfg L0.cfg L1.th L0.th (st.getD (freshUnsup Ls.length)).top X1 X0 :=
  ⟨_, rfl, rfl, rfl, rfl⟩

theorem deepPartialFitUnsup_inv (L0 L1 : Level X Wt α μ θ) (Ls : List (Level X Wt α μ θ))
    (st : Option (DeepUnsup Wt)) (Xs : List (List X))
    (hst : ∀ d, st = some d → UnsupInv d) (hX : UnsupValid Xs) :
    ∃ d', deepPartialFitUnsup (L0 :: L1 :: Ls) st Xs = some d' ∧ UnsupInv d' :=
  match Xs, hX with
  | X0 :: X1 :: Xs, hX => by
    obtain ⟨d', hd', hb, hl, htop⟩ := deepPartialFitUnsup_layers L0 L1 Ls st X0 X1 Xs
    have hd : UnsupInv (st.getD (freshUnsup Ls.length)) := by
      rcases st with _ | d
      · exact unsupInv_fresh _
      · exact hst d rfl
    generalize st.getD (freshUnsup Ls.length) = d at hb hl htop hd
    refine ⟨d', hd', ⟨?_, ?_, ?_⟩⟩
    · rw [hl]
      exact chainPartialFit_inv X0.length _ _ _ _ hd.chain hX (partialFit_newLabels_length ..).ge
    · rw [htop]
      exact artmapPartialFit_labelsB L1.K L0.K L1.cfg L0.cfg L1.th L0.th d.top X1 X0 hd.top_labels
        (hX X1 List.mem_cons_self)
    · rw [hb]; exact partialFit_consistent _ _ _ _ _ _ hd.b_ok

/-- unsupervised `partial_fit` on an estimator without layers is `fit` -/
theorem deepPartialFitUnsup_fresh (L0 L1 : Level X Wt α μ θ) (Ls : List (Level X Wt α μ θ))
    (Xs : List (List X)) (hX : UnsupValid Xs) :
    deepPartialFitUnsup (L0 :: L1 :: Ls) none Xs = deepFitUnsup (L0 :: L1 :: Ls) Xs :=
  match Xs, hX with
  | X0 :: X1 :: Xs, hX => by
    obtain ⟨d, hd, hb, hl⟩ := deepFitUnsup_layers L0 L1 Ls X0 X1 Xs
    obtain ⟨d', hd', hb', hl', -⟩ := deepPartialFitUnsup_layers L0 L1 Ls none X0 X1 Xs
    rw [hd, hd']
    refine congrArg some (deepUnsup_ext (hb'.trans hb.symm) ?_)
    rw [hl', hl]
    exact chainPartialFit_fresh X0.length (L1 :: Ls) (X1 :: Xs) _ hX
      ((Nat.le_add_left _ _).trans_eq (partialFit_labels_length L0.K L0.cfg L0.th noVeto {} X0).symm)

theorem deepFitUnsup_inv (L0 L1 : Level X Wt α μ θ) (Ls : List (Level X Wt α μ θ))
    (Xs : List (List X)) (hX : UnsupValid Xs) :
    ∃ d, deepFitUnsup (L0 :: L1 :: Ls) Xs = some d ∧ UnsupInv d := by
  rw [← deepPartialFitUnsup_fresh L0 L1 Ls Xs hX]
  exact deepPartialFitUnsup_inv L0 L1 Ls none Xs (fun _ h => nomatch h) hX

/-! ### merging batches -/

/-- two aligned batches concatenated matrix by matrix -/
def mergeXs (Xs Ys : List (List X)) : List (List X) := List.zipWith (· ++ ·) Xs Ys

theorem foldl_merge {σ β : Type} (step : σ → β → σ) (merge : β → β → β) (P : β → Prop) (st : σ)
    (hP : ∀ a b, P a → P b → P (merge a b))
    (hs : ∀ a b, P a → P b → step (step st a) b = step st (merge a b)) (bs : List β) (b : β)
    (hv : ∀ b' ∈ b :: bs, P b') :
    (b :: bs).foldl step st = step st (bs.foldl merge b) ∧ P (bs.foldl merge b) := by
  induction bs generalizing b with
  | nil => exact ⟨rfl, hv b List.mem_cons_self⟩
  | cons b' bs ih =>
    obtain ⟨hb, hv'⟩ := List.forall_mem_cons.mp hv
    obtain ⟨hb', hv''⟩ := List.forall_mem_cons.mp hv'
    rw [List.foldl_cons, List.foldl_cons, hs b b' hb hb']
    exact ih (merge b b') (List.forall_mem_cons.mpr ⟨hP b b' hb hb', hv''⟩)

theorem validBatch_merge (k : Nat) (Xs₁ Xs₂ : List (List X)) (y₁ y₂ : List Nat)
    (h₁ : ValidBatch k Xs₁ y₁) (h₂ : ValidBatch k Xs₂ y₂) :
    ValidBatch k (mergeXs Xs₁ Xs₂) (y₁ ++ y₂) :=
  ⟨by rw [mergeXs, List.length_zipWith, h₁.1, h₂.1, Nat.min_self],
    by rw [List.length_append]; exact zipWith_append_length _ _ Xs₁ Xs₂ h₁.2 h₂.2⟩

theorem unsupValid_merge (Xs Ys : List (List X)) (hX : UnsupValid Xs) (hY : UnsupValid Ys) :
    UnsupValid (mergeXs Xs Ys) :=
  match Xs, Ys, hX, hY with
  | X0 :: X1 :: Xs, Y0 :: Y1 :: Ys, hX, hY => by
    show ∀ xs ∈ List.zipWith (· ++ ·) (X1 :: Xs) (Y1 :: Ys), xs.length = (X0 ++ Y0).length
    rw [List.length_append]
    exact zipWith_append_length _ _ _ _ hX hY

/-- SMART presents the same matrix to every module -/
theorem unsupValid_replicate (xs : List X) (n : Nat) : UnsupValid (xs :: xs :: List.replicate n xs) :=
  fun z hz => by
    rcases List.mem_cons.mp hz with rfl | hz
    · rfl
    · rw [List.eq_of_mem_replicate hz]

/-- Unsupervised: two `partial_fit` batches equal one batch of the concatenated data — the B-side module sees
the concatenated stream, and the layers are the supervised chain on the B labels of the two batches. -/
theorem deepPartialFitUnsup_merge (L0 L1 : Level X Wt α μ θ) (Ls : List (Level X Wt α μ θ))
    (st : Option (DeepUnsup Wt)) (Xs Ys : List (List X)) (hX : UnsupValid Xs) (hY : UnsupValid Ys) :
    deepPartialFitUnsup (L0 :: L1 :: Ls) (deepPartialFitUnsup (L0 :: L1 :: Ls) st Xs) Ys =
      deepPartialFitUnsup (L0 :: L1 :: Ls) st (mergeXs Xs Ys) :=
  match Xs, Ys, hX, hY with
  | X0 :: X1 :: Xs, Y0 :: Y1 :: Ys, hX, hY => by
    obtain ⟨d₁, hd₁, hb₁, hl₁, -⟩ := deepPartialFitUnsup_layers L0 L1 Ls st X0 X1 Xs
    obtain ⟨d₂, hd₂, hb₂, hl₂, -⟩ := deepPartialFitUnsup_layers L0 L1 Ls (some d₁) Y0 Y1 Ys
    obtain ⟨d, hd, hb, hl, -⟩ := deepPartialFitUnsup_layers L0 L1 Ls st (X0 ++ Y0) (X1 ++ Y1)
      (List.zipWith (· ++ ·) Xs Ys)
    dsimp only [Option.getD_some] at hb₂ hl₂
    rw [hb₁] at hb₂
    rw [hb₁, hl₁] at hl₂
    rw [hd₁, hd₂]
    refine Eq.trans (congrArg some (deepUnsup_ext ?_ ?_)) hd.symm
    · rw [hb₂, hb, partialFit_append]
    · rw [hl₂, hl, partialFit_newLabels_append, List.length_append]
      exact chainPartialFit_two_batches X0.length Y0.length (L1 :: Ls) _ (X1 :: Xs) (Y1 :: Ys) _ _ hX hY
        (partialFit_newLabels_length ..) (partialFit_newLabels_length ..)

end Art
