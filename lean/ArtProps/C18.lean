/-
C18 — Data preparation is invertible; validation is atomic.

Statement (given): for any finite data with non-constant columns, prepare_data
returns values in [0,1] (complement-coded to double width for Fuzzy-based
models) that the same estimator's validation accepts, re-uses the first call's
column bounds for later data, and restore_data inverts it to numerical
precision, as do normalisation and complement coding individually.  Data that is
out of range, of the wrong width, non-binary for ART1 or not complement-coded
for Fuzzy ART is rejected by fit, partial_fit and predict of the clustering
estimators with an error before any model state changes.

All theorems hold over every linearly ordered field (ℚ executed, ℝ intended);
"to numerical precision" in floats is outside the theorems and measured by the
check.  Hypotheses: `Rect X d` (numpy matrices are rectangular), `X ≠ []`
(`np.min` raises on zero rows) and `NonConst X` (no column is constant, i.e. no
divisor `d_max - d_min` is zero) — kept explicit, see
`normalize_constant_column_counterexample`.
-/
import Mathlib.Algebra.Order.Ring.Rat
import ArtProofs.Prep

namespace Art.C18

open List Art.Prep

set_option linter.unusedSectionVars false

variable {α : Type} [Field α] [LinearOrder α] [IsStrictOrderedRing α]

/-! ### normalisation and complement coding individually -/

/-- The non-constant hypothesis in terms of the data: if every column holds two
different values then no divisor `d_max - d_min` is zero. -/
theorem nonconst_of_cols_vary (X : Mat α) (d : Nat) (hX : Rect X d) (hne : X ≠ [])
    (hv : ColsVary X d) : NonConst X :=
  nonConst_of_colsVary hX hv hne

/-- First call (no bounds remembered): the bounds returned are the column maxima
and minima of the data, and every normalised entry lies in [0,1]. -/
theorem normalize_in_unit (X : Mat α) (d : Nat) (hX : Rect X d) (hc : NonConst X) :
    (normalize X none none).2 = (colMax X, colMin X) ∧
    ∀ r ∈ (normalize X none none).1, ∀ v ∈ r, 0 ≤ v ∧ v ≤ 1 :=
  ⟨rfl, normWith_in_unit hX hc⟩

/-- `de_normalize ∘ normalize = id` on the first call, for non-constant columns. -/
theorem denorm_norm (X : Mat α) (d : Nat) (hX : Rect X d) (hne : X ≠ []) (hc : NonConst X) :
    deNormalize (normalize X none none).1 (normalize X none none).2.1 (normalize X none none).2.2 = X :=
  deNormalize_normWith hX (nonConst_goodBounds hX hne hc)

/-- `de_normalize ∘ normalize = id` with remembered bounds (any bounds of the
right width with `d_max ≠ d_min` per column — the data need not lie inside them). -/
theorem denorm_norm_remembered (X : Mat α) (d : Nat) (dmax dmin : List α) (hX : Rect X d)
    (hb : GoodBounds dmax dmin d) :
    deNormalize (normalize X (some dmax) (some dmin)).1 dmax dmin = X :=
  deNormalize_normWith hX hb

/-- Wherever no divisor is zero the total field division of the model is the
division numpy performs: the IEEE-aware normalisation has no non-finite entry
and equals the plain one. -/
theorem normalize_finite (X : Mat α) (dmax dmin : List α) (hb : Forall₂ (· ≠ ·) dmax dmin) :
    normWithChk dmax dmin X = (normWith dmax dmin X).map (fun r => r.map some) :=
  normWithChk_eq hb

/-- `de_compliment_code ∘ compliment_code = id` (no hypothesis at all). -/
theorem decc_cc (X : Mat α) : deComplementCode (complementCode X) = some X :=
  deComplementCode_complementCode X

/-- Every complement-coded row has double width and sums to `d` exactly. -/
theorem cc_rowsum (X : Mat α) (d : Nat) (hX : Rect X d) :
    ∀ r ∈ complementCode X, r.length = 2 * d ∧ vsum r = (d : α) := by
  intro r hr
  refine ⟨complementCode_rect hX r hr, ?_⟩
  obtain ⟨q, hq, rfl⟩ := mem_map.mp hr
  rw [vsum_ccRow, hX q hq]

/-! ### prepare_data / restore_data pairs -/

/-- `BaseART`: `restore_data(prepare_data(X)) = X` on a fresh module. -/
theorem restore_prepare_base (X : Mat α) (d : Nat) (hX : Rect X d) (hne : X ≠ []) (hc : NonConst X) :
    restoreBase (prepareBase {} X).2 (prepareBase {} X).1 = some X := by
  simp only [prepareBase, restoreBase, Option.some.injEq]
  exact denorm_norm X d hX hne hc

/-- `BaseART`, later calls: with remembered bounds the pair still round-trips. -/
theorem restore_prepare_base_later (X : Mat α) (d : Nat) (dmax dmin : List α) (hX : Rect X d)
    (hb : GoodBounds dmax dmin d) :
    let s : PrepState α := { dmax := some dmax, dmin := some dmin }
    restoreBase (prepareBase s X).2 (prepareBase s X).1 = some X := by
  simp only [prepareBase, restoreBase, Option.some.injEq]
  exact denorm_norm_remembered X d dmax dmin hX hb

/-- `FuzzyART`: `restore_data(prepare_data(X)) = X` on a fresh module. -/
theorem restore_prepare_fuzzy (X : Mat α) (d : Nat) (hX : Rect X d) (hne : X ≠ []) (hc : NonConst X) :
    restoreFuzzy (prepareFuzzy {} X).2 (prepareFuzzy {} X).1 = some X := by
  simp only [prepareFuzzy, restoreFuzzy, decc_cc]
  exact restore_prepare_base X d hX hne hc

/-- `FuzzyART`, later calls. -/
theorem restore_prepare_fuzzy_later (X : Mat α) (d : Nat) (dmax dmin : List α) (hX : Rect X d)
    (hb : GoodBounds dmax dmin d) :
    let s : PrepState α := { dmax := some dmax, dmin := some dmin }
    restoreFuzzy (prepareFuzzy s X).2 (prepareFuzzy s X).1 = some X := by
  simp only [prepareFuzzy, restoreFuzzy, decc_cc]
  exact restore_prepare_base_later X d dmax dmin hX hb

/-- Compound estimators (SimpleARTMAP, ARTMAP, DeepARTMAP, SMART, FusionART
before the channel join, TopoART, DualVigilanceART, CVIART, FALCON): every
module prepares and restores its own matrix with its own bounds, so the compound
pair round-trips whenever every channel is fresh, rectangular, non-empty and
non-constant. -/
theorem restore_prepare_compound (cs : List (Chan α))
    (h : ∀ c ∈ cs, c.2.1 = {} ∧ c.2.2 ≠ [] ∧ NonConst c.2.2 ∧ ∃ d, Rect c.2.2 d) :
    restoreChans (prepareChans cs) = cs.map (fun c => some c.2.2) := by
  simp only [restoreChans, prepareChans, List.map_map]
  apply List.map_congr_left
  intro c hc
  obtain ⟨hs, hne, hnc, d, hX⟩ := h c hc
  obtain ⟨k, s, X⟩ := c
  simp only at hs hne hnc hX
  subst hs
  cases k
  · exact restore_prepare_base X d hX hne hnc
  · exact restore_prepare_fuzzy X d hX hne hnc

/-! ### prepared data is accepted by the same class's validation -/

/-- `BaseART`: the first `prepare_data` output passes `validate_data`, on a module
that has not seen a width yet and on one that remembers the data width; the
accepting call records `dim_ = d`. -/
theorem prepare_passes_validate_base (X : Mat α) (d : Nat) (hX : Rect X d) (hne : X ≠ [])
    (hc : NonConst X) :
    validBase none (prepareBase {} X).1 = true ∧ validBase (some d) (prepareBase {} X).1 = true ∧
    runValidate validBase {} (prepareBase {} X).1 = ({ dim := some d }, true) := by
  obtain ⟨hu, hw⟩ := prepareBase_fresh hX hne hc
  have h1 : validBase none (prepareBase {} X).1 = true := by rw [validBase, hu]; rfl
  refine ⟨h1, by rw [validBase, hu, widthOk, hw, beq_self_eq_true]; rfl, ?_⟩
  rw [runValidate_fresh h1, hw]

/-- `FuzzyART`: the first `prepare_data` output has width `2d`, lies in [0,1],
has row sums `d` and passes `FuzzyART.validate_data`; the accepting call records
`dim_ = 2d`. -/
theorem prepare_passes_validate_fuzzy (X : Mat α) (d : Nat) (hX : Rect X d) (hne : X ≠ [])
    (hc : NonConst X) :
    validFuzzy none (prepareFuzzy {} X).1 = true ∧
    validFuzzy (some (2 * d)) (prepareFuzzy {} X).1 = true ∧
    runValidate validFuzzy {} (prepareFuzzy {} X).1 = ({ dim := some (2 * d) }, true) := by
  obtain ⟨hu, hw, hs⟩ := prepareFuzzy_fresh hX hne hc
  have hev : (width (prepareFuzzy {} X).1 % 2 == 0) = true := by rw [hw, Nat.mul_mod_right]; rfl
  have h1 : validFuzzy none (prepareFuzzy {} X).1 = true := by rw [validFuzzy, hev, hu, hs]; rfl
  refine ⟨h1, by rw [validFuzzy, hev, hu, hs, widthOk, hw, beq_self_eq_true]; rfl, ?_⟩
  rw [runValidate_fresh h1, hw]

/-- `ART2A` (BaseART's pair): the prepared data passes `ART2A`'s validation exactly
when the `alpha` bound holds for the data width. -/
theorem prepare_passes_validate_art2a (alpha : α) (X : Mat α) (d : Nat) (hX : Rect X d)
    (hne : X ≠ []) (hc : NonConst X) (ha : alpha * alpha * (d : α) ≤ 1) :
    runValidateART2A alpha {} (prepareBase {} X).1 = ({ dim := some d }, true) := by
  obtain ⟨hu, hw⟩ := prepareBase_fresh hX hne hc
  rw [runValidateART2A, if_pos hu, hw]
  exact if_pos (decide_eq_true ha)

/-! ### later calls re-use the first call's bounds -/

/-- After a first `prepare_data(X₁)`, a second call on any `X₂` leaves the
remembered bounds unchanged and returns the affine map with the bounds of `X₁`
(never those of `X₂`), for BaseART and, complement-coded, for FuzzyART. -/
theorem bounds_reused (X₁ X₂ : Mat α) :
    let s₁ := (prepareBase {} X₁).2
    s₁ = { dmax := some (colMax X₁), dmin := some (colMin X₁) } ∧
    prepareBase s₁ X₂ = (normWith (colMax X₁) (colMin X₁) X₂, s₁) ∧
    prepareFuzzy (prepareFuzzy {} X₁).2 X₂ =
      (complementCode (normWith (colMax X₁) (colMin X₁) X₂), s₁) :=
  ⟨rfl, rfl, rfl⟩

/-! ### rejection is atomic -/

/-- `validate_data` of BaseART, FuzzyART and ART1 (`runValidate` of any
acceptance predicate) leaves no trace when it rejects. -/
theorem validate_pure_on_reject (valid : Option Nat → Mat α → Bool) :
    PureOnReject (runValidate valid) := by
  intro s X h
  unfold runValidate at h ⊢
  split
  · rw [if_pos ‹_›] at h; cases h
  · rfl

/-- Entry points `fit` / `partial_fit` / `predict` = `validate_data` first, then
the body: if validation leaves no trace when it rejects, a rejected call raises
the assertion error and returns the state it was given — whatever the body
would have done, whatever the rest of the state (weights, labels, counters,
maps) is, at any point of a history. -/
theorem reject_is_noop {X τ ρ : Type} (validate : DimState → X → DimState × Bool)
    (hp : PureOnReject validate) (body : DimState × τ → X → (DimState × τ) × ρ)
    (s : DimState × τ) (x : X) (hrej : (validate s.1 x).2 = false) :
    checked validate body s x = (s, .error .assert) := by
  simp only [checked, hrej, Bool.false_eq_true, if_false, hp s.1 x hrej]

/-- Conversely a call that does not raise went through validation. -/
theorem ok_only_if_valid {X τ ρ : Type} (validate : DimState → X → DimState × Bool)
    (body : DimState × τ → X → (DimState × τ) × ρ) (s : DimState × τ) (x : X) (r : ρ)
    (h : (checked validate body s x).2 = .ok r) : (validate s.1 x).2 = true := by
  cases hv : (validate s.1 x).2 with
  | true => rfl
  | false => rw [checked, hv] at h; cases h

/-- BaseART / FuzzyART / ART1 entry points: data out of range, of the wrong
width, non-binary (ART1) or not complement-coded (FuzzyART) is rejected before
any model state changes. -/
theorem reject_is_noop_elementary {τ ρ : Type} (valid : Option Nat → Mat α → Bool)
    (body : DimState × τ → Mat α → (DimState × τ) × ρ) (s : DimState × τ) (X : Mat α)
    (hrej : valid s.1.dim X = false) :
    checked (runValidate valid) body s X = (s, .error .assert) :=
  reject_is_noop _ (validate_pure_on_reject valid) body s X (by rw [runValidate, hrej]; rfl)

/-- Each kind of malformed matrix named in the property is rejected by the
corresponding predicate: an entry above 1 or below 0 (BaseART, FuzzyART), a
width different from the remembered one (all), an entry other than 0/1 (ART1),
an odd width or a row whose sum is off by more than 0.01 (FuzzyART). -/
theorem malformed_is_rejected (dim? : Option Nat) (X : Mat α) :
    ((∃ r ∈ X, ∃ v ∈ r, v < 0 ∨ 1 < v) → validBase dim? X = false ∧ validFuzzy dim? X = false) ∧
    ((∃ d, dim? = some d ∧ width X ≠ d) →
      validBase dim? X = false ∧ validFuzzy dim? X = false ∧ validART1 dim? X = false) ∧
    ((∃ r ∈ X, ∃ v ∈ r, v ≠ 0 ∧ v ≠ 1) → validART1 dim? X = false) ∧
    (width X % 2 = 1 → validFuzzy dim? X = false) ∧
    ((∃ r ∈ X, ccTol < vsum r - ((width X / 2 : Nat) : α) ∨
        ccTol < ((width X / 2 : Nat) : α) - vsum r) → validFuzzy dim? X = false) := by
  refine ⟨fun h => ?_, fun ⟨d, hd, hw⟩ => ?_, fun ⟨r, hr, v, hv, h0, h1⟩ => ?_, fun h => ?_,
    fun ⟨r, hr, h⟩ => ?_⟩
  · have hu := inUnit_eq_false h
    simp only [validBase, validFuzzy, hu, Bool.false_and, Bool.and_false, and_self]
  · have hw : (width X == d) = false := beq_false_of_ne hw
    simp only [validBase, validFuzzy, validART1, hd, widthOk, hw, Bool.and_false, and_self]
  · have hb : isBinary X = false := Bool.eq_false_iff.mpr fun hb =>
      (isBinary_iff.mp hb r hr v hv).elim h0 h1
    simp only [validART1, hb, Bool.false_and]
  · have hev : (width X % 2 == 0) = false := by rw [h]; rfl
    simp only [validFuzzy, hev, Bool.false_and]
  · have hs : rowSumsOk X = false := Bool.eq_false_iff.mpr fun hs =>
      h.elim (not_lt.mpr (rowSumsOk_iff.mp hs r hr).1) (not_lt.mpr (rowSumsOk_iff.mp hs r hr).2)
    simp only [validFuzzy, hs, Bool.false_and, Bool.and_false]

/-- `ART2A.validate_data` (range test, then the `alpha` bound, then the
assignment of `dim_`) is `runValidate` of the predicate `validART2A`. -/
theorem validate_art2a_eq (alpha : α) (s : DimState) (X : Mat α) :
    runValidateART2A alpha s X = runValidate (validART2A alpha) s X := by
  unfold runValidateART2A runValidate validART2A
  rcases s with ⟨_ | d⟩
  · cases inUnit X <;> cases art2AlphaOk alpha (width X) <;> rfl
  · cases inUnit X
    · rfl
    · show (_, width X == d) = if (width X == d) = true then _ else _
      cases width X == d <;> rfl

/-- ART2A entry points: a matrix that is out of range, of a width other than
the remembered one, or — on the first call — too wide for `alpha`
(`alpha²·width > 1`) is rejected before any model state changes (/repo 9901844 moved the
`alpha` test in front of the assignment of `dim_`). -/
theorem reject_is_noop_art2a {τ ρ : Type} (alpha : α)
    (body : DimState × τ → Mat α → (DimState × τ) × ρ) (s : DimState × τ) (X : Mat α)
    (hrej : (runValidateART2A alpha s.1 X).2 = false) :
    checked (runValidateART2A alpha) body s X = (s, .error .assert) := by
  refine reject_is_noop _ ?_ body s X hrej
  intro s' X' h
  rw [validate_art2a_eq] at h ⊢
  exact validate_pure_on_reject (validART2A alpha) s' X' h

/-- non-vacuity: fresh ART2A, one row of width 4.  `alpha = 9/10` (`alpha²·4 > 1`):
rejected and `dim_` still absent; `alpha = 1/2` (`alpha²·4 = 1`, the boundary):
accepted and `dim_ = 4` recorded. -/
example :
    runValidateART2A (9/10 : Rat) {} [[1/2, 1, 0, 0]] = ({}, false) ∧
    runValidateART2A (1/2 : Rat) {} [[1/2, 1, 0, 0]] = ({ dim := some 4 }, true) := by
  decide +kernel

/-! ### constant columns: what the code does -/

/-- A constant column makes `d_max - d_min = 0`: the code divides 0 by 0 there
(NaN in IEEE arithmetic, `none` in the IEEE-aware model), the hypothesis
`NonConst` fails, and the NaN output is rejected by every `validate_data`.
(The total division of a field would return 0 instead — which is why `NonConst`
is an explicit hypothesis of every theorem above that divides.) -/
theorem normalize_constant_column_counterexample :
    let X : Mat Rat := [[1, 2], [1, 3]]
    Rect X 2 ∧ ¬ NonConst X ∧
    normWithChk (colMax X) (colMin X) X = [[none, some 0], [none, some 1]] := by
  unfold Rect NonConst
  decide +kernel

/-! ### non-vacuity: a concrete 3×2 matrix with negative entries -/

def X₀ : Mat Rat := [[1, -2], [3, 4], [-1, 0]]

example : Rect X₀ 2 ∧ X₀ ≠ [] ∧ NonConst X₀ ∧ ColsVary X₀ 2 := by
  refine ⟨by unfold Rect; decide +kernel, by decide, by unfold NonConst; decide +kernel, fun j hj => ?_⟩
  -- the first two rows differ in both columns
  refine ⟨[1, -2], by decide +kernel, [3, 4], by decide +kernel, ?_⟩
  obtain rfl | rfl : j = 0 ∨ j = 1 := by omega
  all_goals decide +kernel

example : normalize X₀ none none = ([[1/2, 0], [1, 1], [0, 1/3]], [3, 4], [-1, -2]) := by
  decide +kernel

example : (prepareFuzzy {} X₀).1 = [[1/2, 0, 1/2, 1], [1, 1, 0, 0], [0, 1/3, 1, 2/3]] := by
  decide +kernel

example : restoreFuzzy (prepareFuzzy {} X₀).2 (prepareFuzzy {} X₀).1 = some X₀ :=
  restore_prepare_fuzzy X₀ 2 (by unfold Rect; decide +kernel) (by decide) (by unfold NonConst; decide +kernel)

example : validFuzzy none (prepareFuzzy {} X₀).1 = true ∧ validBase none X₀ = false := by
  decide +kernel

/-- second call: `[[2, 2], [0, 1]]` is mapped with the bounds of `X₀`, not its own -/
example : (prepareBase (prepareBase {} X₀).2 [[2, 2], [0, 1]]).1 = [[3/4, 2/3], [1/4, 1/2]] := by
  decide +kernel

/-- a rejected `partial_fit` on a trained model: the state (here: `dim_ = 2` and
a list of weights) comes back unchanged -/
example :
    checked (runValidate validBase) (fun s (_ : Mat Rat) => ((s.1, ([] : List Nat)), ()))
      (({ dim := some 2 } : DimState), [7, 8]) [[1/2, 3/2]] =
    ((({ dim := some 2 } : DimState), [7, 8]), .error .assert) := by
  decide +kernel

end Art.C18
