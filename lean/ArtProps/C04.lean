/-
C04 — Training is total and numerically well-defined on every valid data set.

In an ordered field "finite" is automatic; what can go wrong is a division by
zero (Python raises `ZeroDivisionError` on float/float, numpy yields inf/NaN).
The theorems show that under each model's own validation and the property's
standing guards every denominator the kernels divide by is strictly positive
for every weight that training can produce — the hypotheses are C02's vigilance
bounds.  Overflow/underflow of `exp`, `1/σ²`, LAPACK conditioning are float-only
and outside these theorems (named in the trusted base; probed by the check).
-/
import ArtProofs.Kernels

namespace Art.C04

set_option linter.unusedSectionVars false

variable {α : Type} [Field α] [LinearOrder α] [IsStrictOrderedRing α]

/-- entries of a valid sample / weight lie in `[0,1]` -/
def InUnit (v : List α) : Prop := ∀ t ∈ v, 0 ≤ t ∧ t ≤ 1

theorem vsum_nonneg_of_inUnit (v : List α) (h : InUnit v) : 0 ≤ vsum v := by
  induction v with
  | nil => exact le_rfl
  | cons a v ih =>
    exact add_nonneg (h a List.mem_cons_self).1 (ih fun t ht => h t (List.mem_cons_of_mem a ht))

/-- The shape of every denominator below: `a + s` with `a ≥ 0` and `s ≥ ρ·d`, `d > 0`, is positive as soon
as `ρ > 0`, or `a > 0` and `s ≥ 0`. -/
theorem denominator_pos {a s ρ d : α} (ha : 0 ≤ a) (hd : 0 < d) (hs : ρ * d ≤ s)
    (hguard : 0 < ρ ∨ (0 < a ∧ 0 ≤ s)) : 0 < a + s := by
  rcases hguard with h | ⟨h1, h2⟩
  · exact add_pos_of_nonneg_of_pos ha ((mul_pos h hd).trans_le hs)
  · exact add_pos_of_pos_of_nonneg h1 h2

/-- **Fuzzy ART activation is defined**: the denominator `alpha + |w|` is positive
whenever the weight respects the vigilance bound `|w| ≥ rho·d` (C02) and either
`rho > 0`, or `alpha > 0` with non-negative weights (the literature's standing
assumption for `rho = 0`). -/
theorem fuzzy_choice_defined (alpha ρ d : α) (w : List α) (hα : 0 ≤ alpha) (hd : 0 < d)
    (hbound : ρ * d ≤ vsum w) (hguard : 0 < ρ ∨ (0 < alpha ∧ 0 ≤ vsum w)) :
    0 < alpha + vsum w :=
  denominator_pos hα hd hbound hguard

/-- Fuzzy ART match value divides by the original dimension `d ≥ 1`. -/
theorem fuzzy_match_defined (d : Nat) (hd : 1 ≤ d) : (0 : α) < (d : α) :=
  Nat.cast_pos.2 hd

/-- **ART1 match and update are defined**: `|x| > 0` for non-zero binary rows, and
`L − 1 + |t'| > 0` because the new template covers at least a `rho` fraction of
`x` (`|t'| ≥ rho |x| > 0`) or `L > 1`. -/
theorem art1_update_defined (L ρ nx nt : α) (hL : 1 ≤ L) (hx : 0 < nx) (hcover : ρ * nx ≤ nt)
    (hnt : 0 ≤ nt) (hguard : 0 < ρ ∨ 1 < L) : 0 < L - 1 + nt :=
  denominator_pos (sub_nonneg.2 hL) hx hcover (hguard.imp_right fun h => ⟨sub_pos.2 h, hnt⟩)

/-- ART1 new-category scaling `L / (L − 1 + |x|)` is defined for non-zero binary rows. -/
theorem art1_new_defined (L nx : α) (hL : 1 ≤ L) (hx : 0 < nx) : 0 < L - 1 + nx :=
  add_pos_of_nonneg_of_pos (sub_nonneg.2 hL) hx

theorem radius_room {ρ rhat R : α} (hr : 0 < rhat) (hρ0 : 0 ≤ ρ) (hbound : R ≤ rhat * (1 - ρ)) :
    ρ * rhat ≤ rhat - R ∧ 0 ≤ rhat - R := by
  have h : ρ * rhat ≤ rhat - R := by rw [le_sub_comm]; exact hbound.trans_eq (by ring)
  exact ⟨h, (mul_nonneg hρ0 hr.le).trans h⟩

/-- **Hypersphere ART activation is defined**: `r̂ − R + alpha > 0` for every radius
within the vigilance bound `R ≤ r̂(1 − rho)` (C02), given `r̂ > 0` and `rho > 0`
or `alpha > 0`. -/
theorem sphere_choice_defined (alpha ρ rhat R : α) (hα : 0 ≤ alpha) (hr : 0 < rhat) (hρ0 : 0 ≤ ρ)
    (hbound : R ≤ rhat * (1 - ρ)) (hguard : 0 < ρ ∨ 0 < alpha) : 0 < rhat - R + alpha := by
  obtain ⟨h1, h2⟩ := radius_room hr hρ0 hbound
  rw [add_comm]
  exact denominator_pos hα hr h1 (hguard.imp_right fun h => ⟨h, h2⟩)

/-- **Ellipsoid ART activation is defined**: `r̂ − 2R + alpha > 0` for `R ≤ r̂(1 − rho)/2`. -/
theorem ellipsoid_choice_defined (alpha ρ rhat R : α) (hα : 0 ≤ alpha) (hr : 0 < rhat) (hρ0 : 0 ≤ ρ)
    (hbound : R ≤ rhat * (1 - ρ) / (1 + 1)) (hguard : 0 < ρ ∨ 0 < alpha) :
    0 < rhat - (1 + 1) * R + alpha := by
  have h : (1 + 1) * R ≤ rhat * (1 - ρ) :=
    calc (1 + 1) * R ≤ (1 + 1) * (rhat * (1 - ρ) / (1 + 1)) := mul_le_mul_of_nonneg_left hbound one_add_one_pos.le
      _ = rhat * (1 - ρ) := mul_div_cancel₀ _ one_add_one_pos.ne'
  exact sphere_choice_defined alpha ρ rhat ((1 + 1) * R) hα hr hρ0 h hguard

/-- **The Hypersphere centre update never divides 0/0** (defect F02, repaired in /repo): the shrink factor is taken
as 0 when the distance is not positive, so the only division `min(R,dist)/dist` happens with `dist > 0`; at
distance 0 the centre moves by `0 • _`. -/
theorem sphere_update_defined (β : α) (x w : List α) [Transc α]
    (h : ¬ 0 < sphDist x w) :
    sphUpdate β x w =
      vadd (sphCentre w) (smul 0 (smul (β / (1 + 1)) (vsub x (sphCentre w)))) ++
        [sphRadius w + β / (1 + 1) * (max (sphRadius w) (sphDist x w) - sphRadius w)] := by
  unfold sphUpdate
  simp [h]

/-- **Gaussian ART variances stay positive**: `σ'² = (1 − 1/n')σ² + (1/n')(μ' − x)²`
with `n' = n + 1 ≥ 2` keeps `σ'² ≥ (1 − 1/n')σ² > 0`, so `1/σ'²` is defined. -/
theorem gaussian_sigma_positive (n σ2 dev2 : α) (hn : 1 ≤ n) (hσ : 0 < σ2) (hdev : 0 ≤ dev2) :
    0 < (1 - 1 / (n + 1)) * σ2 + 1 / (n + 1) * dev2 := by
  have hn1 : 0 < n + 1 := add_pos_of_pos_of_nonneg (zero_lt_one.trans_le hn) zero_le_one
  have h1 : 1 / (n + 1) < 1 := (div_lt_one hn1).2 (lt_add_of_pos_left 1 (zero_lt_one.trans_le hn))
  exact add_pos_of_pos_of_nonneg (mul_pos (sub_pos.2 h1) hσ) (mul_nonneg (one_div_pos.2 hn1).le hdev)

/-- The Gaussian/Bayesian prior `n_j / Σ n` divides by a positive count. -/
theorem prior_defined (counts : List α) (h : ∀ c ∈ counts, 1 ≤ c) (hne : counts ≠ []) : 0 < counts.sum := by
  cases counts with
  | nil => exact absurd rfl hne
  | cons c cs =>
    rw [List.sum_cons]
    exact add_pos_of_pos_of_nonneg (zero_lt_one.trans_le (h c List.mem_cons_self))
      (List.sum_nonneg fun t ht => zero_le_one.trans (h t (List.mem_cons_of_mem c ht)))

/-- Without the guard the denominator can vanish: `rho = 0`, `alpha = 0` and an
all-zero weight (the literature's excluded case), shown over ℚ. -/
example : (0 : ℚ) + vsum ([0, 0] : List ℚ) = 0 := by decide +kernel

end Art.C04
