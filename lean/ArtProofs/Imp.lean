/-
ArtProofs.Imp — the loop combinators of ArtModel.Imp: the equations of `whileFuel`, and what a `forEach` whose body
never returns computes (a fold; for the loops that store into a pre-allocated vector, a map or an append).
The numpy arg-scans of ArtModel.ImpFalcon / ArtModel.ImpVAT compute the model's `argmaxFirst` / `argminFirst`.
-/
import Mathlib.Order.Defs.LinearOrder
import ArtModel.Imp
import ArtModel.ImpFalcon
import ArtModel.ImpVAT

namespace Art.Imp

section WhileFuel
variable {R S : Type} {cond : S → Bool} {body : S → Flow R S} {s : S}

theorem whileFuel_stop (n : Nat) (h : cond s = false) : whileFuel cond body n s = .next s := by
  cases n with
  | zero => rfl
  | succ n => rw [whileFuel, h]; rfl

theorem whileFuel_next (n : Nat) {s' : S} (h : cond s = true) (hb : body s = .next s') :
    whileFuel cond body (n + 1) s = whileFuel cond body n s' := by
  rw [whileFuel, h, hb]
  rfl

theorem whileFuel_ret (n : Nat) {r : R} (h : cond s = true) (hb : body s = .ret r) :
    whileFuel cond body (n + 1) s = .ret r := by
  rw [whileFuel, h, hb]
  rfl

end WhileFuel

def mapRet {R R' S : Type} (f : R → R') : Flow R S → Flow R' S
  | .ret r => .ret (f r)
  | .next s => .next s

theorem whileFuel_mapRet {R R' S : Type} (f : R → R') (cond : S → Bool) (b : S → Flow R S) (b' : S → Flow R' S)
    (h : ∀ s, b' s = mapRet f (b s)) :
    ∀ (fuel : Nat) (s : S), whileFuel cond b' fuel s = mapRet f (whileFuel cond b fuel s) := by
  intro fuel
  induction fuel with
  | zero => intro s; rfl
  | succ n ih =>
    intro s
    cases hc : cond s with
    | false => rw [whileFuel_stop _ hc, whileFuel_stop _ hc]; rfl
    | true =>
      cases hb : b s with
      | ret r => rw [whileFuel_ret n hc hb, whileFuel_ret n hc ((h s).trans (congrArg _ hb))]; rfl
      | next s' => rw [whileFuel_next n hc hb, whileFuel_next n hc ((h s).trans (congrArg _ hb)), ih]

/-! ### `for` loops without early return are folds

The carried tuple of a translated loop is `pack t` for a model state `t`. -/

theorem forEach_pack_inv {R S A τ : Type} (pack : τ → S) (I : τ → Prop) (g : τ → A → τ) (body : S → A → Flow R S)
    (as : List A) (h : ∀ t, ∀ a ∈ as, I t → body (pack t) a = .next (pack (g t a)) ∧ I (g t a)) (t : τ) (ht : I t) :
    forEach body as (pack t) = .next (pack (as.foldl g t)) ∧ I (as.foldl g t) := by
  induction as generalizing t with
  | nil => exact ⟨rfl, ht⟩
  | cons a as ih =>
    obtain ⟨hb, hi⟩ := h t a List.mem_cons_self ht
    rw [forEach, hb]
    exact ih (fun t a ha => h t a (List.mem_cons_of_mem _ ha)) (g t a) hi

theorem forEach_pack {R S A τ : Type} (pack : τ → S) (g : τ → A → τ) (body : S → A → Flow R S) (as : List A)
    (h : ∀ t, ∀ a ∈ as, body (pack t) a = .next (pack (g t a))) (t : τ) :
    forEach body as (pack t) = .next (pack (as.foldl g t)) :=
  (forEach_pack_inv pack (fun _ => True) g body as (fun t a ha _ => ⟨h t a ha, trivial⟩) t trivial).1

theorem forEach_next {R S A : Type} (g : S → A → S) (body : S → A → Flow R S)
    (h : ∀ s a, body s a = .next (g s a)) (as : List A) (s : S) :
    forEach body as s = .next (as.foldl g s) :=
  forEach_pack id g body as (fun s a _ => h s a) s

theorem forEach_next_inv {R S A : Type} (I : S → Prop) (g : S → A → S) (body : S → A → Flow R S)
    (as : List A)
    (h : ∀ s a, a ∈ as → I s → body s a = .next (g s a) ∧ I (g s a)) (s : S) (hs : I s) :
    forEach body as s = .next (as.foldl g s) ∧ I (as.foldl g s) :=
  forEach_pack_inv id I g body as (fun s a ha hs => h s a ha hs) s hs

section Pack
variable {R S A T : Type} (pk : T → S)

/-- `for i, x in enumerate(X)` with the index used at offset `j`: the fold over the rows numbered from `j` -/
theorem forEach_zipIdx_offset (I : T → Prop) (g : T → A × Nat → T) (body : S → A × Nat → Flow R S) (j : Nat)
    (h : ∀ t a i, I t → body (pk t) (a, i) = .next (pk (g t (a, i + j))) ∧ I (g t (a, i + j))) :
    ∀ (xs : List A) (k : Nat) (t : T), I t →
      forEach body (xs.zipIdx k) (pk t) = .next (pk ((xs.zipIdx (k + j)).foldl g t)) := by
  intro xs
  induction xs with
  | nil => intro k t _; rfl
  | cons x xs ih =>
    intro k t ht
    obtain ⟨hb, hi⟩ := h t x k ht
    rw [List.zipIdx_cons, forEach, hb, List.zipIdx_cons, List.foldl_cons, Nat.add_right_comm]
    exact ih (k + 1) _ hi

/-- the two nested loops of `fit`: `epochs` passes over the rows; `body2`, one pass, is the inner loop -/
theorem forEach_epochs (I : T → Prop) (g : T → A → T) (body1 : S → A → Flow R S) (body2 : S → Nat → Flow R S)
    (xs : List A) (h1 : ∀ t a, I t → body1 (pk t) a = .next (pk (g t a)) ∧ I (g t a))
    (h2 : ∀ t t' e, forEach body1 xs (pk t) = .next (pk t') → body2 (pk t) e = .next (pk t'))
    (es : List Nat) (t : T) (ht : I t) :
    forEach body2 es (pk t) = .next (pk (es.foldl (fun t _ => xs.foldl g t) t)) :=
  have pass := fun t ht => forEach_pack_inv pk I g body1 xs (fun t a _ => h1 t a) t ht
  (forEach_pack_inv pk I (fun t _ => xs.foldl g t) body2 es
    (fun t e _ ht => ⟨h2 t _ e (pass t ht).1, (pass t ht).2⟩) t ht).1

end Pack

theorem set_length_append_cons {β : Type} (l : List β) (a b : β) (r : List β) :
    (l ++ a :: r).set l.length b = l ++ b :: r := by
  rw [List.set_append_right _ _ (Nat.le_refl _), Nat.sub_self, List.set_cons_zero]

/-- **Writing the labels in place is appending them.**  `f` stores at position `i + j` the label `c t a` that `g`
appends; the vector it starts from holds the `k + j` labels so far, padded to its final length. -/
theorem foldl_zipIdx_write {σ τ A : Type} (f : σ → A × Nat → σ) (g : τ → A → τ) (pack : τ → List Nat → σ)
    (lab : τ → List Nat) (c : τ → A → Nat) (j : Nat)
    (hf : ∀ t L a i, f (pack t L) (a, i) = pack (g t a) (L.set (i + j) (c t a)))
    (hlab : ∀ t a, lab (g t a) = lab t ++ [c t a]) :
    ∀ (as : List A) (k : Nat) (t : τ) (tail : List Nat), (lab t).length = k + j → tail.length = as.length →
      (as.zipIdx k).foldl f (pack t (lab t ++ tail)) = pack (as.foldl g t) (lab (as.foldl g t)) := by
  intro as
  induction as with
  | nil =>
    intro k t tail _ ht
    rw [List.eq_nil_of_length_eq_zero ht, List.append_nil]
    rfl
  | cons a as ih =>
    intro k t tail hk ht
    cases tail with
    | nil => cases ht
    | cons t0 tail =>
      rw [List.zipIdx_cons, List.foldl_cons, List.foldl_cons, hf, ← hk, set_length_append_cons,
        List.append_cons, ← hlab]
      exact ih (k + 1) (g t a) tail (by rw [hlab, List.length_append, hk]; exact Nat.add_right_comm k j 1)
        (Nat.succ.inj ht)

/-- the same for a translated loop: `body` never returns and is `f` -/
theorem forEach_zipIdx_write {R σ τ A : Type} (body : σ → A × Nat → Flow R σ) (g : τ → A → τ)
    (pack : τ → List Nat → σ) (lab : τ → List Nat) (c : τ → A → Nat) (j : Nat)
    (hbody : ∀ t L a i, body (pack t L) (a, i) = .next (pack (g t a) (L.set (i + j) (c t a))))
    (hlab : ∀ t a, lab (g t a) = lab t ++ [c t a])
    (as : List A) (k : Nat) (t : τ) (tail : List Nat) (hk : (lab t).length = k + j) (ht : tail.length = as.length) :
    forEach body (as.zipIdx k) (pack t (lab t ++ tail)) = .next (pack (as.foldl g t) (lab (as.foldl g t))) := by
  rw [forEach_pack (fun p : τ × List Nat => pack p.1 p.2)
      (fun p ai => (g p.1 ai.1, p.2.set (ai.2 + j) (c p.1 ai.1))) body (as.zipIdx k)
      (fun p ai _ => hbody p.1 p.2 ai.1 ai.2) (t, lab t ++ tail),
    foldl_zipIdx_write _ g Prod.mk lab c j (fun _ _ _ _ => rfl) hlab as k t tail hk ht]

/-- writing `f x` at position `k + i` for the `i`-th element, into a vector that is long enough, yields the map -/
theorem foldl_set_zipIdx {A B : Type} (f : A → B) (xs : List A) (k : Nat) (pre : List B) (hk : pre.length = k)
    (tail : List B) (ht : tail.length = xs.length) :
    (xs.zipIdx k).foldl (fun y (p : A × Nat) => y.set p.2 (f p.1)) (pre ++ tail) = pre ++ xs.map f := by
  induction xs generalizing k pre tail with
  | nil => rw [List.eq_nil_of_length_eq_zero ht]; rfl
  | cons x xs ih =>
    cases tail with
    | nil => cases ht
    | cons t tail =>
      rw [List.zipIdx_cons, List.foldl_cons, ← hk, set_length_append_cons, List.append_cons,
        ih (pre.length + 1) (pre ++ [f x]) (List.length_append) tail (Nat.succ.inj ht), List.append_assoc]
      rfl

/-- the loop of `predict`: `y[i] = f x` for every row, into a vector of the right length carried in the state -/
theorem forEach_store {R S A B : Type} (pack : List B → S) (f : A → B) (body : S → A × Nat → Flow R S)
    (as : List A) (h : ∀ y, ∀ a ∈ as, ∀ i, body (pack y) (a, i) = .next (pack (y.set i (f a)))) {d : B} :
    forEach body as.zipIdx (pack (List.replicate as.length d)) = .next (pack (as.map f)) := by
  rw [forEach_pack pack (fun y (p : A × Nat) => y.set p.2 (f p.1)) body as.zipIdx
    (fun y p hp => h y p.1 (List.fst_mem_of_mem_zipIdx hp) p.2)]
  exact congrArg (fun y => Flow.next (pack y))
    (foldl_set_zipIdx f as 0 [] rfl (List.replicate as.length d) List.length_replicate)

theorem mapM_congr {β γ : Type} (f g : β → Option γ) (l : List β) (h : ∀ a ∈ l, f a = g a) : l.mapM f = l.mapM g := by
  induction l with
  | nil => rfl
  | cons a l ih =>
    obtain ⟨ha, hl⟩ := List.forall_mem_cons.mp h
    rw [List.mapM_cons, List.mapM_cons, ha, ih hl]

end Art.Imp

namespace Art.ImpFalcon

/-- The left-to-right scan of `np.argmax` / `np.argmin` computes any right-to-left first-best function `best` for the
same strict order `lt` (`nanargmaxV` for `<`, `argminV` for `>`).  Started on a best entry `(k, v)`, the scan keeps it
unless the best of the remaining entries beats it. -/
theorem argScan_eq_best {α : Type} (lt : α → α → Prop) [DecidableRel lt]
    (htrans : ∀ {a b c}, lt a b → lt b c → lt a c) (hneg : ∀ {a b c}, ¬ lt a b → ¬ lt b c → ¬ lt a c)
    (best : List α → Option (Nat × α)) (hnil : best [] = none)
    (hcons : ∀ x xs, best (x :: xs) = match best xs with
      | none => some (0, x)
      | some (j, u) => if lt x u then some (j + 1, u) else some (0, x))
    (l : List α) : argScan (fun x b => decide (lt b x)) none 0 l = best l := by
  have scan : ∀ (xs : List α) (v : α) (k i : Nat),
      argScan (fun x b => decide (lt b x)) (some (k, v)) i xs =
        match best xs with
        | none => some (k, v)
        | some (j, u) => if lt v u then some (i + j, u) else some (k, v) := by
    intro xs
    induction xs with
    | nil => intro v k i; rw [argScan, hnil]
    | cons x xs ih =>
      intro v k i
      rw [argScan, ih, ih, hcons]
      rcases best xs with _ | ⟨j, u⟩
      · by_cases hvx : lt v x <;> simp only [hvx, decide_true, decide_false, if_true, if_false, Nat.add_zero,
          Bool.false_eq_true]
      · by_cases hvx : lt v x <;> by_cases hxu : lt x u
        · simp only [hvx, hxu, htrans hvx hxu, decide_true, if_true, Nat.add_assoc, Nat.add_comm 1 j]
        · simp only [hvx, hxu, decide_true, if_true, if_false, Nat.add_zero]
        · simp only [hvx, hxu, decide_false, if_true, if_false, Nat.add_assoc, Nat.add_comm 1 j, Bool.false_eq_true]
        · simp only [hvx, hxu, hneg hvx hxu, decide_false, if_false, Bool.false_eq_true]
  cases l with
  | nil => rw [argScan, hnil]
  | cons x xs =>
    rw [argScan, scan, hcons]
    simp only [Nat.zero_add, Nat.add_comm 1]

variable {α : Type} [LinearOrder α]

theorem npArgmax_eq_argmaxFirst (l : List α) : npArgmax l = argmaxFirst l := by
  rw [npArgmax, argmaxFirst, nanargmax,
    argScan_eq_best (· < ·) lt_trans (fun h₁ h₂ => not_lt.2 (le_trans (not_lt.1 h₂) (not_lt.1 h₁)))
      (fun xs => nanargmaxV (xs.map some)) rfl]
  intro x xs
  simp only [List.map_cons, nanargmaxV]
  cases nanargmaxV (xs.map some) <;> rfl

theorem npArgmin_eq_argminFirst (l : List α) : npArgmin l = argminFirst l := by
  rw [npArgmin, argminFirst,
    argScan_eq_best (fun a b => b < a) (fun h₁ h₂ => lt_trans h₂ h₁)
      (fun h₁ h₂ => not_lt.2 (le_trans (not_lt.1 h₁) (not_lt.1 h₂))) argminV rfl]
  intro x xs
  rw [argminV]
  rfl

end Art.ImpFalcon

namespace Art.ImpVAT

variable {α : Type} [LT α] [DecidableRel (α := α) (· < ·)]

/-- the two models of `np.argmax` run the same scan: ImpVAT's carries value and position of the incumbent as two
arguments, ImpFalcon's as an optional pair -/
theorem argmaxScan_eq_argScan (l : List α) : ∀ (best : α) (bi i : Nat),
    (ImpFalcon.argScan (fun x b => decide (b < x)) (some (bi, best)) i l).map (·.1) = some (argmaxScan best bi i l) := by
  induction l with
  | nil => intro best bi i; rfl
  | cons y ys ih =>
    intro best bi i
    rw [ImpFalcon.argScan, argmaxScan]
    by_cases h : best < y
    · rw [if_pos (decide_eq_true h), if_pos h]; exact ih ..
    · rw [if_neg (by rw [decide_eq_false h]; exact Bool.false_ne_true), if_neg h]; exact ih ..

theorem argminScan_eq_argScan (l : List α) : ∀ (best : α) (bi i : Nat),
    (ImpFalcon.argScan (fun x b => decide (x < b)) (some (bi, best)) i l).map (·.1) = some (argminScan best bi i l) := by
  induction l with
  | nil => intro best bi i; rfl
  | cons y ys ih =>
    intro best bi i
    rw [ImpFalcon.argScan, argminScan]
    by_cases h : y < best
    · rw [if_pos (decide_eq_true h), if_pos h]; exact ih ..
    · rw [if_neg (by rw [decide_eq_false h]; exact Bool.false_ne_true), if_neg h]; exact ih ..

theorem npArgmax_eq (l : List α) : npArgmax l = ImpFalcon.npArgmax l := by
  cases l with
  | nil => rfl
  | cons x xs => exact (argmaxScan_eq_argScan xs x 0 1).symm

theorem npArgmin_eq (l : List α) : npArgmin l = ImpFalcon.npArgmin l := by
  cases l with
  | nil => rfl
  | cons x xs => exact (argminScan_eq_argScan xs x 0 1).symm

end Art.ImpVAT
