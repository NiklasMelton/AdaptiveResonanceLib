/-
ArtGenProofs.PrepSpec — the data-preparation and validation code of artlib, as translated from the Python source by
`harness/artv/ptrans.py` (ArtGen/Prep.lean), computes the definitions of `ArtModel/Prep.lean` that the C18 property
theorems are stated about — for every matrix size, every remembered state — and the C18 theorems hold of the
generated definitions.

A module-level function is generated in `Except PyErr`, a method in `Py (Self α)` (`ArtModel/ImpPrep.lean`): the
attribute record *at the end of the call, also when it raises*, is part of the result, so "rejected before any state
change" is proved about the generated term.  Shape hypotheses are those of the C18 theorems: `Rect X d` (numpy
matrices are rectangular), `X ≠ []` (`np.min(axis=0)` raises on zero rows, `normalize_empty_raises`), remembered
bounds of the data width (`BoundsFit`; numpy raises `ValueError` or stretches a length-1 axis otherwise, where the
model's `zipWith` truncates).

  normalize_spec / de_normalize_spec / compliment_code_spec / de_compliment_code_spec      utils.* = Art.normalize / deNormalize / complementCode / deComplementCode
  l1norm_spec / l2norm2_spec / fuzzy_and_spec                                              = vsum ∘ |·| / l2sq / vmin  (what ktrans renders a call of them as)
  prepare_base_spec / restore_base_spec / prepare_fuzzy_spec / restore_fuzzy_spec / restore_fuzzy_value   the methods = prepareBase / restoreBase / prepareFuzzy / restoreFuzzy, attributes written
  gate, assert_gate, check_dimensions_*_gate, validate_{base,fuzzy,art1,art2a}_gate        a validator = assertions, then check_dimensions = one Boolean decides, only acceptance stores
  check_dimensions_base_spec, validate_{base,fuzzy,art1}_spec                              = runValidate valid{Base,Fuzzy,ART1}: answer and every attribute
  validate_art2a_spec                                                                      = runValidateART2A (sqrt a parameter: `SqrtOk`, alpha ≥ 0)
  gen_restore_prepare_{base,fuzzy}, gen_bounds_reused, gen_prepare_passes_validate_base    C18 round trip / [0,1] / bounds re-used / accepted by the same class, transported
  gen_validate_{base,fuzzy,art1,art2a}_atomic, gen_entry_rejects_{base,fuzzy}              C18 "rejects before any attribute changes", transported
-/
import ArtGen.Prep
import ArtProps.C18

set_option linter.unusedSectionVars false

namespace Art.GenSpec.Prep
open Art Art.Np Art.Prep Art.Gen.Prep

/-! ### the generic numpy helpers on well-shaped arguments -/

section Helpers
variable {β γ δ : Type}

theorem mapE_ok {f : β → Except PyErr γ} {g : β → γ} {l : List β} (h : ∀ a ∈ l, f a = .ok (g a)) :
    mapE f l = .ok (l.map g) := by
  induction l with
  | nil => rfl
  | cons a l ih =>
    rw [mapE, h a List.mem_cons_self, ih fun b hb => h b (List.mem_cons_of_mem _ hb), List.map_cons]

theorem zipE_ok {f : β → γ → Except PyErr δ} {g : β → γ → δ} {x : List β} {y : List γ}
    (h : ∀ p ∈ x.zip y, f p.1 p.2 = .ok (g p.1 p.2)) : zipE f x y = .ok (List.zipWith g x y) := by
  induction x generalizing y with
  | nil => rfl
  | cons a x ih =>
    cases y with
    | nil => rfl
    | cons b y =>
      rw [zipE, h (a, b) List.mem_cons_self, ih fun p hp => h p (List.mem_cons_of_mem _ hp),
        List.zipWith_cons_cons]

theorem bcast1_ok (f : β → γ → δ) {x : List β} {y : List γ} (h : x.length = y.length) :
    bcast1 f x y = .ok (List.zipWith f x y) := by
  unfold bcast1 bzip
  rw [if_pos h]
  exact zipE_ok fun _ _ => rfl

/-- matrix ∘ matrix of the same shape -/
theorem bcast2_ok (f : β → γ → δ) {X : List (List β)} {Y : List (List γ)} (hl : X.length = Y.length)
    (h : ∀ p ∈ X.zip Y, p.1.length = p.2.length) :
    bcast2 f X Y = .ok (List.zipWith (List.zipWith f) X Y) := by
  unfold bcast2 bzip
  rw [if_pos hl]
  exact zipE_ok fun p hp => bcast1_ok f (h p hp)

theorem bcast2_row_ok (f : β → γ → δ) {X : List (List β)} {v : List γ} {d : Nat} (hX : Rect X d)
    (hv : v.length = d) : bcast2 f X [v] = .ok (X.map (fun r => List.zipWith f r v)) := by
  have h : ∀ r ∈ X, r.length = v.length := fun r hr => (hX r hr).trans hv.symm
  have rows : mapE (fun r => bcast1 f r v) X = .ok (X.map (fun r => List.zipWith f r v)) :=
    mapE_ok fun r hr => bcast1_ok f (h r hr)
  -- one row: the two arrays have the same height and are zipped; otherwise the vector is stretched
  match X, h, rows with
  | [], _, _ => rfl
  | [r], h, _ => exact bcast2_ok f rfl fun p hp => List.mem_singleton.mp hp ▸ h r List.mem_cons_self
  | _ :: _ :: _, _, rows => exact rows

/-- matrix ∘ matrix, both computed row by row from the same rows -/
theorem bcast2_map_ok {ι : Type} (f : β → γ → δ) (X : List ι) (g : ι → List β) (h : ι → List γ)
    (hl : ∀ r ∈ X, (g r).length = (h r).length) :
    bcast2 f (X.map g) (X.map h) = .ok (X.map (fun r => List.zipWith f (g r) (h r))) := by
  rw [bcast2_ok f (by rw [List.length_map, List.length_map]), List.zipWith_map, List.zipWith_self]
  intro p hp
  rw [List.zip_map'] at hp
  obtain ⟨r, hr, rfl⟩ := List.mem_map.mp hp
  exact hl r hr

theorem rect_map_zipWith (f : β → γ → δ) {X : List (List β)} {v : List γ} {d : Nat} (hX : Rect X d)
    (hv : v.length = d) : Rect (X.map (fun r => List.zipWith f r v)) d := by
  intro r hr
  obtain ⟨q, hq, rfl⟩ := List.mem_map.mp hr
  rw [List.length_zipWith, hX q hq, hv, Nat.min_self]

theorem shape_snd (X : List (List β)) : (shape X).2 = width X := by
  cases X <;> rfl

end Helpers

/-! ### `utils.py` -/

section Utils
variable {α : Type} [Field α] [LinearOrder α] [IsStrictOrderedRing α]

theorem reduceAxis0_min {X : Mat α} (hne : X ≠ []) : reduceAxis0 min X = .ok (colMin X) := by
  obtain ⟨r, rs, rfl⟩ := List.exists_cons_of_ne_nil hne
  rfl

theorem reduceAxis0_max {X : Mat α} (hne : X ≠ []) : reduceAxis0 max X = .ok (colMax X) := by
  obtain ⟨r, rs, rfl⟩ := List.exists_cons_of_ne_nil hne
  rfl

/-- `utils.normalize` with both bounds remembered -/
theorem normalize_some {X : Mat α} {d : Nat} {mx mn : List α} (hX : Rect X d) (h1 : mx.length = d)
    (h2 : mn.length = d) :
    Gen.Prep.normalize X (some mx) (some mn) = .ok (normWith mx mn X, mx, mn) := by
  have e1 := bcast2_row_ok (fun a b : α => a - b) hX h2
  have e2 := bcast1_ok (fun a b : α => a - b) (h1.trans h2.symm)
  have e3 := bcast2_row_ok (fun a b : α => a / b) (rect_map_zipWith (fun a b : α => a - b) hX h2)
    (v := List.zipWith (fun a b => a - b) mx mn) (by rw [List.length_zipWith, h1, h2, Nat.min_self])
  simp only [Gen.Prep.normalize, bind, Except.bind, pure, Except.pure, e1, e2, e3]
  simp only [normWith, List.map_map, Function.comp_def, normRow_eq_zipWith]

/-- **`utils.normalize` = the model's `normalize`** on a non-empty rectangular matrix, with or without remembered
bounds (of the data's width). -/
theorem normalize_spec (X : Mat α) (dmax? dmin? : Option (List α)) (d : Nat) (hX : Rect X d) (hne : X ≠ [])
    (h1 : ∀ m, dmax? = some m → m.length = d) (h2 : ∀ m, dmin? = some m → m.length = d) :
    Gen.Prep.normalize X dmax? dmin? = .ok (Art.normalize X dmax? dmin?) := by
  have cmx := (colMax_spec hX hne).1
  have cmn := (colMin_spec hX hne).1
  -- on a matrix with a first row a bound that is not remembered is computed: `reduceAxis0` returns `colMax` / `colMin`
  obtain ⟨r, rs, rfl⟩ := List.exists_cons_of_ne_nil hne
  cases dmax? with
  | none =>
    cases dmin? with
    | none => exact normalize_some hX cmx cmn
    | some mn => exact normalize_some hX cmx (h2 mn rfl)
  | some mx =>
    cases dmin? with
    | none => exact normalize_some hX (h1 mx rfl) cmn
    | some mn => exact normalize_some hX (h1 mx rfl) (h2 mn rfl)

/-- zero rows and a bound to compute: `np.min(axis=0)` raises (the model's `colMin [] = []` is outside numpy) -/
theorem normalize_empty_raises (dmax? : Option (List α)) :
    Gen.Prep.normalize ([] : Mat α) dmax? none = .error .value :=
  rfl

/-- **`utils.de_normalize` = the model's `deNormalize`** -/
theorem de_normalize_spec (Y : Mat α) (dmax dmin : List α) (d : Nat) (hY : Rect Y d) (h1 : dmax.length = d)
    (h2 : dmin.length = d) :
    Gen.Prep.de_normalize Y dmax dmin = .ok (deNormalize Y dmax dmin) := by
  have hd : (List.zipWith (fun a b : α => a - b) dmax dmin).length = d := by
    rw [List.length_zipWith, h1, h2, Nat.min_self]
  have e2 := bcast1_ok (fun a b : α => a - b) (h1.trans h2.symm)
  have e1 := bcast2_row_ok (fun a b : α => a * b) hY hd
  have e3 := bcast2_row_ok (fun a b : α => a + b) (rect_map_zipWith (fun a b : α => a * b) hY hd) h2
  simp only [Gen.Prep.de_normalize, bind, Except.bind, e1, e2, e3]
  simp only [deNormalize, List.map_map, Function.comp_def, denormRow_eq_zipWith]

/-- **`utils.compliment_code` = the model's `complementCode`**, for every matrix (it cannot raise) -/
theorem compliment_code_spec (X : Mat α) : Gen.Prep.compliment_code X = .ok (complementCode X) := by
  simp only [Gen.Prep.compliment_code, hstack, ew2, List.foldlM_cons, List.foldlM_nil, List.length_map, if_true,
    bind, Except.bind, pure, Except.pure, List.zipWith_map_right, List.zipWith_self]
  rfl

/-- one row of the generated `de_compliment_code` -/
theorem deccRow_gen (r : List α) :
    List.map (fun x => x / ((2 : Nat) : α)) (List.zipWith (fun a b => a + b) ((r.take (r.length / 2)).drop 0)
      ((r.drop (r.length / 2)).map (fun x => (1 : α) - x))) = deccRow r := by
  simp only [deccRow, List.drop_zero, List.zipWith_map_right, List.map_zipWith, Nat.cast_ofNat, one_add_one_eq_two]

/-- **`utils.de_compliment_code` = the model's `deComplementCode`** on a rectangular matrix: the assertion
"The number of columns must be even" fails exactly when the model answers `none`. -/
theorem de_compliment_code_spec (X : Mat α) (d : Nat) (hX : Rect X d) :
    Gen.Prep.de_compliment_code X =
      (match deComplementCode X with
        | some Z => .ok Z
        | none => .error .assertion) := by
  have hw := rect_width hX
  rw [deComplementCode, all_even_of_rect hw]
  simp only [Gen.Prep.de_compliment_code, shape_snd, Np.assert, cols, ew2, List.map_map, bind, Except.bind, pure,
    Except.pure]
  cases hev : width X % 2 == 0 with
  | false => rfl
  | true =>
    have hev := beq_iff_eq.mp hev
    have sums := bcast2_map_ok (fun a b : α => a + b) X (fun r => (r.take (width X / 2)).drop 0)
      (fun r => (r.drop (width X / 2)).map (fun x => (1 : α) - x))
      (fun r hr => by rw [List.length_map, List.length_drop, List.length_drop, List.length_take, hw r hr]; omega)
    simp only [Function.comp_def] at sums ⊢
    rw [sums]
    simp only [if_true, List.map_map, Function.comp_def]
    exact congrArg Except.ok (List.map_congr_left fun r hr => by rw [← hw r hr]; exact deccRow_gen r)

theorem sum1_eq_vsum : ∀ (v : List α), sum1 v = vsum v
  | [] => rfl
  | x :: xs => congrArg (x + ·) (sum1_eq_vsum xs)

theorem npabs_eq_abs (x : α) : Np.abs x = |x| := by
  unfold Np.abs
  split
  · rename_i h; exact (abs_of_nonneg h).symm
  · rename_i h; rw [zero_sub, abs_of_neg (not_le.mp h)]

/-- **`utils.l1norm`** = `Σ |xᵢ|`, the expression `ktrans` uses for a call of `l1norm` in a kernel -/
theorem l1norm_spec (x : List α) : Gen.Prep.l1norm x = .ok (vsum (x.map (fun t => |t|))) := by
  rw [Gen.Prep.l1norm, sum1_eq_vsum, ew1, List.map_congr_left fun t _ => npabs_eq_abs t]
  rfl

/-- **`utils.l2norm2`** = `x · x` (`Art.l2sq`), the expression `ktrans` uses for `l2norm2` -/
theorem l2norm2_spec (x : List α) : Gen.Prep.l2norm2 x = .ok (l2sq x) := by
  simp only [Gen.Prep.l2norm2, matmul1, if_true, sum1_eq_vsum]
  rfl

/-- **`utils.fuzzy_and`** = `Art.vmin` on vectors of equal length (numpy raises or stretches otherwise) -/
theorem fuzzy_and_spec (x y : List α) (h : x.length = y.length) : Gen.Prep.fuzzy_and x y = .ok (vmin x y) := by
  simp only [Gen.Prep.fuzzy_and, bcast1_ok _ h]
  rfl

end Utils

/-! ### `prepare_data` / `restore_data` -/

section Methods
variable {α : Type} [Field α] [LinearOrder α] [IsStrictOrderedRing α]

/-- the remembered bounds of the generated attribute record, as the model's `PrepState` -/
def toPrep (s : Self α) : PrepState α := { dmax := s.d_max_, dmin := s.d_min_ }

/-- remembered bounds, when present, have the width `d` -/
def BoundsFit (s : Self α) (d : Nat) : Prop :=
  (∀ m, s.d_max_ = some m → m.length = d) ∧ (∀ m, s.d_min_ = some m → m.length = d)

/-- **`BaseART.prepare_data` = the model's `prepareBase`**: the value returned and the two attributes written;
`dim_` / `dim_original` are not touched. -/
theorem prepare_base_spec (s : Self α) (X : Mat α) (d : Nat) (hX : Rect X d) (hne : X ≠ []) (hb : BoundsFit s d) :
    BaseART.prepare_data X s =
      (.ok (prepareBase (toPrep s) X).1,
        { s with d_max_ := (prepareBase (toPrep s) X).2.dmax, d_min_ := (prepareBase (toPrep s) X).2.dmin }) := by
  have h := normalize_spec X s.d_max_ s.d_min_ d hX hne hb.1 hb.2
  simp only [BaseART.prepare_data, bind, Py.bind, pure, Py.pure, Py.get, Py.lift, Py.modify, h, prepareBase, toPrep]

/-- **`BaseART.restore_data` = the model's `restoreBase`**: `TypeError` exactly when a bound is still `None`; no
attribute is written. -/
theorem restore_base_spec (s : Self α) (Y : Mat α) (d : Nat) (hY : Rect Y d) (hb : BoundsFit s d) :
    BaseART.restore_data Y s =
      ((match restoreBase (toPrep s) Y with
        | some Z => .ok Z
        | none => .error .type), s) := by
  obtain ⟨mx?, mn?, dim, dorig⟩ := s
  cases mx? with
  | none => rfl
  | some mx =>
    cases mn? with
    | none => rfl
    | some mn =>
      have h := de_normalize_spec Y mx mn d hY (hb.1 mx rfl) (hb.2 mn rfl)
      simp only [BaseART.restore_data, bind, Py.bind, Py.get, Py.lift, notNone, h, restoreBase, toPrep]

/-- **`FuzzyART.prepare_data` = the model's `prepareFuzzy`** -/
theorem prepare_fuzzy_spec (s : Self α) (X : Mat α) (d : Nat) (hX : Rect X d) (hne : X ≠ []) (hb : BoundsFit s d) :
    FuzzyART.prepare_data X s =
      (.ok (prepareFuzzy (toPrep s) X).1,
        { s with d_max_ := (prepareFuzzy (toPrep s) X).2.dmax, d_min_ := (prepareFuzzy (toPrep s) X).2.dmin }) := by
  have h := normalize_spec X s.d_max_ s.d_min_ d hX hne hb.1 hb.2
  simp only [FuzzyART.prepare_data, bind, Py.bind, pure, Py.pure, Py.get, Py.lift, Py.modify, h, prepareFuzzy,
    prepareBase, toPrep, compliment_code_spec]

/-- **`FuzzyART.restore_data` = the model's `restoreFuzzy`**: `AssertionError` when the width is odd, `TypeError`
when a bound is still `None`; no attribute is written. -/
theorem restore_fuzzy_spec (s : Self α) (Y : Mat α) (w : Nat) (hY : Rect Y w) (hb : BoundsFit s (w / 2)) :
    FuzzyART.restore_data Y s =
      ((match deComplementCode Y with
        | none => .error .assertion
        | some Z =>
          match restoreBase (toPrep s) Z with
          | some W => .ok W
          | none => .error .type), s) := by
  have h := de_compliment_code_spec Y w hY
  simp only [FuzzyART.restore_data, bind, Py.bind, Py.lift, h]
  cases hd : deComplementCode Y with
  | none => rfl
  | some Z => exact restore_base_spec s Z (w / 2) (deComplementCode_rect hY hd) hb

/-- the generated `restore_data` answers a value exactly when the model's `restoreFuzzy` does, and then the same one -/
theorem restore_fuzzy_value (s : Self α) (Y : Mat α) (w : Nat) (hY : Rect Y w) (hb : BoundsFit s (w / 2)) :
    (FuzzyART.restore_data Y s).1.toOption = restoreFuzzy (toPrep s) Y := by
  rw [restore_fuzzy_spec s Y w hY hb, restoreFuzzy]
  cases deComplementCode Y with
  | none => rfl
  | some Z =>
    dsimp only
    cases restoreBase (toPrep s) Z <;> rfl

end Methods

/-! ### `validate_data` / `check_dimensions`

Every generated `validate_data` is a sequence of assertions followed by `check_dimensions`, which asserts or stores.
Such a method is a `gate`: one Boolean decides, and only acceptance stores. -/

section Validate
variable {α : Type} [Field α] [LinearOrder α] [IsStrictOrderedRing α]

/-- what a validator returns: nothing, or `AssertionError` -/
def okIf (b : Bool) : Except PyErr Unit := if b then .ok () else .error .assertion

def gate {σ : Type} (b : Bool) (store : σ → σ) (s : σ) : Except PyErr Unit × σ :=
  if b then (.ok (), store s) else (.error .assertion, s)

theorem assert_eq_gate {σ : Type} (c : Bool) (s : σ) : Py.assert c s = gate c id s := by
  cases c <;> rfl

theorem assert_gate {σ : Type} (c : Bool) {g : Py σ Unit} {b : Bool} {store : σ → σ} {s : σ}
    (hg : g s = gate b store s) : (do Py.assert c; g) s = gate (c && b) store s := by
  cases c
  · rfl
  · exact hg

theorem gate_atomic {σ : Type} {b : Bool} {store : σ → σ} {s : σ} {g : Py σ Unit} (hg : g s = gate b store s)
    (hrej : (g s).1 ≠ .ok ()) : g s = (.error .assertion, s) := by
  rw [hg] at hrej ⊢
  cases b
  · rfl
  · exact absurd rfl hrej

theorem bind_of_raise {σ β γ : Type} {m : Py σ β} {k : β → Py σ γ} {s s' : σ} {e : PyErr} (h : m s = (.error e, s')) :
    (m >>= k) s = (.error e, s') := by
  simp only [bind, Py.bind, h]

/-- the store of `check_dimensions`: `dim_` is assigned when it is absent -/
def recordWidth (X : Mat α) (s : Self α) : Self α :=
  match s.dim_ with
  | none => { s with dim_ := some (width X) }
  | some _ => s

def ranAs (v : DimState → Mat α → DimState × Bool) (s : Self α) (X : Mat α) : Except PyErr Unit × Self α :=
  (okIf (v ⟨s.dim_⟩ X).2, { s with dim_ := (v ⟨s.dim_⟩ X).1.dim })

theorem ranAs_runValidate (valid : Option Nat → Mat α → Bool) (s : Self α) (X : Mat α) :
    ranAs (runValidate valid) s X = gate (valid s.dim_ X) (recordWidth X) s := by
  obtain ⟨mx, mn, dim, dorig⟩ := s
  unfold ranAs runValidate gate
  cases valid dim X <;> cases dim <;> rfl

/-- the two range assertions together are the model's `inUnit` -/
theorem inUnit_gen (X : Mat α) :
    (all2 (ew2 (fun x => decide (x ≥ (0 : α))) X) && all2 (ew2 (fun x => decide (x ≤ (1 : α))) X)) = inUnit X := by
  rw [Bool.eq_iff_iff]
  simp only [all2, ew2, inUnit, List.all_map, List.all_eq_true, Bool.and_eq_true, Function.comp_def, id,
    decide_eq_true_eq, ge_iff_le]
  exact ⟨fun ⟨h0, h1⟩ r hr v hv => ⟨h0 r hr v hv, h1 r hr v hv⟩,
    fun h => ⟨fun r hr v hv => (h r hr v hv).1, fun r hr v hv => (h r hr v hv).2⟩⟩

theorem store_width (s : Self α) (X : Mat α) (h : s.dim_ = none) :
    Py.modify (fun t : Self α => { t with dim_ := some (shape X).2 }) s = gate true (recordWidth X) s := by
  rw [gate, if_pos rfl, recordWidth, h, shape_snd]
  rfl

theorem check_dimensions_base_gate (s : Self α) (X : Mat α) :
    BaseART.check_dimensions X s = gate (widthOk s.dim_ X) (recordWidth X) s := by
  obtain ⟨mx, mn, dim, dorig⟩ := s
  cases dim with
  | none => exact store_width _ X rfl
  | some d => exact (assert_eq_gate _ _).trans (by rw [shape_snd]; rfl)

/-- **`BaseART.check_dimensions`**: the first call records the width, later calls compare with it -/
theorem check_dimensions_base_spec (s : Self α) (X : Mat α) :
    BaseART.check_dimensions X s =
      (okIf (widthOk s.dim_ X),
        match s.dim_ with
        | none => { s with dim_ := some (width X) }
        | some _ => s) := by
  rw [check_dimensions_base_gate]
  obtain ⟨mx, mn, dim, dorig⟩ := s
  cases dim with
  | none => rfl
  | some d => unfold gate okIf; cases widthOk (some d) X <;> rfl

theorem validate_base_gate (s : Self α) (X : Mat α) :
    BaseART.validate_data X s = gate (validBase s.dim_ X) (recordWidth X) s := by
  rw [validBase, ← inUnit_gen, Bool.and_assoc]
  exact assert_gate _ (assert_gate _ (check_dimensions_base_gate s X))

/-- **`BaseART.validate_data` = the model's `runValidate validBase`**: the answer and every attribute after the call -/
theorem validate_base_spec (s : Self α) (X : Mat α) :
    BaseART.validate_data X s =
      (okIf (runValidate validBase ⟨s.dim_⟩ X).2, { s with dim_ := (runValidate validBase ⟨s.dim_⟩ X).1.dim }) :=
  (validate_base_gate s X).trans (ranAs_runValidate validBase s X).symm

/-- on an even width the generated row-sum assertion (`abs(Σ row - w / 2) <= 0.01`, true division) is the model's
`rowSumsOk` (floor division, two one-sided tests) -/
theorem rowSums_gen (X : Mat α) (hev : width X % 2 = 0) :
    all1 (ew1 (fun x => decide (x ≤ ((1 : α) / ((100 : Nat) : α))))
      (ew1 Np.abs (ew1 (fun x => x - (((width X : Nat) : α) / ((2 : Nat) : α))) (sumAxis1 X)))) = rowSumsOk X := by
  have hd : ((width X : Nat) : α) / ((2 : Nat) : α) = ((width X / 2 : Nat) : α) := by
    obtain ⟨k, hk⟩ := Nat.dvd_of_mod_eq_zero hev
    rw [hk, Nat.mul_div_cancel_left k Nat.two_pos, Nat.cast_mul,
      mul_div_cancel_left₀ _ (Nat.cast_ne_zero.mpr two_ne_zero)]
  simp only [all1, ew1, sumAxis1, rowSumsOk, ccTol, List.all_map, Function.comp_def, id, hd, npabs_eq_abs,
    sum1_eq_vsum, abs_sub_le_iff, Bool.decide_and]
  rfl

/-- what `FuzzyART.check_dimensions` stores when `dim_` is absent: `dim_`, and `dim_original = dim_ // 2` -/
def recordWidthFuzzy (X : Mat α) (s : Self α) : Self α :=
  match s.dim_ with
  | none => { s with dim_ := some (width X), dim_original := some (width X / 2) }
  | some _ => s

theorem check_dimensions_fuzzy_gate (s : Self α) (X : Mat α) :
    FuzzyART.check_dimensions X s = gate (widthOk s.dim_ X) (recordWidthFuzzy X) s := by
  obtain ⟨mx, mn, dim, dorig⟩ := s
  cases dim with
  | none => exact congrArg (fun w => (Except.ok (), (⟨mx, mn, some w, some (w / 2)⟩ : Self α))) (shape_snd X)
  | some d => exact (assert_eq_gate _ _).trans (by rw [shape_snd]; rfl)

theorem validate_fuzzy_gate (s : Self α) (X : Mat α) :
    FuzzyART.validate_data X s = gate (validFuzzy s.dim_ X) (recordWidthFuzzy X) s := by
  refine (assert_gate _ (assert_gate _ (assert_gate _ (assert_gate _ (check_dimensions_fuzzy_gate s X))))).trans
    (congrArg (gate · _ s) ?_)
  -- the four assertions and the width test are `validFuzzy`; the row sums are compared only on an even width
  rw [validFuzzy, shape_snd, ← inUnit_gen]
  cases hev : width X % 2 == 0
  · rfl
  · rw [rowSums_gen X (beq_iff_eq.mp hev)]
    simp only [Bool.true_and, Bool.and_assoc]

/-- **`FuzzyART.validate_data` = the model's `runValidate validFuzzy`**; the accepting first call also records
`dim_original = dim_ // 2` (an attribute the model does not carry) -/
theorem validate_fuzzy_spec (s : Self α) (X : Mat α) :
    FuzzyART.validate_data X s =
      (okIf (runValidate validFuzzy ⟨s.dim_⟩ X).2,
        { s with dim_ := (runValidate validFuzzy ⟨s.dim_⟩ X).1.dim,
                 dim_original := if (runValidate validFuzzy ⟨s.dim_⟩ X).2 && s.dim_.isNone then some (width X / 2)
                                 else s.dim_original }) := by
  -- the generated method is four assertions followed by `FuzzyART.check_dimensions`: one gate
  rw [validate_fuzzy_gate]
  obtain ⟨mx, mn, dim, dorig⟩ := s
  unfold runValidate gate
  cases validFuzzy dim X <;> cases dim <;> rfl

/-- the generated `np.array_equal(X, X.astype(bool))` is the model's `isBinary` -/
theorem isBinary_gen : ∀ (X : Mat α), arrayEqualNB X (astypeBool X) = isBinary X
  | [] => rfl
  | r :: X => by
    have hrow : (List.zipWith (fun v c => decide (v = ofBool c)) r (r.map (fun v => !decide (v = 0)))).all id
        = r.all (fun v => decide (v = 0) || decide (v = 1)) := by
      rw [List.zipWith_map_right, List.zipWith_self, List.all_map]
      refine List.all_congr rfl fun v => ?_
      -- `astype(bool)` of `0` is `False`, of anything else `True`
      by_cases h0 : v = 0
      · rw [Function.comp_apply, id, decide_eq_true h0, Bool.not_true, Bool.true_or, h0]
        exact decide_eq_true rfl
      · rw [Function.comp_apply, id, decide_eq_false h0, Bool.not_false, Bool.false_or]
        rfl
    have ih := isBinary_gen X
    simp only [astypeBool, ew2] at ih
    simp only [astypeBool, ew2, List.map_cons, arrayEqualNB, List.length_map, beq_self_eq_true, Bool.true_and, ih,
      hrow, isBinary, List.all_cons]

theorem validate_art1_gate (s : Self α) (X : Mat α) :
    ART1.validate_data X s = gate (validART1 s.dim_ X) (recordWidth X) s := by
  rw [validART1, ← isBinary_gen]
  exact assert_gate _ (check_dimensions_base_gate s X)

/-- **`ART1.validate_data` = the model's `runValidate validART1`** -/
theorem validate_art1_spec (s : Self α) (X : Mat α) :
    ART1.validate_data X s =
      (okIf (runValidate validART1 ⟨s.dim_⟩ X).2, { s with dim_ := (runValidate validART1 ⟨s.dim_⟩ X).1.dim }) :=
  (validate_art1_gate s X).trans (ranAs_runValidate validART1 s X).symm

/-- what is assumed of numpy's `sqrt` (a parameter of the generated `ART2A.check_dimensions`, not translated) at the
data width: a positive square root -/
def SqrtOk (sqrt : α → α) (w : Nat) : Prop := 0 < sqrt (w : α) ∧ sqrt (w : α) * sqrt (w : α) = (w : α)

/-- `alpha <= 1 / np.sqrt(w)` is the model's square-root-free `alpha·alpha·w ≤ 1` for `alpha ≥ 0` -/
theorem art2_alpha_gen (alpha : α) (sqrt : α → α) (w : Nat) (hs : SqrtOk sqrt w) (ha : 0 ≤ alpha) :
    decide (alpha ≤ (1 : α) / sqrt ((w : Nat) : α)) = art2AlphaOk alpha w := by
  -- with `r = sqrt w > 0`: `alpha ≤ 1 / r ↔ alpha·r ≤ 1 ↔ (alpha·r)² ≤ 1`, and `(alpha·r)² = alpha²·w`
  rw [art2AlphaOk, decide_eq_decide, le_div_iff₀ hs.1,
    mul_self_le_mul_self_iff (mul_nonneg ha hs.1.le) zero_le_one, mul_one, mul_mul_mul_comm, hs.2]

theorem check_dimensions_art2a_gate (alpha : α) (sqrt : α → α) (s : Self α) (X : Mat α) :
    ART2A.check_dimensions alpha sqrt X s =
      gate (match s.dim_ with
        | none => decide (alpha ≤ (1 : α) / sqrt (width X : α))
        | some d => width X == d) (recordWidth X) s := by
  obtain ⟨mx, mn, dim, dorig⟩ := s
  cases dim with
  | none => exact (assert_gate _ (store_width _ X rfl)).trans (by rw [Bool.and_true, shape_snd])
  | some d => exact (assert_eq_gate _ _).trans (by rw [shape_snd]; rfl)

theorem validate_art2a_gate (alpha : α) (sqrt : α → α) (s : Self α) (X : Mat α)
    (hs : s.dim_ = none → SqrtOk sqrt (width X)) (ha : 0 ≤ alpha) :
    ART2A.validate_data alpha sqrt X s = gate (validART2A alpha s.dim_ X) (recordWidth X) s := by
  refine (assert_gate _ (assert_gate _ (check_dimensions_art2a_gate alpha sqrt s X))).trans
    (congrArg (gate · _ s) ?_)
  unfold validART2A
  rw [← inUnit_gen, Bool.and_assoc]
  cases hd : s.dim_ with
  | none => rw [art2_alpha_gen alpha sqrt (width X) (hs hd) ha]
  | some d => rfl

/-- **`ART2A.validate_data`** (BaseART's body with ART2A's `check_dimensions`) **= the model's `runValidateART2A`** -/
theorem validate_art2a_spec (alpha : α) (sqrt : α → α) (s : Self α) (X : Mat α)
    (hs : s.dim_ = none → SqrtOk sqrt (width X)) (ha : 0 ≤ alpha) :
    ART2A.validate_data alpha sqrt X s =
      (okIf (runValidateART2A alpha ⟨s.dim_⟩ X).2, { s with dim_ := (runValidateART2A alpha ⟨s.dim_⟩ X).1.dim }) := by
  rw [C18.validate_art2a_eq]
  -- the generated method is BaseART's two assertions followed by `ART2A.check_dimensions`: one gate
  exact (validate_art2a_gate alpha sqrt s X hs ha).trans (ranAs_runValidate (validART2A alpha) s X).symm

end Validate

/-! ### C18 for the generated code -/

section C18
variable {α : Type} [Field α] [LinearOrder α] [IsStrictOrderedRing α]

theorem boundsFit_fresh (s : Self α) (d : Nat) (h : s.d_max_ = none ∧ s.d_min_ = none) : BoundsFit s d :=
  ⟨fun m hm => (by rw [h.1] at hm; cases hm), fun m hm => (by rw [h.2] at hm; cases hm)⟩

theorem boundsFit_some {s : Self α} {mx mn : List α} {d : Nat} (hmx : s.d_max_ = some mx) (hmn : s.d_min_ = some mn)
    (h1 : mx.length = d) (h2 : mn.length = d) : BoundsFit s d :=
  ⟨fun m hm => (by rw [hmx] at hm; cases hm; exact h1), fun m hm => (by rw [hmn] at hm; cases hm; exact h2)⟩

/-- **C18 round trip, generated `BaseART` pair** (transport of `C18.restore_prepare_base`, `C18.normalize_in_unit`):
on an estimator that has not prepared data yet, `prepare_data(X)` returns without raising, remembers the column
maxima and minima, its values lie in [0,1], and `restore_data` of them returns exactly `X` and writes nothing. -/
theorem gen_restore_prepare_base (s : Self α) (hs : s.d_max_ = none ∧ s.d_min_ = none) (X : Mat α) (d : Nat)
    (hX : Rect X d) (hne : X ≠ []) (hc : NonConst X) :
    let Y := normWith (colMax X) (colMin X) X
    let s' : Self α := { s with d_max_ := some (colMax X), d_min_ := some (colMin X) }
    BaseART.prepare_data X s = (.ok Y, s') ∧ (∀ r ∈ Y, ∀ v ∈ r, 0 ≤ v ∧ v ≤ 1) ∧
      BaseART.restore_data Y s' = (.ok X, s') := by
  intro Y s'
  have hmx := (colMax_spec hX hne).1
  have hmn := (colMin_spec hX hne).1
  have hrt : restoreBase (toPrep s') Y = some X := C18.restore_prepare_base X d hX hne hc
  refine ⟨?_, (C18.normalize_in_unit X d hX hc).2, ?_⟩
  · rw [prepare_base_spec s X d hX hne (boundsFit_fresh s d hs), toPrep, hs.1, hs.2]
    rfl
  · rw [restore_base_spec s' Y d (normWith_rect hX hmx hmn) (boundsFit_some rfl rfl hmx hmn), hrt]

/-- **later calls re-use the first call's bounds** (transport of `C18.bounds_reused` and
`C18.restore_prepare_base_later`): with remembered bounds of the right width, `prepare_data(X₂)` maps `X₂` with those
bounds, writes the same bounds back (no attribute changes), and the pair still round-trips when no divisor is zero. -/
theorem gen_bounds_reused (s : Self α) (mx mn : List α) (hmx : s.d_max_ = some mx) (hmn : s.d_min_ = some mn)
    (X₂ : Mat α) (d : Nat) (hX : Rect X₂ d) (hne : X₂ ≠ []) (h1 : mx.length = d) (h2 : mn.length = d) :
    BaseART.prepare_data X₂ s = (.ok (normWith mx mn X₂), s) ∧
      (List.Forall₂ (· ≠ ·) mx mn → BaseART.restore_data (normWith mx mn X₂) s = (.ok X₂, s)) := by
  have hb : BoundsFit s d := boundsFit_some hmx hmn h1 h2
  have hs : toPrep s = { dmax := some mx, dmin := some mn } := by rw [toPrep, hmx, hmn]
  refine ⟨?_, fun hne' => ?_⟩
  · rw [prepare_base_spec s X₂ d hX hne hb, hs]
    obtain ⟨a, b, c, e⟩ := s
    cases hmx
    cases hmn
    rfl
  · have hrt : restoreBase { dmax := some mx, dmin := some mn } (normWith mx mn X₂) = some X₂ :=
      C18.restore_prepare_base_later X₂ d mx mn hX ⟨h1, hne'⟩
    rw [restore_base_spec s _ d (normWith_rect hX h1 h2) hb, hs, hrt]

/-- **C18 round trip, generated `FuzzyART` pair** (transport of `C18.restore_prepare_fuzzy`,
`C18.prepare_passes_validate_fuzzy`): the prepared matrix is the complement-coded normalisation, `restore_data` returns
exactly `X`, and the generated `FuzzyART.validate_data` accepts the prepared matrix, recording `dim_ = 2d` and
`dim_original = d`. -/
theorem gen_restore_prepare_fuzzy (s : Self α) (hs : s.d_max_ = none ∧ s.d_min_ = none) (X : Mat α) (d : Nat)
    (hX : Rect X d) (hne : X ≠ []) (hc : NonConst X) :
    let Y := complementCode (normWith (colMax X) (colMin X) X)
    let s' : Self α := { s with d_max_ := some (colMax X), d_min_ := some (colMin X) }
    FuzzyART.prepare_data X s = (.ok Y, s') ∧ FuzzyART.restore_data Y s' = (.ok X, s') ∧
      (s.dim_ = none →
        FuzzyART.validate_data Y s' = (.ok (), { s' with dim_ := some (2 * d), dim_original := some d })) := by
  intro Y s'
  have hmx := (colMax_spec hX hne).1
  have hmn := (colMin_spec hX hne).1
  have hY : Rect Y (2 * d) := complementCode_rect (normWith_rect hX hmx hmn)
  have hb' : BoundsFit s' (2 * d / 2) :=
    boundsFit_some rfl rfl (by rw [Nat.mul_div_cancel_left d Nat.two_pos, hmx])
      (by rw [Nat.mul_div_cancel_left d Nat.two_pos, hmn])
  have hrt : restoreFuzzy (toPrep s') Y = some X := C18.restore_prepare_fuzzy X d hX hne hc
  refine ⟨?_, ?_, fun hdim => ?_⟩
  · rw [prepare_fuzzy_spec s X d hX hne (boundsFit_fresh s d hs), toPrep, hs.1, hs.2]
    rfl
  · rw [restore_fuzzy_spec s' Y (2 * d) hY hb']
    rw [restoreFuzzy] at hrt
    cases hd : deComplementCode Y with
    | none => rw [hd] at hrt; cases hrt
    | some Z =>
      rw [hd] at hrt
      dsimp only at hrt ⊢
      rw [hrt]
  · have hdim' : s'.dim_ = none := hdim
    obtain ⟨hv, -, -⟩ := C18.prepare_passes_validate_fuzzy X d hX hne hc
    have hw : width Y = 2 * d := (prepareFuzzy_fresh hX hne hc).2.1
    have hY' : (prepareFuzzy {} X).1 = Y := rfl
    rw [validate_fuzzy_gate, hdim', ← hY', hv, hY', gate, if_pos rfl, recordWidthFuzzy, hw,
      Nat.mul_div_cancel_left d Nat.two_pos]
    simp only [hdim']

/-- **the prepared data passes the generated `BaseART.validate_data`** (transport of
`C18.prepare_passes_validate_base`), which records `dim_ = d` -/
theorem gen_prepare_passes_validate_base (s : Self α) (hdim : s.dim_ = none) (X : Mat α) (d : Nat) (hX : Rect X d)
    (hne : X ≠ []) (hc : NonConst X) :
    BaseART.validate_data (normWith (colMax X) (colMin X) X) s = (.ok (), { s with dim_ := some d }) := by
  have hv : validBase none (normWith (colMax X) (colMin X) X) = true :=
    (C18.prepare_passes_validate_base X d hX hne hc).1
  have hw : width (normWith (colMax X) (colMin X) X) = d := (prepareBase_fresh hX hne hc).2
  rw [validate_base_gate, hdim, hv, gate, if_pos rfl, recordWidth, hw]
  simp only [hdim]

/-- **validation is atomic, generated `BaseART.validate_data`** (`C18.validate_pure_on_reject` for the generated
code): when it raises, *no attribute* of the estimator has changed — `dim_`, and also the remembered bounds and
`dim_original`. -/
theorem gen_validate_base_atomic (s : Self α) (X : Mat α) (hrej : (BaseART.validate_data X s).1 ≠ .ok ()) :
    BaseART.validate_data X s = (.error .assertion, s) :=
  gate_atomic (validate_base_gate s X) hrej

/-- the same for the generated `FuzzyART.validate_data` -/
theorem gen_validate_fuzzy_atomic (s : Self α) (X : Mat α) (hrej : (FuzzyART.validate_data X s).1 ≠ .ok ()) :
    FuzzyART.validate_data X s = (.error .assertion, s) :=
  gate_atomic (validate_fuzzy_gate s X) hrej

/-- the same for the generated `ART1.validate_data` -/
theorem gen_validate_art1_atomic (s : Self α) (X : Mat α) (hrej : (ART1.validate_data X s).1 ≠ .ok ()) :
    ART1.validate_data X s = (.error .assertion, s) :=
  gate_atomic (validate_art1_gate s X) hrej

/-- the same for the generated `ART2A.validate_data`: the `alpha` assertion comes before the assignment of `dim_` in
the source, so a rejecting first call leaves no `dim_` behind -/
theorem gen_validate_art2a_atomic (alpha : α) (sqrt : α → α) (s : Self α) (X : Mat α)
    (hs : s.dim_ = none → SqrtOk sqrt (width X)) (ha : 0 ≤ alpha)
    (hrej : (ART2A.validate_data alpha sqrt X s).1 ≠ .ok ()) :
    ART2A.validate_data alpha sqrt X s = (.error .assertion, s) :=
  gate_atomic (validate_art2a_gate alpha sqrt s X hs ha) hrej

/-- **entry points** (transport of `C18.reject_is_noop_elementary` / `C18.malformed_is_rejected`): `validate_data(X)`
followed by *any* body: a matrix with an entry outside [0,1], or of a width other than the remembered one, raises
`AssertionError` and the body never runs — the attribute record is the one the call was given. -/
theorem gen_entry_rejects_base {ρ : Type} (body : Py (Self α) ρ) (s : Self α) (X : Mat α)
    (hbad : (∃ r ∈ X, ∃ v ∈ r, v < 0 ∨ 1 < v) ∨ (∃ d, s.dim_ = some d ∧ width X ≠ d)) :
    (do BaseART.validate_data X; body) s = (.error .assertion, s) := by
  have hm := C18.malformed_is_rejected s.dim_ X
  have hrej : validBase s.dim_ X = false := hbad.elim (fun h => (hm.1 h).1) (fun h => (hm.2.1 h).1)
  exact bind_of_raise ((validate_base_gate s X).trans (by rw [hrej]; rfl))

/-- the same for FuzzyART: additionally an odd width, or a row whose sum is off by more than 0.01 -/
theorem gen_entry_rejects_fuzzy {ρ : Type} (body : Py (Self α) ρ) (s : Self α) (X : Mat α)
    (hbad : (∃ r ∈ X, ∃ v ∈ r, v < 0 ∨ 1 < v) ∨ (∃ d, s.dim_ = some d ∧ width X ≠ d) ∨ width X % 2 = 1 ∨
      (∃ r ∈ X, ccTol < vsum r - ((width X / 2 : Nat) : α) ∨ ccTol < ((width X / 2 : Nat) : α) - vsum r)) :
    (do FuzzyART.validate_data X; body) s = (.error .assertion, s) := by
  have hm := C18.malformed_is_rejected s.dim_ X
  have hrej : validFuzzy s.dim_ X = false := by
    rcases hbad with h | h | h | h
    · exact (hm.1 h).2
    · exact (hm.2.1 h).2.1
    · exact hm.2.2.2.1 h
    · exact hm.2.2.2.2 h
  exact bind_of_raise ((validate_fuzzy_gate s X).trans (by rw [hrej]; rfl))

end C18

/-! ### non-vacuity: the generated code runs -/

section Examples

/-- the 3×2 matrix of `ArtProps/C18.lean` -/
def X₀ : Mat Rat := [[1, -2], [3, 4], [-1, 0]]

example : Gen.Prep.normalize X₀ none none = .ok ([[1/2, 0], [1, 1], [0, 1/3]], [3, 4], [-1, -2]) := by
  decide +kernel

example : FuzzyART.prepare_data X₀ {} =
    (.ok [[1/2, 0, 1/2, 1], [1, 1, 0, 0], [0, 1/3, 1, 2/3]], { d_max_ := some [3, 4], d_min_ := some [-1, -2] }) := by
  decide +kernel

/-- the round trip, executed: prepare on a fresh FuzzyART, then restore with the attributes it left -/
example : FuzzyART.restore_data [[1/2, 0, 1/2, 1], [1, 1, 0, 0], [0, 1/3, 1, 2/3]]
      ({ d_max_ := some [3, 4], d_min_ := some [-1, -2] } : Self Rat) =
    (.ok X₀, { d_max_ := some [3, 4], d_min_ := some [-1, -2] }) := by
  decide +kernel

/-- second call: `[[2, 2], [0, 1]]` is mapped with the bounds of `X₀`, not its own -/
example : BaseART.prepare_data [[2, 2], [0, 1]] ({ d_max_ := some [3, 4], d_min_ := some [-1, -2] } : Self Rat) =
    (.ok [[3/4, 2/3], [1/4, 1/2]], { d_max_ := some [3, 4], d_min_ := some [-1, -2] }) := by
  decide +kernel

/-- the accepting first `FuzzyART.validate_data` records `dim_ = 4`, `dim_original = 2` -/
example : FuzzyART.validate_data [[1/2, 0, 1/2, 1], [1, 1, 0, 0], [0, 1/3, 1, 2/3]] ({} : Self Rat) =
    (.ok (), { dim_ := some 4, dim_original := some 2 }) := by
  decide +kernel

/-- a row that is in range and of even width but not complement coded (sum 3/2 ≠ 1): rejected, nothing written -/
example : FuzzyART.validate_data [[1/2, 1]] ({} : Self Rat) = (.error .assertion, {}) := by
  decide +kernel

/-- a rejected call on a trained estimator: the record comes back as it was -/
example : BaseART.validate_data [[1/2, 3/2]] ({ dim_ := some 2, d_max_ := some [7, 8], d_min_ := some [0, 0] } : Self Rat) =
    (.error .assertion, { dim_ := some 2, d_max_ := some [7, 8], d_min_ := some [0, 0] }) := by
  decide +kernel

/-- wrong width after the first call -/
example : BaseART.validate_data [[1/2, 1, 0]] ({ dim_ := some 2 } : Self Rat) = (.error .assertion, { dim_ := some 2 }) := by
  decide +kernel

/-- ART1: a non-binary entry is rejected; a binary matrix is accepted and its width recorded -/
example : ART1.validate_data [[1, 0], [1/2, 1]] ({} : Self Rat) = (.error .assertion, {}) ∧
    ART1.validate_data [[1, 0], [0, 1]] ({} : Self Rat) = (.ok (), { dim_ := some 2 }) := by
  decide +kernel

/-- ART2A on a fresh estimator, width 4 (`sqrt 4 = 2`): `alpha = 9/10 > 1/2` is rejected and `dim_` stays absent,
`alpha = 1/2` (the boundary) is accepted -/
example : ART2A.validate_data (9/10 : Rat) (fun _ => 2) [[1/2, 1, 0, 0]] {} = (.error .assertion, {}) ∧
    ART2A.validate_data (1/2 : Rat) (fun _ => 2) [[1/2, 1, 0, 0]] {} = (.ok (), { dim_ := some 4 }) := by
  decide +kernel

/-- the errors that are not assertions: `restore_data` before any `prepare_data` (arithmetic on `None`), bounds of
the wrong width (broadcasting), `np.min` of zero rows, an odd width in `de_compliment_code` -/
example : BaseART.restore_data [[1/2, 1]] ({} : Self Rat) = (.error .type, {}) ∧
    Gen.Prep.de_normalize [[1/2, 1, 0]] [3, 4] [(0 : Rat), 0] = .error .value ∧
    Gen.Prep.normalize ([] : Mat Rat) none none = .error .value ∧
    Gen.Prep.de_compliment_code [[(1 : Rat), 0, 1]] = .error .assertion := by
  decide +kernel

/-- numpy stretches an axis of length 1: bounds given as one number apply to every column -/
example : Gen.Prep.de_normalize [[1/2, 1, 0]] [3] [(1 : Rat)] = .ok [[2, 3, 1]] := by
  decide +kernel

end Examples

end Art.GenSpec.Prep
