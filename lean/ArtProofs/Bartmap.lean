/-
ArtProofs.Bartmap — helper lemmas for C17 (BARTMAP checkerboard):
closed forms of `rowsOf` / `columnsOf`, the "exactly one index" lemma for
`cellBiclusters`, and the bound on the number of categories of the generic training fold
that C17 needs next to the invariant of `ArtProofs.Fit`.
-/
import ArtProofs.Fit
import ArtModel.Bartmap

namespace Art.Bartmap

/-! ### a-major blocks -/

/-- `a·nb + b` is a valid pair index and decodes to `(a, b)`. -/
theorem pair_index {na nb a b : Nat} (ha : a < na) (hb : b < nb) :
    a * nb + b < na * nb ∧ (a * nb + b) / nb = a ∧ (a * nb + b) % nb = b := by
  have hpos : 0 < nb := Nat.zero_lt_of_lt hb
  refine ⟨?_, ?_, ?_⟩
  · calc a * nb + b < a * nb + nb := Nat.add_lt_add_left hb _
      _ = (a + 1) * nb := (Nat.succ_mul a nb).symm
      _ ≤ na * nb := Nat.mul_le_mul_right nb ha
  · rw [Nat.mul_comm, Nat.mul_add_div hpos, Nat.div_eq_of_lt hb, Nat.add_zero]
  · rw [Nat.mul_comm, Nat.mul_add_mod, Nat.mod_eq_of_lt hb]

/-- a pair index `k < na·nb` is `(k / nb)·nb + k % nb` with both parts in range -/
theorem pair_decode {na nb k : Nat} (hk : k < na * nb) :
    k / nb < na ∧ k % nb < nb ∧ k = k / nb * nb + k % nb := by
  have hpos : 0 < nb := Nat.pos_of_ne_zero fun h => by rw [h, Nat.mul_zero] at hk; exact Nat.not_lt_zero _ hk
  exact ⟨(Nat.div_lt_iff_lt_mul hpos).mpr hk, Nat.mod_lt _ hpos, by rw [Nat.mul_comm]; exact (Nat.div_add_mod k nb).symm⟩

/-- An `a`-major double comprehension is a single map over `range (na·nb)`
that reads `a = k / nb`, `b = k % nb`. -/
theorem flatMap_range_blocks {γ : Type} (g : Nat → Nat → γ) (na nb : Nat) :
    (List.range na).flatMap (fun a => (List.range nb).map (g a)) =
      (List.range (na * nb)).map (fun k => g (k / nb) (k % nb)) := by
  induction na with
  | zero => rw [Nat.zero_mul]; rfl
  | succ n ih =>
    rw [List.range_succ, List.flatMap_append, ih, Nat.succ_mul, List.range_add, List.map_append, List.map_map,
      List.flatMap_singleton]
    congr 1
    apply List.map_congr_left
    intro b hb
    obtain ⟨-, h1, h2⟩ := pair_index (Nat.lt_succ_self n) (List.mem_range.mp hb)
    rw [Function.comp_apply, h1, h2]

theorem rowsOf_eq (na nb : Nat) (L : List Nat) :
    rowsOf na nb L = (List.range (na * nb)).map (fun k => L.map (· == k / nb)) :=
  flatMap_range_blocks (fun a _ => L.map (· == a)) na nb

theorem columnsOf_eq (na nb : Nat) (C : List Nat) :
    columnsOf na nb C = (List.range (na * nb)).map (fun k => C.map (· == k % nb)) :=
  flatMap_range_blocks (fun _ b => C.map (· == b)) na nb

theorem rowsOf_length (na nb : Nat) (L : List Nat) : (rowsOf na nb L).length = na * nb := by
  rw [rowsOf_eq, List.length_map, List.length_range]

theorem columnsOf_length (na nb : Nat) (C : List Nat) : (columnsOf na nb C).length = na * nb := by
  rw [columnsOf_eq, List.length_map, List.length_range]

theorem memberAt_masks (n : Nat) (L : List Nat) (f : Nat → Nat) (k i : Nat) :
    memberAt ((List.range n).map fun k => L.map (· == f k)) k i =
      (decide (k < n) && decide (L[i]? = some (f k))) := by
  rw [memberAt, List.getElem?_map]
  by_cases hk : k < n
  · rw [List.getElem?_range hk, Option.map_some, Option.bind_some, List.getElem?_map, decide_eq_true hk,
      Bool.true_and]
    cases L[i]? with
    | none => rfl
    | some l => simp only [Option.map_some, Option.getD_some, beq_eq_decide, Option.some.injEq]
  · rw [List.getElem?_eq_none (by rw [List.length_range]; exact Nat.le_of_not_lt hk), decide_eq_false hk]
    rfl

theorem memberAt_rowsOf (na nb : Nat) (L : List Nat) (k i : Nat) :
    memberAt (rowsOf na nb L) k i = (decide (k < na * nb) && decide (L[i]? = some (k / nb))) := by
  rw [rowsOf_eq]
  exact memberAt_masks _ L (· / nb) k i

theorem memberAt_columnsOf (na nb : Nat) (C : List Nat) (k j : Nat) :
    memberAt (columnsOf na nb C) k j = (decide (k < na * nb) && decide (C[j]? = some (k % nb))) := by
  rw [columnsOf_eq]
  exact memberAt_masks _ C (· % nb) k j

/-- mask `k` of `rows_` holds the matrix rows labelled `k / nb` … -/
theorem memberAt_rowsOf_iff {na nb k : Nat} (hk : k < na * nb) (L : List Nat) (i : Nat) :
    memberAt (rowsOf na nb L) k i = true ↔ L[i]? = some (k / nb) := by
  rw [memberAt_rowsOf, decide_eq_true hk, Bool.true_and, decide_eq_true_eq]

/-- … and mask `k` of `columns_` the matrix columns labelled `k % nb` -/
theorem memberAt_columnsOf_iff {na nb k : Nat} (hk : k < na * nb) (C : List Nat) (j : Nat) :
    memberAt (columnsOf na nb C) k j = true ↔ C[j]? = some (k % nb) := by
  rw [memberAt_columnsOf, decide_eq_true hk, Bool.true_and, decide_eq_true_eq]

/-! ### exactly one index -/

/-- If `k₀ < n` is the only index below `n` that satisfies `p`, filtering
`range n` by `p` leaves exactly `[k₀]`. -/
theorem filter_range_unique (p : Nat → Bool) (n k₀ : Nat) (h0 : k₀ < n)
    (hp : ∀ k, k < n → (p k = true ↔ k = k₀)) : (List.range n).filter p = [k₀] := by
  have hpe : (List.range n).filter p = (List.range n).filter (· == k₀) :=
    List.filter_congr fun k hk => by rw [Bool.eq_iff_iff, hp k (List.mem_range.mp hk), beq_iff_eq]
  rw [hpe, List.filter_beq, List.count_range, if_pos h0]
  rfl

/-- If no index below `n` satisfies `p`, nothing is left. -/
theorem filter_range_none (p : Nat → Bool) (n : Nat) (hp : ∀ k, k < n → p k = false) :
    (List.range n).filter p = [] :=
  List.filter_eq_nil_iff.mpr fun k hk => by rw [hp k (List.mem_range.mp hk)]; exact Bool.false_ne_true

section
set_option linter.unusedSectionVars false
variable {X Wt α μ θ : Type} [LinearOrder α]

theorem partialFit_W_length_le (K : Kernel X Wt α μ) (cfg : SearchCfg μ θ) (th0 : θ)
    (veto : ArtState Wt → X → Nat → Bool) (s : ArtState Wt) (xs : List X) :
    (partialFit K cfg th0 veto s xs).W.length ≤ s.W.length + xs.length := by
  induction xs generalizing s with
  | nil => exact Nat.le_refl _
  | cons x xs ih =>
    have hstep : (trainStep K cfg th0 veto s x).W.length ≤ s.W.length + 1 := by
      obtain ⟨_, _, ⟨_, _, _, hW, _⟩ | ⟨_, hW, _⟩⟩ := stepFit_frame K cfg th0 (veto s x) s x
      · rw [trainStep, hW, List.length_set]
        exact Nat.le_succ _
      · rw [trainStep, hW, List.length_append]
        exact Nat.le_refl _
    calc (partialFit K cfg th0 veto s (x :: xs)).W.length
        ≤ (trainStep K cfg th0 veto s x).W.length + xs.length := ih _
      _ ≤ s.W.length + (xs.length + 1) := by omega

/-- **Label range.**  After `fit`, every label is below the number of categories, there is one label per
sample, and at most one category per sample. -/
theorem fit_labels_lt (K : Kernel X Wt α μ) (cfg : SearchCfg μ θ) (th0 : θ)
    (veto : ArtState Wt → X → Nat → Bool) (s0 : ArtState Wt) (xs : List X) :
    (∀ l ∈ (fit K cfg th0 veto s0 xs).labels, l < (fit K cfg th0 veto s0 xs).W.length) ∧
    (fit K cfg th0 veto s0 xs).labels.length = xs.length ∧
    (fit K cfg th0 veto s0 xs).W.length ≤ xs.length :=
  ⟨(fit_consistent K cfg th0 veto s0 xs).labels_lt,
    (partialFit_labels_length K cfg th0 veto {} xs).trans (Nat.zero_add _),
    Nat.le_trans (partialFit_W_length_le K cfg th0 veto {} xs) (Nat.le_of_eq (Nat.zero_add _))⟩

end

end Art.Bartmap
