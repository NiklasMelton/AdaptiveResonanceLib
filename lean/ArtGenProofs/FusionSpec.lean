/-
ArtGenProofs.FusionSpec — FusionART's channel plumbing, as translated from the Python source by
`harness/artv/ftrans.py` (ArtGen/Fusion.lean), computes the definitions of `ArtModel/Fusion.lean` that the
C10 / C11 property theorems are stated about — for every number of channels, every layout of widths, every sample,
weight, cache and set of skipped channels.  The nested estimators are abstract objects (`ModOps`); what is assumed
of them is stated as hypotheses of each theorem (their kernel methods are the channel's `Kernel`), and the section
`Example` instantiates everything with two FuzzyART channels over ℚ and runs the generated code.

  fusion_positions              get_channel_position_tuples = the start/end table of the widths
  fusion_category_choice        category_choice(…, skip_channels) = Fusion.choiceSkip  (gamma-weighted sum, 1·gamma for a skipped channel)
  fusion_match_criterion_bin    match_criterion_bin = conjunction of the modules' own tests over the channels not skipped
  fusion_match_bin_model        … = Fusion.matchBinSkip when each test is the scalar vigilance test
  fusion_update / _new_weight   = Fusion.rawUpdate / rawNew (+ the new `_weight_indices` table)
  fusion_add_weight / _set_weight (_model)   module k receives slice k  (= Fusion.modsAdd / modsSet)
  fusion_match_tracking         a channel whose own test passed lets its module track; all(keep_searching)
  fusion_W_get (_model)         the W property = Fusion.fusedW
  fusion_*_none                 a missing cache raises
-/
import ArtGen.Fusion
import ArtProofs.Fusion

set_option linter.unusedSectionVars false

namespace Art.GenSpec
open Art Art.Fusion Art.Imp Art.Gen.FusionART

section Basics
variable {β γ : Type}

theorem some_bind {β γ : Type} (a : β) (f : β → Option γ) : (some a >>= f) = f a := rfl

/-- the translator repeats the continuation of `let v ← if c then a else b` in both branches -/
theorem ite_bind {β γ : Type} (c : Prop) [Decidable c] (a b : Option β) (K : β → Option γ) :
    (if c then a >>= K else b >>= K) = (if c then a else b) >>= K := by
  split <;> rfl

theorem mapM_some_of_forall {l : List γ} {f : γ → Option β} {g : γ → β}
    (h : ∀ a ∈ l, f a = some (g a)) : l.mapM f = some (l.map g) :=
  (mapM_eq_some_iff_map f l _).mpr (by rw [List.map_map]; exact List.map_congr_left h)

/-- `get_channel_position_tuples(ws)[k] = (start_k, start_k + ws[k])` -/
def positions (ws : List Nat) : List (Nat × Nat) :=
  (List.range ws.length).map (fun k => (offset ws k, offset ws k + ws.getD k 0))

theorem foldl_positions (ws : List Nat) (acc : List (Nat × Nat)) (start : Nat) :
    ws.foldl (fun (p : List (Nat × Nat) × Nat) len => (p.1 ++ [(p.2, p.2 + len)], p.2 + len)) (acc, start)
      = (acc ++ (List.range ws.length).map (fun k => (start + offset ws k, start + offset ws k + ws.getD k 0)),
          start + ws.sum) := by
  induction ws generalizing acc start with
  | nil => exact congrArg (·, start) (List.append_nil acc).symm
  | cons w ws ih =>
    rw [List.foldl_cons, ih, List.length_cons, List.range_succ_eq_map, List.map_cons, List.map_map, List.sum_cons,
      Nat.add_assoc, List.append_assoc]
    refine congrArg (fun l => (acc ++ (_ :: l), _)) (List.map_congr_left fun k _ => ?_)
    simp only [Function.comp_apply, offset_cons_succ, Nat.add_assoc, Nat.succ_eq_add_one, List.getD_cons_succ]

theorem foldlM_Id {σ : Type} (f : σ → γ → σ) (b : σ) (l : List γ) :
    List.foldlM (m := Id) f b l = l.foldl f b := by
  induction l generalizing b with
  | nil => rfl
  | cons a l ih => simp only [List.foldlM_cons, List.foldl_cons]; exact ih _

theorem fusion_positions (dims : List Nat) : get_channel_position_tuples dims = positions dims := by
  unfold get_channel_position_tuples
  simp only [Id.run, bind, pure]
  rw [foldlM_Id, foldl_positions]
  simp only [positions, List.nil_append, Nat.zero_add]

theorem positions_getElem? (ws : List Nat) (k : Nat) (hk : k < ws.length) :
    (positions ws)[k]? = some (offset ws k, offset ws k + ws.getD k 0) := by
  rw [positions, List.getElem?_map, List.getElem?_range hk]
  rfl

theorem pySlice_positions (ws : List Nat) (k : Nat) (hk : k < ws.length) (v : List β) :
    pySlice v (offset ws k) (offset ws k + ws.getD k 0) = slice ws k v := by
  rw [slice_eq_drop_take ws k v hk, pySlice, List.drop_take, Nat.add_sub_cancel_left]

/-- where slice `k` starts and ends is of no interest to the users -/
theorem positions_slice (ws : List Nat) {k : Nat} (hk : k < ws.length) :
    ∃ p, (positions ws)[k]? = some p ∧ ∀ v : List β, pySlice v p.1 p.2 = slice ws k v :=
  ⟨_, positions_getElem? ws k hk, pySlice_positions ws k hk⟩

theorem zipIdx_map_of_fst {δ : Type} (F : γ → δ) (l : List γ) : l.zipIdx.map (fun mk => F mk.1) = l.map F :=
  zipIdx_map_eq_map l _ F fun _ _ _ => rfl

theorem zipIdx_map_congr {δ ε : Type} {l₁ : List γ} {l₂ : List δ} {F : γ × Nat → ε} {G : δ × Nat → ε}
    (hl : l₁.length = l₂.length) (h : ∀ k a b, l₁[k]? = some a → l₂[k]? = some b → F (a, k) = G (b, k)) :
    l₁.zipIdx.map F = l₂.zipIdx.map G := by
  apply List.ext_getElem?
  intro k
  rw [zipIdx_map_getElem?, zipIdx_map_getElem?]
  cases ha : l₁[k]? with
  | none => rw [List.getElem?_eq_none (hl ▸ List.getElem?_eq_none_iff.1 ha)]; rfl
  | some a =>
    have hk : k < l₂.length := hl ▸ (List.getElem?_eq_some_iff.1 ha).1
    rw [List.getElem?_eq_getElem hk]
    exact congrArg some (h k a _ ha (List.getElem?_eq_getElem hk))

theorem all_zipIdx_congr {δ : Type} {l₁ : List γ} {l₂ : List δ} {p : γ × Nat → Bool} {q : δ × Nat → Bool}
    (hl : l₁.length = l₂.length) (h : ∀ k a b, l₁[k]? = some a → l₂[k]? = some b → p (a, k) = q (b, k)) :
    l₁.zipIdx.all p = l₂.zipIdx.all q :=
  calc l₁.zipIdx.all p = (l₁.zipIdx.map p).all id := (List.all_map (f := p) (p := id)).symm
    _ = (l₂.zipIdx.map q).all id := by rw [zipIdx_map_congr hl h]
    _ = l₂.zipIdx.all q := List.all_map (f := q) (p := id)

theorem optSum_eq_osum {α : Type} [Add α] [Zero α] [Mul α] [One α] (l : List (Option α)) : optSum l = osum l := by
  unfold optSum osum
  congr 1

/-- `[f(k) for k in range(n)]` where `f k` is a function `g` of `l[k]` and `k` -/
theorem mapM_range_zipIdx {l : List γ} {n : Nat} (hn : n = l.length) {f : Nat → Option β} {g : γ × Nat → β}
    (h : ∀ k c, k < n → l[k]? = some c → f k = some (g (c, k))) :
    (List.range n).mapM f = some (l.zipIdx.map g) := by
  subst hn
  apply (mapM_eq_some_iff_map _ _ _).mpr
  apply List.ext_getElem?
  intro k
  rw [List.getElem?_map, List.getElem?_map, zipIdx_map_getElem?]
  cases hc : l[k]? with
  | none =>
    rw [List.getElem?_eq_none (by rw [List.length_range]; exact List.getElem?_eq_none_iff.1 hc)]
    rfl
  | some c =>
    have hk := (List.getElem?_eq_some_iff.1 hc).1
    rw [List.getElem?_range hk]
    exact congrArg some (h k c hk hc)

end Basics

section Kernels
variable {M P C Op α : Type} [Add α] [Mul α] [Zero α] [One α]

/-- what ties the abstract nested estimators to the channels of the model: there are as many, the two index tables
are the ones the constructor / `new_weight` build, the gammas are the channels' -/
structure Layout (chans : List (Chan α)) (modules : List M) (n : Nat) (chIdx wIdx : List (Nat × Nat))
    (gamma_values : List α) : Prop where
  n_eq : n = modules.length
  len : modules.length = chans.length
  ch : chIdx = positions (widths chans)
  w : wIdx = positions (wlens chans)
  gam : gamma_values = chans.map (·.gamma)

omit [Add α] [Mul α] [Zero α] [One α] in
theorem Layout.n_chans {chans : List (Chan α)} {modules : List M} {n : Nat} {chIdx wIdx : List (Nat × Nat)}
    {gamma_values : List α} (L : Layout chans modules n chIdx wIdx gamma_values) : n = chans.length :=
  L.n_eq.trans L.len

omit [Add α] [Mul α] [Zero α] [One α] in
theorem Layout.reads {chans : List (Chan α)} {modules : List M} {n : Nat} {chIdx wIdx : List (Nat × Nat)}
    {gamma_values : List α} (L : Layout chans modules n chIdx wIdx gamma_values) {k : Nat} (hk : k < n) :
    ∃ m c p q, modules[k]? = some m ∧ chans[k]? = some c ∧ chIdx[k]? = some p ∧ wIdx[k]? = some q ∧
      gamma_values[k]? = some c.gamma ∧ (∀ v : List α, pySlice v p.1 p.2 = slice (widths chans) k v) ∧
      ∀ v : List α, pySlice v q.1 q.2 = slice (wlens chans) k v := by
  have hkc : k < chans.length := L.n_chans ▸ hk
  obtain ⟨p, hp, hps⟩ := positions_slice (β := α) (widths chans) (k := k) (by rwa [widths_length])
  obtain ⟨q, hq, hqs⟩ := positions_slice (β := α) (wlens chans) (k := k) (by rwa [wlens_length])
  refine ⟨modules[k]'(L.n_eq ▸ hk), chans[k], p, q, List.getElem?_eq_getElem _, List.getElem?_eq_getElem hkc,
    L.ch ▸ hp, L.w ▸ hq, ?_, hps, hqs⟩
  rw [L.gam, List.getElem?_map, List.getElem?_eq_getElem hkc]
  rfl

theorem fusion_category_choice (ops : ModOps M α P C Op) (chans : List (Chan α)) (modules : List M) (n : Nat)
    (chIdx wIdx : List (Nat × Nat)) (gamma_values : List α) (dictEmpty : C)
    (L : Layout chans modules n chIdx wIdx gamma_values) (W : List (List α))
    (hW : ∀ (k : Nat) m, modules[k]? = some m → ops.W m = W.map (slice (wlens chans) k))
    (hK : ∀ (k : Nat) m (c : Chan α), modules[k]? = some m → chans[k]? = some c → ∀ xi wi,
      (ops.category_choice m xi wi (ops.params m)).1 = c.K.choice (ops.W m) xi wi)
    (x w : List α) (skip : List Nat) :
    (category_choice ops modules n chIdx wIdx gamma_values dictEmpty x w skip).map (·.1)
      = some (choiceSkip chans (fun k => skip.contains k) W x w) := by
  unfold category_choice
  dsimp only [Option.bind_eq_bind]
  rw [mapM_range_zipIdx L.n_eq (g := fun mk : M × Nat => if skip.contains mk.2 then (some (1 : α), dictEmpty) else
    ops.category_choice mk.1 (slice (widths chans) mk.2 x) (slice (wlens chans) mk.2 w) (ops.params mk.1))]
  swap
  · intro k m hk hm
    obtain ⟨m', -, p, q, hm', -, hp, hq, -, hsx, hsw⟩ := L.reads hk
    cases hm.symm.trans hm'
    cases hs : skip.contains k <;>
      simp only [Bool.not_false, Bool.not_true, Bool.false_eq_true, ↓reduceIte, hm, hp, hq, hsx, hsw,
        Option.bind_some, Option.pure_def]
  -- the activations times the gammas are the model's channel terms
  rw [Option.bind_some, (mapM_eq_some_iff_map _ _ (chanTerms chans (fun k => skip.contains k) W x w)).mpr]
  · simp only [Option.bind_some, Option.pure_def, Option.map_some, optSum_eq_osum, choiceSkip]
  · rw [chanTerms]
    apply List.ext_getElem?
    intro k
    rw [zipIdx_map_getElem?, List.getElem?_map, zipIdx_map_getElem?, List.getElem?_map, zipIdx_map_getElem?]
    cases hc : chans[k]? with
    | none => rw [List.getElem?_eq_none (L.len ▸ List.getElem?_eq_none_iff.1 hc)]; rfl
    | some c =>
      obtain ⟨m, c', -, -, hm, hc', -, -, hg, -, -⟩ := L.reads (L.n_chans ▸ (List.getElem?_eq_some_iff.1 hc).1)
      cases hc.symm.trans hc'
      simp only [hm, Option.map_some, hg, Option.bind_some, Option.pure_def, chanTerm, optMul]
      cases skip.contains k
      · simp only [Bool.false_eq_true, ↓reduceIte, hK k m c hm hc, hW k m hm]
      · rfl

theorem fusion_match_criterion_bin_none (ops : ModOps M α P C Op) (modules : List M) (n : Nat)
    (chIdx wIdx : List (Nat × Nat)) (dictSkip : C) (x w : List α) (op : Op) (skip : List Nat) :
    match_criterion_bin ops modules n chIdx wIdx dictSkip x w none op skip = none := rfl

/-- `all(M_bin)`: the conjunction, over the channels that are not skipped, of the modules' own tests on their own slices -/
theorem fusion_match_criterion_bin (ops : ModOps M α P C Op) (chans : List (Chan α)) (modules : List M) (n : Nat)
    (chIdx wIdx : List (Nat × Nat)) (gamma_values : List α) (dictSkip : C)
    (L : Layout chans modules n chIdx wIdx gamma_values)
    (x w : List α) (cache : List C) (hcache : cache.length = n) (op : Op) (skip : List Nat) :
    (match_criterion_bin ops modules n chIdx wIdx dictSkip x w (some cache) op skip).map (·.1)
      = some (modules.zipIdx.all (fun mk => skip.contains mk.2 ||
          (cache[mk.2]?).any (fun c => (ops.match_criterion_bin mk.1 (slice (widths chans) mk.2 x)
            (slice (wlens chans) mk.2 w) (ops.params mk.1) c op).1))) := by
  unfold match_criterion_bin
  dsimp only [Option.bind_eq_bind, Option.bind_some]
  rw [mapM_range_zipIdx L.n_eq (g := fun mk : M × Nat => if skip.contains mk.2 then (true, dictSkip) else
    ops.match_criterion_bin mk.1 (slice (widths chans) mk.2 x) (slice (wlens chans) mk.2 w) (ops.params mk.1)
      (cache.getD mk.2 dictSkip) op)]
  · simp only [Option.bind_some, Option.pure_def, Option.map_some, List.map_map, List.all_map]
    congr 1
    apply all_zipIdx_congr rfl
    intro k m m' hm hm'
    cases hm.symm.trans hm'
    have hk : k < cache.length := hcache ▸ L.n_eq ▸ (List.getElem?_eq_some_iff.1 hm).1
    simp only [Function.comp_apply, id_eq, List.getElem?_eq_getElem hk, List.getD_eq_getElem?_getD,
      Option.getD_some, Option.any_some]
    cases skip.contains k <;> rfl
  · intro k m hk hm
    obtain ⟨m', -, p, q, hm', -, hp, hq, -, hsx, hsw⟩ := L.reads hk
    cases hm.symm.trans hm'
    have hcc : cache[k]? = some (cache.getD k dictSkip) := by
      rw [List.getD_eq_getElem?_getD, List.getElem?_eq_getElem (hcache ▸ hk)]; rfl
    cases hs : skip.contains k <;>
      simp only [Bool.not_false, Bool.not_true, Bool.false_eq_true, ↓reduceIte, hm, hp, hq, hsx, hsw, hcc,
        Option.bind_some, Option.pure_def]

/-- `FusionART.update` = the concatenation of the modules' updates of their own slices -/
theorem fusion_update (ops : ModOps M α P C Op) (chans : List (Chan α)) (modules : List M) (n : Nat)
    (chIdx wIdx : List (Nat × Nat)) (gamma_values : List α)
    (L : Layout chans modules n chIdx wIdx gamma_values)
    (hK : ∀ (k : Nat) m (c : Chan α), modules[k]? = some m → chans[k]? = some c → ∀ xi wi cc,
      ops.update m xi wi (ops.params m) cc = c.K.update xi wi)
    (x w : List α) (cache : List C) (hcache : cache.length = n) :
    update ops modules n chIdx wIdx x w (some cache) = some (rawUpdate chans x w) := by
  unfold update
  dsimp only [Option.bind_eq_bind, Option.bind_some]
  rw [mapM_range_zipIdx L.n_chans (g := fun ck : Chan α × Nat =>
    ck.1.K.update (slice (widths chans) ck.2 x) (slice (wlens chans) ck.2 w))]
  · rfl
  · intro k c hk hc
    obtain ⟨m, c', p, q, hm, hc', hp, hq, -, hsx, hsw⟩ := L.reads hk
    cases hc.symm.trans hc'
    simp only [hm, hp, hq, hsx, hsw, List.getElem?_eq_getElem (hcache ▸ hk), Option.bind_some, Option.pure_def,
      hK k m c hm hc]

theorem fusion_update_none (ops : ModOps M α P C Op) (modules : List M) (n : Nat)
    (chIdx wIdx : List (Nat × Nat)) (x w : List α) :
    update ops modules n chIdx wIdx x w none = none := rfl

/-- `FusionART.new_weight` = the concatenation of the modules' new weights; `_weight_indices` becomes the position
table of their lengths -/
theorem fusion_new_weight (ops : ModOps M α P C Op) (chans : List (Chan α)) (modules : List M) (n : Nat)
    (chIdx wIdx : List (Nat × Nat)) (gamma_values : List α)
    (L : Layout chans modules n chIdx wIdx gamma_values)
    (hK : ∀ (k : Nat) m (c : Chan α), modules[k]? = some m → chans[k]? = some c → ∀ xi,
      ops.new_weight m xi (ops.params m) = c.K.newW xi)
    (x : List α) :
    new_weight ops modules n chIdx wIdx x
      = some (positions ((newPieces chans x).map List.length), rawNew chans x) := by
  unfold new_weight
  dsimp only [Option.bind_eq_bind, Option.pure_def]
  rw [mapM_range_zipIdx L.n_chans (g := fun ck : Chan α × Nat => ck.1.K.newW (slice (widths chans) ck.2 x))]
  · rw [Option.bind_some, mapM_some_of_forall (g := List.length) (fun _ _ => rfl), Option.bind_some, fusion_positions]
    rfl
  · intro k c hk hc
    obtain ⟨m, c', p, -, hm, hc', hp, -, -, hsx, -⟩ := L.reads hk
    cases hc.symm.trans hc'
    simp only [hm, hp, hsx, Option.bind_some, hK k m c hm hc]

/-! ### loops that write through `self.modules[k]` -/

theorem foldlM_range_stages {σ : Type} (body : σ → Nat → Option σ) (I : Nat → σ) (j : Nat)
    (h : ∀ k, k < j → body (I k) k = some (I (k + 1))) : (List.range j).foldlM body (I 0) = some (I j) := by
  induction j with
  | zero => rfl
  | succ j ih =>
    rw [List.range_succ, List.foldlM_append, ih (fun k hk => h k (Nat.lt_succ_of_lt hk))]
    show (body (I j) j).bind _ = _
    rw [h j (Nat.lt_succ_self j)]
    rfl

/-- the modules when a loop that replaces `modules[k]` by `f k modules[k]` has been through `j` of them -/
def stage (f : Nat → M → M) (l : List M) (j : Nat) : List M :=
  l.zipIdx.map (fun mk => if mk.2 < j then f mk.2 mk.1 else mk.1)

theorem stage_zero (f : Nat → M → M) (l : List M) : stage f l 0 = l :=
  List.zipIdx_map_fst 0 l

theorem stage_size (f : Nat → M → M) (l : List M) (j : Nat) : (stage f l j).length = l.length :=
  zipIdx_map_length l _

theorem stage_getElem? (f : Nat → M → M) (l : List M) (j : Nat) : (stage f l j)[j]? = l[j]? := by
  rw [stage, zipIdx_map_getElem?]
  cases l[j]? with
  | none => rfl
  | some m => exact congrArg some (if_neg (Nat.lt_irrefl j))

theorem stage_succ (f : Nat → M → M) (l : List M) (j : Nat) (m : M) (hm : l[j]? = some m) :
    (stage f l j).set j (f j m) = stage f l (j + 1) := by
  apply List.ext_getElem?
  intro k
  by_cases hkj : j = k
  · subst hkj
    rw [List.getElem?_set_self (by rw [stage_size]; exact (List.getElem?_eq_some_iff.1 hm).1), stage,
      zipIdx_map_getElem?, hm]
    exact congrArg some (if_pos (Nat.lt_succ_self j)).symm
  · rw [List.getElem?_set_ne hkj, stage, stage, zipIdx_map_getElem?, zipIdx_map_getElem?]
    have : (k < j + 1) = (k < j) := propext ⟨fun h => by omega, fun h => by omega⟩
    simp only [this]

theorem stage_length (f : Nat → M → M) (l : List M) : stage f l l.length = l.zipIdx.map (fun mk => f mk.2 mk.1) :=
  List.map_congr_left fun _ hmk => if_pos (by simpa using List.snd_lt_of_mem_zipIdx hmk)

/-- a `for k in range(j)` whose body replaces `modules[k]` by a function of `k` and the old `modules[k]` -/
theorem foldlM_range_set (body : List M → Nat → Option (List M)) (f : Nat → M → M) (modules : List M)
    (hbody : ∀ (ms : List M) (k : Nat) (m : M), ms.length = modules.length → ms[k]? = some m →
      body ms k = some (ms.set k (f k m))) (j : Nat) (hj : j ≤ modules.length) :
    (List.range j).foldlM body modules = some (stage f modules j) := by
  have h := foldlM_range_stages body (stage f modules) j fun k hk => by
    have hk : k < modules.length := Nat.lt_of_lt_of_le hk hj
    have hm : modules[k]? = some modules[k] := List.getElem?_eq_getElem hk
    rw [hbody _ k _ (stage_size f modules k) ((stage_getElem? f modules k).trans hm), stage_succ f modules k _ hm]
  rwa [stage_zero] at h

theorem foldlM_range_set_all (body : List M → Nat → Option (List M)) (f : Nat → M → M) (modules : List M)
    (hbody : ∀ (ms : List M) (k : Nat) (m : M), ms.length = modules.length → ms[k]? = some m →
      body ms k = some (ms.set k (f k m))) :
    (List.range modules.length).foldlM body modules = some (modules.zipIdx.map (fun mk => f mk.2 mk.1)) := by
  rw [foldlM_range_set body f modules hbody _ (Nat.le_refl _), stage_length]

/-- `for k in range(n): modules[k] = put(modules[k], new_w[_weight_indices[k]])`: module `k` receives the `k`-th
`_weight_indices` slice of the fused weight -/
theorem foldlM_put_slices (chans : List (Chan α)) (modules : List M) (n : Nat)
    (chIdx wIdx : List (Nat × Nat)) (gamma_values : List α)
    (L : Layout chans modules n chIdx wIdx gamma_values) (put : M → List α → M) (new_w : List α) :
    (List.range n).foldlM (fun ms k =>
        (wIdx[k]?).bind fun q => (wIdx[k]?).bind fun q' => (ms[k]?).bind fun m =>
          some (ms.set k (put m (pySlice new_w q.1 q'.2)))) modules
      = some (modules.zipIdx.map (fun mk => put mk.1 (slice (wlens chans) mk.2 new_w))) := by
  rw [L.n_eq]
  apply foldlM_range_set_all _ (fun k m => put m (slice (wlens chans) k new_w))
  intro ms k m hms hm
  obtain ⟨-, -, -, q, -, -, -, hq, -, -, hsw⟩ := L.reads (k := k)
    (by rw [L.n_eq, ← hms]; exact (List.getElem?_eq_some_iff.1 hm).1)
  simp only [hq, hm, Option.bind_some, hsw]

/-- `FusionART.add_weight`: module `k` receives the `k`-th `_weight_indices` slice of the fused weight -/
theorem fusion_add_weight (ops : ModOps M α P C Op) (chans : List (Chan α)) (modules : List M) (n : Nat)
    (chIdx wIdx : List (Nat × Nat)) (gamma_values : List α)
    (L : Layout chans modules n chIdx wIdx gamma_values) (new_w : List α) :
    add_weight ops modules n wIdx new_w
      = some (modules.zipIdx.map (fun mk => ops.add_weight mk.1 (slice (wlens chans) mk.2 new_w))) :=
  foldlM_put_slices chans modules n chIdx wIdx gamma_values L ops.add_weight new_w

/-- `FusionART.set_weight` -/
theorem fusion_set_weight (ops : ModOps M α P C Op) (chans : List (Chan α)) (modules : List M) (n : Nat)
    (chIdx wIdx : List (Nat × Nat)) (gamma_values : List α)
    (L : Layout chans modules n chIdx wIdx gamma_values) (idx : Nat) (new_w : List α) :
    set_weight ops modules n wIdx idx new_w
      = some (modules.zipIdx.map (fun mk => ops.set_weight mk.1 idx (slice (wlens chans) mk.2 new_w))) :=
  foldlM_put_slices chans modules n chIdx wIdx gamma_values L (fun m v => ops.set_weight m idx v) new_w

/-- the same with a list that collects one answer per module -/
theorem foldlM_range_set2 {B : Type} (body : List B × List M → Nat → Option (List B × List M))
    (g : Nat → M → B) (f : Nat → M → M) (modules : List M)
    (hbody : ∀ (acc : List B) (ms : List M) (k : Nat) (m : M), ms.length = modules.length → ms[k]? = some m →
      body (acc, ms) k = some (acc ++ [g k m], ms.set k (f k m))) :
    (List.range modules.length).foldlM body ([], modules)
      = some (modules.zipIdx.map (fun mk => g mk.2 mk.1), modules.zipIdx.map (fun mk => f mk.2 mk.1)) := by
  have h := foldlM_range_stages body
    (fun j => ((modules.zipIdx.take j).map (fun mk => g mk.2 mk.1), stage f modules j)) modules.length (fun k hk => by
      have hm : modules[k]? = some modules[k] := List.getElem?_eq_getElem hk
      have hz : modules.zipIdx[k]? = some (modules[k], k) := by
        rw [List.getElem?_zipIdx, hm, Nat.zero_add]; rfl
      rw [hbody _ _ k _ (stage_size f modules k) ((stage_getElem? f modules k).trans hm),
        stage_succ f modules k _ hm, List.take_add_one, hz, List.map_append]
      rfl)
  rwa [List.take_zero, stage_zero, stage_length, List.take_of_length_le (by rw [List.length_zipIdx])] at h

/-- what `FusionART._match_tracking` does with channel `k`: a channel whose own vigilance test passed lets its module
track; the others keep searching unconditionally -/
def trackChan (ops : ModOps M α P C Op) (cache : List C) (epsilon : α) (method : Art.MT) (mk : M × Nat) : Bool × M :=
  match cache[mk.2]? with
  | some c => if ops.cache_match_criterion_bin c then ops.match_tracking mk.1 c epsilon (ops.params mk.1) method
              else (true, mk.1)
  | none => (true, mk.1)

theorem fusion_match_tracking (ops : ModOps M α P C Op) (modules : List M) (cache : List C)
    (hc : cache.length = modules.length) (epsilon : α) (method : Art.MT) :
    match_tracking ops modules cache epsilon method
      = some (modules.zipIdx.map (fun mk => (trackChan ops cache epsilon method mk).2),
              (modules.zipIdx.map (fun mk => (trackChan ops cache epsilon method mk).1)).all id) := by
  unfold match_tracking
  dsimp only [Option.bind_eq_bind]
  rw [hc, foldlM_range_set2 _ (fun k m => (trackChan ops cache epsilon method (m, k)).1)
    (fun k m => (trackChan ops cache epsilon method (m, k)).2)]
  · rfl
  · intro acc ms k m hms hm
    have hk : k < cache.length := by rw [hc, ← hms]; exact (List.getElem?_eq_some_iff.1 hm).1
    have hcc : cache[k]? = some cache[k] := List.getElem?_eq_getElem hk
    cases hb : ops.cache_match_criterion_bin cache[k]
    · have hset : ms.set k m = ms := by
        obtain ⟨hk, rfl⟩ := List.getElem?_eq_some_iff.1 hm
        exact List.set_getElem_self hk
      simp only [hm, hcc, hb, trackChan, Option.bind_some, Bool.false_eq_true, ↓reduceIte, Option.pure_def, hset]
    · simp only [hm, hcc, hb, trackChan, Option.bind_some, ↓reduceIte, Option.pure_def]

/-- `[concatenate([A(modules[k])[i] for k in range(n)]) for i in range(c)]`, every `A(modules[k])` having at least
`c` entries -/
theorem mapM_columns (A : M → List (List α)) (modules : List M) (c : Nat)
    (hA : ∀ m ∈ modules, c ≤ (A m).length) :
    (List.range c).mapM (fun i =>
        ((List.range modules.length).mapM (fun k => (modules[k]?).bind fun m => (A m)[i]?)).bind
          fun r => some r.flatten)
      = some ((List.range c).map fun i => (modules.map fun m => (A m).getD i []).flatten) := by
  apply mapM_some_of_forall
  intro i hi
  rw [mapM_range_zipIdx rfl (g := fun mk : M × Nat => (A mk.1).getD i []), Option.bind_some,
    zipIdx_map_of_fst (fun m => (A m).getD i [])]
  intro k m _ hm
  have hi' : i < (A m).length := Nat.lt_of_lt_of_le (List.mem_range.1 hi) (hA m (List.mem_of_getElem? hm))
  rw [hm, Option.bind_some, List.getElem?_eq_getElem hi', List.getD_eq_getElem?_getD, List.getElem?_eq_getElem hi']
  rfl

/-- the `W` property: category `i` of the fused weight list is the concatenation of the modules' `i`-th weights -/
theorem fusion_W_get (ops : ModOps M α P C Op) (modules : List M) (n : Nat) (hn : n = modules.length) (m0 : M)
    (h0 : modules[0]? = some m0) (hW : ∀ m ∈ modules, ops.n_clusters m0 ≤ (ops.W m).length) :
    W_get ops modules n
      = some ((List.range (ops.n_clusters m0)).map (fun i => (modules.map (fun m => (ops.W m).getD i [])).flatten)) := by
  subst hn
  unfold W_get
  dsimp only [Option.bind_eq_bind, Option.pure_def]
  rw [h0, Option.bind_some, mapM_columns ops.W modules _ hW]
  rfl

/-! ### the same statements in the vocabulary of `ArtModel/Fusion.lean` -/

theorem put_slices_model {S : Type} (chans : List (Chan α)) (modules : List M) (hlen : modules.length = chans.length)
    (st : M → S) (put : M → List α → M) (put' : S → List α → S) (hst : ∀ m v, st (put m v) = put' (st m) v)
    (new_w : List α) :
    (modules.zipIdx.map (fun mk => put mk.1 (slice (wlens chans) mk.2 new_w))).map st
      = List.zipWith put' (modules.map st) (splitBy (wlens chans) new_w) := by
  rw [zipWith_splitBy _ _ _ _ (by rw [List.length_map, wlens_length, hlen]), List.zipIdx_map, List.map_map,
    List.map_map]
  exact List.map_congr_left fun mk _ => hst mk.1 _

/-- `add_weight` on the module states = the model's `modsAdd` -/
theorem fusion_add_weight_model (ops : ModOps M α P C Op) (chans : List (Chan α)) (modules : List M) (n : Nat)
    (chIdx wIdx : List (Nat × Nat)) (gamma_values : List α)
    (L : Layout chans modules n chIdx wIdx gamma_values) (st : M → ModState α)
    (hst : ∀ m v, st (ops.add_weight m v) = ⟨(st m).W ++ [v], (st m).cnt ++ [1]⟩) (new_w : List α) :
    (add_weight ops modules n wIdx new_w).map (·.map st)
      = some (modsAdd (wlens chans) (modules.map st) new_w) := by
  rw [fusion_add_weight ops chans modules n chIdx wIdx gamma_values L, Option.map_some,
    put_slices_model chans modules L.len st ops.add_weight (fun s v => ⟨s.W ++ [v], s.cnt ++ [1]⟩) hst]
  rfl

/-- `set_weight` on the module states = the model's `modsSet` -/
theorem fusion_set_weight_model (ops : ModOps M α P C Op) (chans : List (Chan α)) (modules : List M) (n : Nat)
    (chIdx wIdx : List (Nat × Nat)) (gamma_values : List α)
    (L : Layout chans modules n chIdx wIdx gamma_values) (st : M → ModState α)
    (hst : ∀ m c v, st (ops.set_weight m c v) = ⟨(st m).W.set c v, (st m).cnt.set c ((st m).cnt.getD c 0 + 1)⟩)
    (idx : Nat) (new_w : List α) :
    (set_weight ops modules n wIdx idx new_w).map (·.map st)
      = some (modsSet (wlens chans) (modules.map st) idx new_w) := by
  rw [fusion_set_weight ops chans modules n chIdx wIdx gamma_values L, Option.map_some,
    put_slices_model chans modules L.len st (fun m v => ops.set_weight m idx v)
      (fun s v => ⟨s.W.set idx v, s.cnt.set idx (s.cnt.getD idx 0 + 1)⟩) (fun m v => hst m idx v)]
  rfl

/-- the `W` property = the model's `fusedW` of the module states -/
theorem fusion_W_get_model (ops : ModOps M α P C Op) (modules : List M) (n : Nat) (hn : n = modules.length)
    (st : M → ModState α) (hstW : ∀ m, ops.W m = (st m).W) (hnc : ∀ m, ops.n_clusters m = (st m).W.length)
    (m0 : M) (h0 : modules[0]? = some m0) (hW : ∀ m ∈ modules, (st m0).W.length ≤ (st m).W.length) :
    W_get ops modules n = some (fusedW (modules.map st)) := by
  rw [fusion_W_get ops modules n hn m0 h0 (by intro m hm; rw [hnc, hstW]; exact hW m hm)]
  have hh : (modules.map st).head? = some (st m0) := by
    rw [List.head?_map, List.head?_eq_getElem?, h0]; rfl
  simp only [fusedW, hh, Option.map_some, Option.getD_some, hnc, hstW, List.map_map, Function.comp_def]

end Kernels

section Vigilance
variable {M P C Op α : Type} [Add α] [Mul α] [Zero α] [One α] [LT α] [LE α]
  [DecidableRel (α := α) (· < ·)] [DecidableRel (α := α) (· ≤ ·)]

/-- when every module's own test is the scalar vigilance test of its match value, `match_criterion_bin` is the
model's `matchBinSkip` -/
theorem fusion_match_bin_model (ops : ModOps M α P C Op) (chans : List (Chan α)) (modules : List M) (n : Nat)
    (chIdx wIdx : List (Nat × Nat)) (gamma_values : List α) (dictSkip : C)
    (L : Layout chans modules n chIdx wIdx gamma_values) (mode : MT) (rho : M → α) (op : Op)
    (hB : ∀ (k : Nat) m (c : Chan α), modules[k]? = some m → chans[k]? = some c → ∀ xi wi cc,
      (ops.match_criterion_bin m xi wi (ops.params m) cc op).1 = passesScalar mode false (rho m) (c.K.matchv xi wi))
    (x w : List α) (cache : List C) (hcache : cache.length = n) (skip : List Nat) :
    (match_criterion_bin ops modules n chIdx wIdx dictSkip x w (some cache) op skip).map (·.1)
      = some (matchBinSkip mode (fun k => skip.contains k) (modules.map rho) (matchVec chans x w)) := by
  rw [fusion_match_criterion_bin ops chans modules n chIdx wIdx gamma_values dictSkip L x w cache hcache op skip,
    matchBinSkip]
  congr 1
  apply all_zipIdx_congr
  · rw [List.length_zip, List.length_map, matchVec, zipIdx_map_length, L.len, Nat.min_self]
  · intro k m rv hm hrv
    obtain ⟨hr, hv⟩ := List.getElem?_zip_eq_some.1 hrv
    have hk : k < n := L.n_eq ▸ (List.getElem?_eq_some_iff.1 hm).1
    obtain ⟨-, c, -, -, -, hc, -, -, -, -, -⟩ := L.reads hk
    rw [List.getElem?_map, hm] at hr
    rw [matchVec, zipIdx_map_getElem?, hc] at hv
    rw [List.getElem?_eq_getElem (hcache ▸ hk), Option.any_some, hB k m c hm hc, ← Option.some.inj hr,
      ← Option.some.inj hv]

end Vigilance

/-! ### the hypotheses are satisfiable: two FuzzyART channels over ℚ -/
section Example

/-- a FuzzyART module as an object: its weight list (alpha = 1/100, beta = 1, data width 2, rho = 1/2) -/
def exOps : ModOps (List (List ℚ)) ℚ Unit Bool Unit :=
  { category_choice := fun m xi wi _ => ((fuzzyKernel (1/100 : ℚ) 1 2).choice m xi wi, true)
    match_criterion_bin := fun _ xi wi _ _ _ =>
      (decide ((1/2 : ℚ) ≤ (fuzzyKernel (1/100 : ℚ) 1 2).matchv xi wi), decide ((1/2 : ℚ) ≤ (fuzzyKernel (1/100 : ℚ) 1 2).matchv xi wi))
    update := fun _ xi wi _ _ => (fuzzyKernel (1/100 : ℚ) 1 2).update xi wi
    new_weight := fun _ xi _ => (fuzzyKernel (1/100 : ℚ) 1 2).newW xi
    match_tracking := fun m _ _ _ _ => (true, m)
    add_weight := fun m v => m ++ [v]
    set_weight := fun m c v => m.set c v
    params := fun _ => ()
    W := fun m => m
    n_clusters := fun m => m.length
    cache_match_criterion_bin := fun c => c }

def exChans : List (Chan ℚ) :=
  [⟨fuzzyKernel (1/100 : ℚ) 1 2, 4, 1/4, 4⟩, ⟨fuzzyKernel (1/100 : ℚ) 1 2, 4, 3/4, 4⟩]

def exModules : List (List (List ℚ)) := [[[1/2, 1/4, 1/2, 3/4]], [[1/4, 1/4, 3/4, 3/4]]]

example : Layout exChans exModules 2 (get_channel_position_tuples [4, 4]) (get_channel_position_tuples [4, 4])
    [1/4, 3/4] :=
  ⟨rfl, rfl, fusion_positions _, fusion_positions _, rfl⟩

/-- the generated code run on that instance: both channels contribute, channel 1 skipped contributes its gamma -/
example : (category_choice exOps exModules 2 (get_channel_position_tuples [4, 4]) (get_channel_position_tuples [4, 4])
    [1/4, 3/4] false [1/2, 1/2, 1/2, 1/2, 1/4, 1/2, 3/4, 1/2] [1/2, 1/4, 1/2, 3/4, 1/4, 1/4, 3/4, 3/4] [1]).map (·.1)
    = some (some (389/402)) := by
  decide +kernel

example : (set_weight exOps exModules 2 (get_channel_position_tuples [4, 4]) 0 [0, 0, 0, 0, 1, 1, 1, 1])
    = some [[[0, 0, 0, 0]], [[1, 1, 1, 1]]] := by
  decide +kernel

end Example

end Art.GenSpec
