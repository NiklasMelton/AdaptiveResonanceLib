/-
ArtGenProofs.FusionFitSpec — FusionART *training*, as translated from the Python source by `harness/artv/ftrans3.py`
(ArtGen/FusionFit.lean: `BaseART.step_fit` / `fit` as executed on a FusionART, FusionART's own `partial_fit`,
`_set_params`, `_deep_copy_params`, the `W` setter; every kernel call inside them is the definition ftrans generates,
ArtGen/Fusion.lean), computes the model of `ArtModel/Fusion.lean` the C10 theorems are stated about.
-/
import ArtGen.FusionFit
import ArtGenProofs.FusionSpec
import ArtGenProofs.ControlFit
import ArtProps.C10

set_option linter.unusedSectionVars false

namespace Art.GenSpec.FusionFit
open Art Art.Fusion Art.Imp Art.ImpFusion3 Art.Gen.FusionART Art.Gen.FusionARTFit Art.GenSpec

/-! ### the monadic `while` loop follows the model's `search` -/
section Loop
variable {α μ θ P R S : Type} [LinearOrder α]

/-- what one iteration of the loop body does, in the model's vocabulary.  `Inv` is an invariant of the search state,
`InvT` of the activation vector, `Res c r` says that `r` is an acceptable result of resonating with `c`. -/
structure BodySpecM (cfg : SearchCfg μ θ) (Mv : Nat → μ) (veto : Nat → Bool) (th : P → θ) (Inv : P → Prop)
    (InvT : List (Option α) → Prop) (pack : P → List (Option α) → S) (Res : Nat → R → Prop)
    (body : S → Option (Flow R S)) : Prop where
  step : ∀ (p : P) (T : List (Option α)) (c : Nat), Inv p → InvT T → nanargmax T = some c →
    let m := cfg.passes (th p) (Mv c)
    let ok := cfg.tilde || !veto c
    if m && ok then ∃ r, body (pack p T) = some (.ret r) ∧ Res c r
    else if m && !ok then
      ∃ p1, Inv p1 ∧ th p1 = cfg.track (th p) (Mv c) ∧
        body (pack p T) = some (.next (pack p1 (if cfg.keep then T.set c none else (T.set c none).map (fun _ => none))))
    else body (pack p T) = some (.next (pack p (T.set c none)))

/-- the translated `while` loop (in the `Option` monad) follows the model's `search` and never raises -/
theorem whileM_follows_search (cfg : SearchCfg μ θ) (Mv : Nat → μ) (veto : Nat → Bool) (th : P → θ) (Inv : P → Prop)
    (InvT : List (Option α) → Prop) (pack : P → List (Option α) → S) (Res : Nat → R → Prop)
    (cond : S → Bool) (body : S → Option (Flow R S))
    (hcond : ∀ p T, cond (pack p T) = T.any Option.isSome)
    (hset : ∀ T c, InvT T → InvT (T.set c none))
    (hblank : ∀ T, InvT T → InvT (T.map (fun _ => none)))
    (hbody : BodySpecM cfg Mv veto th Inv InvT pack Res body) :
    ∀ (fuel : Nat) (p : P) (T : List (Option α)), Inv p → InvT T →
      match (search cfg Mv veto fuel T (th p)).winner with
      | some c => ∃ r, whileM cond body fuel (pack p T) = some (.ret r) ∧ Res c r
      | none => ∃ p' T', Inv p' ∧ whileM cond body fuel (pack p T) = some (.next (pack p' T')) := by
  intro fuel
  induction fuel with
  | zero => exact fun p T hp _ => ⟨p, T, hp, rfl⟩
  | succ n ih =>
    intro p T hp hT
    rw [search, whileM, hcond]
    cases hn : nanargmax T with
    | none =>
      have hany : T.any Option.isSome = false :=
        Bool.eq_false_iff.2 fun h => by
          obtain ⟨c, hc⟩ := (Control.any_isSome_iff T).1 h
          rw [hn] at hc
          cases hc
      rw [hany]
      exact ⟨p, T, hp, rfl⟩
    | some c =>
      rw [(Control.any_isSome_iff T).2 ⟨c, hn⟩, if_pos rfl]
      have hs := hbody.step p T c hp hT hn
      cases hm : cfg.passes (th p) (Mv c) with
      | false =>
        simp only [hm, Bool.false_and, Bool.false_eq_true, ↓reduceIte] at hs ⊢
        rw [hs]
        exact ih p (T.set c none) hp (hset T c hT)
      | true =>
        cases hok : (cfg.tilde || !veto c) with
        | true =>
          simp only [hm, hok, Bool.and_self, ↓reduceIte] at hs ⊢
          obtain ⟨r, hr, hres⟩ := hs
          rw [hr]
          exact ⟨r, rfl, hres⟩
        | false =>
          simp only [hm, hok, Bool.and_false, Bool.false_eq_true, Bool.not_false, Bool.and_self, ↓reduceIte] at hs ⊢
          obtain ⟨p1, hp1, hth, hb⟩ := hs
          rw [hb]
          cases hk : cfg.keep with
          | true =>
            simp only [↓reduceIte, ← hth]
            exact ih p1 (T.set c none) hp1 (hset T c hT)
          | false =>
            -- the model stops here; the code blanks `T`, so the next guard fails
            refine ⟨p1, (T.set c none).map fun _ => none, hp1, ?_⟩
            cases n with
            | zero => rfl
            | succ k =>
              have hblank' : ((T.set c none).map fun _ => (none : Option α)).any Option.isSome = false :=
                List.any_eq_false.2 fun t ht => by
                  obtain ⟨_, _, rfl⟩ := List.mem_map.1 ht
                  exact Bool.false_ne_true
              simp only [Bool.false_eq_true, ↓reduceIte]
              rw [whileM, hcond, hblank']
              rfl
end Loop

/-! ### the small methods: `_deep_copy_params`, `_set_params`, the `W` setter -/
section Small
variable {M P C α : Type} [Field α] [LinearOrder α] [IsStrictOrderedRing α]

theorem foldlM_modules (body : FSelf M → Nat → Option (FSelf M)) (bodyL : List M → Nat → Option (List M))
    (h : ∀ (self : FSelf M) k, body self k = (bodyL self.modules k).map (fun ms => { self with modules := ms }))
    (l : List Nat) (self : FSelf M) :
    l.foldlM body self = (l.foldlM bodyL self.modules).map (fun ms => { self with modules := ms }) := by
  induction l generalizing self with
  | nil => rfl
  | cons k l ih =>
    rw [List.foldlM_cons, List.foldlM_cons, h]
    cases bodyL self.modules k with
    | none => rfl
    | some ms => exact ih _

theorem deep_copy_params_spec (ops : ModOps M α P C Bool) (self : FSelf M) :
    deep_copy_params ops self = some (self.modules.map ops.params) := by
  unfold deep_copy_params
  exact (mapM_some_of_forall fun _ _ => rfl).trans
    (congrArg some (zipIdx_map_eq_map _ (fun mi => ops.params mi.1) _ fun _ _ _ => rfl))

/-- the modules after `_set_params(ps)` -/
def setParamsList (fops : FitOps M α P) (mods : List M) (ps : List P) : List M :=
  mods.zipIdx.map (fun mk => match ps[mk.2]? with | some p => fops.set_params mk.1 p | none => mk.1)

theorem set_params_spec (fops : FitOps M α P) (self : FSelf M) (ps : List P) (hn : self.n = self.modules.length)
    (hl : ps.length = self.modules.length) :
    set_params fops self ps = some { self with modules := setParamsList fops self.modules ps } := by
  unfold set_params
  rw [foldlM_modules _ (fun ms i => ms[i]?.bind fun m => ps[i]?.bind fun p => some (ms.set i (fops.set_params m p)))
      (fun self k => by cases self.modules[k]? <;> cases ps[k]? <;> rfl),
    hn, foldlM_range_set_all _ (fun k m => match ps[k]? with | some p => fops.set_params m p | none => m)]
  · rfl
  · intro ms k m hms hm
    have hk : k < ps.length := by rw [hl, ← hms]; exact (List.getElem?_eq_some_iff.1 hm).1
    rw [hm, List.getElem?_eq_getElem hk]
    rfl

/-- what the `W` setter does to a module when handed the empty list -/
def resetM (fops : FitOps M α P) (m : M) : M := fops.set_n (fops.set_cnt (fops.set_W m []) []) 0

theorem W_set_nil_spec (fops : FitOps M α P) (self : FSelf M) (hn : self.n = self.modules.length) :
    W_set fops self [] = some { self with modules := self.modules.map (resetM fops) } := by
  unfold W_set
  rw [foldlM_modules _ (fun ms k => ms[k]?.bind fun m => some (ms.set k (resetM fops m))),
    hn, foldlM_range_set_all _ (fun _ m => resetM fops m)]
  · rw [zipIdx_map_eq_map _ _ (resetM fops) fun _ _ _ => rfl]
    rfl
  · intro ms k m _ hm
    rw [hm]
    rfl
  · -- the three attribute stores of one iteration go to the same position
    intro self k
    dsimp only
    rw [if_neg (show ¬decide (([] : List (List α)).length > 0) = true from Bool.false_ne_true)]
    cases hk : self.modules[k]? with
    | none => rfl
    | some m =>
      have h : k < self.modules.length := (List.getElem?_eq_some_iff.1 hk).1
      rw [some_bind, List.getElem?_set_self h, some_bind, List.set_set,
        List.getElem?_set_self h, some_bind, List.set_set]
      rfl

/-- per-channel result of the modules' own `match_criterion_bin` -/
def binAt (ops : ModOps M α P C Bool) (chans : List (Chan α)) (x w : List α) (cc : List C) (op : Bool) (dictSkip : C)
    (mk : M × Nat) : Bool × C :=
  match cc[mk.2]? with
  | some c => ops.match_criterion_bin mk.1 (slice (widths chans) mk.2 x) (slice (wlens chans) mk.2 w) (ops.params mk.1) c op
  | none => (true, dictSkip)

theorem match_criterion_bin_full (ops : ModOps M α P C Bool) (chans : List (Chan α)) (modules : List M) (n : Nat)
    (chIdx wIdx : List (Nat × Nat)) (gamma_values : List α) (dictSkip : C)
    (L : Layout chans modules n chIdx wIdx gamma_values)
    (x w : List α) (cache : List C) (hcache : cache.length = n) (op : Bool) :
    match_criterion_bin ops modules n chIdx wIdx dictSkip x w (some cache) op []
      = some (((modules.zipIdx.map (binAt ops chans x w cache op dictSkip)).map (·.1)).all id,
              (modules.zipIdx.map (binAt ops chans x w cache op dictSkip)).map (·.2)) := by
  unfold match_criterion_bin
  dsimp only [Option.bind_eq_bind, Option.bind_some]
  rw [mapM_range_zipIdx L.n_eq (g := binAt ops chans x w cache op dictSkip)]
  · rfl
  · intro k m hk hm
    obtain ⟨m', -, p, q, hm', -, hp, hq, -, hsx, hsw⟩ := L.reads hk
    cases hm.symm.trans hm'
    simp only [List.contains_nil, Bool.not_false, if_true, hm, hp, hq, hsx, hsw, binAt,
      List.getElem?_eq_getElem (hcache ▸ hk), Option.bind_some, Option.pure_def]

theorem category_choice_cache_length (ops : ModOps M α P C Bool) (modules : List M) (n : Nat)
    (chIdx wIdx : List (Nat × Nat)) (gamma_values : List α) (dictEmpty : C) (x w : List α) (skip : List Nat)
    (r : Option α × List C)
    (h : category_choice ops modules n chIdx wIdx gamma_values dictEmpty x w skip = some r) : r.2.length = n := by
  unfold category_choice at h
  obtain ⟨z, hz, h⟩ := Option.bind_eq_some_iff.1 h
  obtain ⟨a, -, h⟩ := Option.bind_eq_some_iff.1 h
  cases h
  -- `mapM` keeps the length
  have hl := congrArg List.length ((mapM_eq_some_iff_map _ _ z).1 hz)
  rw [List.length_map, List.length_map, List.length_range] at hl
  rw [List.length_map, ← hl]
end Small

/-! ### the contract between the abstract nested estimators and the channels of the model -/
section Train
variable {M P C α : Type} [Field α] [LinearOrder α] [IsStrictOrderedRing α]

/-- What is assumed of the nested estimators: module `k` is an elementary ART module whose kernel methods are the
channel's `Kernel`, whose vigilance test is the scalar test of `rhoP params` with the operator
`_match_tracking_operator(mode)`, whose `_match_tracking` is the scalar rule, and whose attribute stores are lenses on
its observable state `st m` (weights, counters) and `ops.params m`.  `Dom k m` says that `m` is an object of channel
`k`'s class and configuration (e.g. "its kernel is the channel's"); the kernel clauses hold for every such object and
`Dom k` is closed under everything the training code does to `modules[k]`, so they survive match tracking,
`add_weight` / `set_weight` and `_set_params`. -/
structure Sys (ops : ModOps M α P C Bool) (fops : FitOps M α P) (chans : List (Chan α)) (mode : MT) (eps top : α)
    (st : M → ModState α) (rhoP : P → α) (Dom : Nat → M → Prop) : Prop where
  W_eq : ∀ m, ops.W m = (st m).W
  ncl : ∀ m, ops.n_clusters m = (st m).W.length
  choice : ∀ (k : Nat) (c : Chan α), chans[k]? = some c → ∀ m, Dom k m → ∀ xi wi,
    (ops.category_choice m xi wi (ops.params m)).1 = c.K.choice (ops.W m) xi wi
  bin : ∀ (k : Nat) (c : Chan α), chans[k]? = some c → ∀ m, Dom k m → ∀ xi wi cc,
    (ops.match_criterion_bin m xi wi (ops.params m) cc (match_tracking_operator mode)).1
      = passesScalar mode false (rhoP (ops.params m)) (c.K.matchv xi wi)
  bin_cache : ∀ m xi wi cc op,
    ops.cache_match_criterion_bin (ops.match_criterion_bin m xi wi (ops.params m) cc op).2
      = (ops.match_criterion_bin m xi wi (ops.params m) cc op).1
  track : ∀ (k : Nat) (c : Chan α), chans[k]? = some c → ∀ m, Dom k m → ∀ xi wi cc,
    let r := ops.match_tracking m (ops.match_criterion_bin m xi wi (ops.params m) cc (match_tracking_operator mode)).2
      eps (ops.params m) mode
    r.1 = (mode != .one) ∧
    rhoP (ops.params r.2) = trackScalar mode (· + eps) (· - eps) top (rhoP (ops.params m)) (c.K.matchv xi wi) ∧
    st r.2 = st m ∧ Dom k r.2
  update : ∀ (k : Nat) (c : Chan α), chans[k]? = some c → ∀ m, Dom k m → ∀ xi wi cc,
    ops.update m xi wi (ops.params m) cc = c.K.update xi wi
  newW : ∀ (k : Nat) (c : Chan α), chans[k]? = some c → ∀ m, Dom k m → ∀ xi,
    ops.new_weight m xi (ops.params m) = c.K.newW xi
  add_st : ∀ m v, st (ops.add_weight m v) = ⟨(st m).W ++ [v], (st m).cnt ++ [1]⟩
  add_params : ∀ m v, ops.params (ops.add_weight m v) = ops.params m
  set_st : ∀ m c v, st (ops.set_weight m c v) = ⟨(st m).W.set c v, (st m).cnt.set c ((st m).cnt.getD c 0 + 1)⟩
  set_params : ∀ m c v, ops.params (ops.set_weight m c v) = ops.params m
  setp_params : ∀ m p, ops.params (fops.set_params m p) = p
  setp_st : ∀ m p, st (fops.set_params m p) = st m
  reset_st : ∀ m, st (resetM fops m) = ⟨[], []⟩
  reset_params : ∀ m, ops.params (resetM fops m) = ops.params m
  /-- the domain of channel `k` is closed under everything the training code does to `modules[k]` -/
  dom_add : ∀ k m v, Dom k m → Dom k (ops.add_weight m v)
  dom_set : ∀ k m c v, Dom k m → Dom k (ops.set_weight m c v)
  dom_setp : ∀ k m p, Dom k m → Dom k (fops.set_params m p)
  dom_reset : ∀ k m, Dom k m → Dom k (resetM fops m)

/-- the vigilance values of the modules: the threshold vector the search tracks -/
def rhos (ops : ModOps M α P C Bool) (rhoP : P → α) (mods : List M) : List α := mods.map (fun m => rhoP (ops.params m))

/-- the invariant of the modules during one training step: as many as channels, and their observable states are the
projections of the fused state `s` -/
def InvM (chans : List (Chan α)) (st : M → ModState α) (Dom : Nat → M → Prop) (s : ArtState (List α)) (mods : List M) : Prop :=
  mods.length = chans.length ∧ mods.map st = chanStates chans s ∧ ∀ (k : Nat) (m : M), mods[k]? = some m → Dom k m

variable {ops : ModOps M α P C Bool} {fops : FitOps M α P} {chans : List (Chan α)} {mode : MT} {eps top : α}
  {st : M → ModState α} {rhoP : P → α} {Dom : Nat → M → Prop}

theorem InvM.st_at {s : ArtState (List α)} {mods : List M} (h : InvM chans st Dom s mods) (k : Nat) (m : M)
    (hm : mods[k]? = some m) : st m = chanState (wlens chans) k s := by
  have hk : k < mods.length := (List.getElem?_eq_some_iff.1 hm).1
  have h1 : (mods.map st)[k]? = some (st m) := by rw [List.getElem?_map, hm]; rfl
  rw [h.2.1, chanStates_getElem? chans s k (h.1 ▸ hk)] at h1
  exact (Option.some.inj h1).symm

theorem InvM.W_at (S : Sys ops fops chans mode eps top st rhoP Dom) {s : ArtState (List α)} {mods : List M}
    (h : InvM chans st Dom s mods) (k : Nat) (m : M) (hm : mods[k]? = some m) :
    ops.W m = s.W.map (slice (wlens chans) k) := by
  rw [S.W_eq, h.st_at k m hm]
  rfl

theorem InvM.W_get (S : Sys ops fops chans mode eps top st rhoP Dom) (hne : chans ≠ []) {s : ArtState (List α)} (hs : ∀ w ∈ s.W, w.length ≤ wtotal chans) {mods : List M}
    (h : InvM chans st Dom s mods) (n : Nat) (hn : n = chans.length) : W_get ops mods n = some s.W := by
  obtain ⟨m0, h0⟩ : ∃ m0, mods[0]? = some m0 := ⟨_, List.getElem?_eq_getElem (h.1 ▸ List.length_pos_of_ne_nil hne)⟩
  rw [fusion_W_get_model ops mods n (by rw [hn, h.1]) st S.W_eq S.ncl m0 h0, h.2.1, fusedW_chanStates chans hne s hs]
  intro m hm
  obtain ⟨k, hk⟩ := List.getElem?_of_mem hm
  rw [h.st_at 0 m0 h0, h.st_at k m hk, chanState, chanState, List.length_map, List.length_map]

theorem InvM.layout {chans : List (Chan α)} {st : M → ModState α} {Dom : Nat → M → Prop} {s : ArtState (List α)} {mods : List M}
    (h : InvM chans st Dom s mods) (gamma_values : List α) (hg : gamma_values = chans.map (·.gamma)) :
    Layout chans mods chans.length (positions (widths chans)) (positions (wlens chans)) gamma_values :=
  ⟨h.1.symm, h.1, rfl, rfl, hg⟩

/-- `no_match_reset` as `step_fit` computes it (with the MT~ pre-pass the reset function has been applied before the
loop) is the model's `cfg.tilde || !veto c`; `r` is the reset function's answer -/
theorem no_match_reset_eq (mode : MT) (is_none r v : Bool) (hnone : is_none = true → v = false)
    (hsome : is_none = false → r = !v) :
    (if ([MT.tilde].contains mode && !is_none) = true then true else (is_none || r)) = ((mode == .tilde) || !v) := by
  cases is_none with
  | true => rw [hnone rfl]; cases mode <;> rfl
  | false => rw [hsome rfl]; cases mode <;> cases v <;> rfl

/-- one iteration of the generated loop body, as an explicit value: nothing in it raises -/
theorem body_eq {ops : ModOps M α P C Bool} {fops : FitOps M α P} {chans : List (Chan α)} {mode : MT} {eps top : α}
    {st : M → ModState α} {rhoP : P → α} {Dom : Nat → M → Prop} (S : Sys ops fops chans mode eps top st rhoP Dom) (hne : chans ≠ [])
    (gamma_values : List α) (dictEmpty dictSkip : C)
    (self0 : FSelf M) (s : ArtState (List α)) (hn : self0.n = chans.length)
    (hch : self0.chIdx = positions (widths chans)) (hwI : self0.wIdx = positions (wlens chans))
    (hgam : gamma_values = chans.map (·.gamma)) (hs : ∀ w ∈ s.W, w.length ≤ wtotal chans)
    (x : List α) (is_none : Bool) (reset : List α → List α → Nat → Option (List C) → Bool) (veto : Nat → Bool)
    (hv_none : is_none = true → ∀ c, veto c = false)
    (hv_some : is_none = false → ∀ c w ch, s.W[c]? = some w → reset x w c ch = !veto c)
    (base : List P) (hbase : base.length = chans.length) (Tv : List (Option α)) (Tc : List (Option (List C)))
    (mods : List M) (hI : InvM chans st Dom s mods) (T : List (Option α)) (hTl : T.length = s.W.length)
    (c : Nat) (hna : nanargmax T = some c) (cc : List C) (hcc : Tc[c]? = some (some cc)) (hccl : cc.length = chans.length)
    (w : List α) (hw : s.W[c]? = some w) (bins : List (Bool × C))
    (hbins : bins = mods.zipIdx.map (binAt ops chans x w cc (match_tracking_operator mode) dictSkip)) :
    step_fit_loop1_body ops fops gamma_values dictEmpty dictSkip x is_none reset mode eps base
        (match_tracking_operator mode) Tv Tc (({ self0 with modules := mods } : FSelf M), T) =
      some (
        if (bins.map (·.1)).all id && ((mode == .tilde) || !veto c) then
          .ret ({ self0 with modules := setParamsList fops (mods.zipIdx.map (fun mk =>
            ops.set_weight mk.1 c (slice (wlens chans) mk.2 (rawUpdate chans x w)))) base }, c)
        else if (bins.map (·.1)).all id && !((mode == .tilde) || !veto c) then
          .next ({ self0 with modules := mods.zipIdx.map (fun mk => (trackChan ops (bins.map (·.2)) eps mode mk).2) },
            if (mods.zipIdx.map (fun mk => (trackChan ops (bins.map (·.2)) eps mode mk).1)).all id then T.set c none
            else (T.set c none).map (fun _ => none))
        else .next ({ self0 with modules := mods }, T.set c none)) := by
  have hc : c < s.W.length := hTl ▸ nanargmax_lt_length hna
  have L := hI.layout gamma_values hgam
  have hcl : (bins.map (·.2)).length = chans.length := by rw [hbins, List.length_map, zipIdx_map_length, hI.1]
  have hupd := fusion_update ops chans mods chans.length _ _ gamma_values L
    (fun k m c' hm hc' xi wi cc' => S.update k c' hc' m (hI.2.2 k m hm) xi wi cc') x w (bins.map (·.2)) hcl
  have hpy : pySetItem T c (none : Option α) = some (T.set c none) := if_pos (hTl ▸ hc)
  have hsp := set_params_spec fops
    (⟨mods.zipIdx.map fun mk => ops.set_weight mk.1 c (slice (wlens chans) mk.2 (rawUpdate chans x w)), chans.length,
      positions (widths chans), positions (wlens chans), self0.sample_counter, self0.cnt, self0.labels⟩ : FSelf M) base
    (by rw [zipIdx_map_length, hI.1]) (by rw [hbase, zipIdx_map_length, hI.1])
  unfold step_fit_loop1_body
  dsimp only
  rw [hn, hch, hwI, hna, some_bind, hI.W_get S hne hs chans.length rfl, some_bind, hw, some_bind, hcc, some_bind,
    match_criterion_bin_full ops chans mods chans.length _ _ gamma_values dictSkip L x w cc hccl, ← hbins, some_bind,
    -- `no_match_reset`, whose continuation the translator repeats in both branches
    ite_bind, ← apply_ite pure, pure_bind,
    no_match_reset_eq mode is_none _ (veto c) (fun h => hv_none h c) (fun h => hv_some h c w _ hw),
    hupd, some_bind, fusion_set_weight ops chans mods chans.length _ _ gamma_values L, some_bind, hsp, some_bind,
    hpy, some_bind, fusion_match_tracking ops mods (bins.map (·.2)) (by rw [hcl, hI.1]), some_bind]
  cases (bins.map (·.1)).all id with
  | false => rfl
  | true =>
    cases (mode == .tilde || !veto c) with
    | true => rfl
    | false => cases (mods.zipIdx.map fun mk => (trackChan ops (bins.map (·.2)) eps mode mk).1).all id <;> rfl

theorem dom_zipIdx_map (mods : List M) (f : M × Nat → M)
    (h : ∀ (k : Nat) (m : M), mods[k]? = some m → Dom k (f (m, k))) :
    ∀ (k : Nat) (m' : M), (mods.zipIdx.map f)[k]? = some m' → Dom k m' := by
  intro k m' hm'
  rw [zipIdx_map_getElem?] at hm'
  obtain ⟨m, hm, rfl⟩ := Option.map_eq_some_iff.1 hm'
  exact h k m hm

theorem matchBinSkip_noskip (mode : MT) (adjP adjM : α → α) (top : α) (rs ms : List α) :
    matchBinSkip mode (fun k => ([] : List Nat).contains k) rs ms = (fusionCfg mode adjP adjM top).passes rs ms := by
  show ((List.zip rs ms).zipIdx).all ((fun tv => passesScalar mode false tv.1 tv.2) ∘ Prod.fst) = _
  rw [← List.all_map, List.zipIdx_map_fst]
  rfl

theorem setParamsList_length (fops : FitOps M α P) (ms : List M) (ps : List P) :
    (setParamsList fops ms ps).length = ms.length := zipIdx_map_length _ _

theorem setParamsList_params (S : Sys ops fops chans mode eps top st rhoP Dom) (ms : List M) (ps : List P)
    (h : ps.length = ms.length) : (setParamsList fops ms ps).map ops.params = ps := by
  rw [setParamsList, List.map_map, zipIdx_map_congr h.symm (G := Prod.fst) fun k m p hm hp => by
    rw [Function.comp_apply, hp]; exact S.setp_params m p]
  exact List.zipIdx_map_fst 0 ps

theorem setParamsList_dom (S : Sys ops fops chans mode eps top st rhoP Dom) (ms : List M) (ps : List P)
    (h : ∀ (k : Nat) (m : M), ms[k]? = some m → Dom k m) :
    ∀ (k : Nat) (m : M), (setParamsList fops ms ps)[k]? = some m → Dom k m := by
  apply dom_zipIdx_map
  intro k m hm
  cases ps[k]? with
  | none => exact h k m hm
  | some p => exact S.dom_setp k m p (h k m hm)

theorem setParamsList_st (S : Sys ops fops chans mode eps top st rhoP Dom) (ms : List M) (ps : List P) : (setParamsList fops ms ps).map st = ms.map st := by
  rw [setParamsList, List.map_map]
  apply zipIdx_map_eq_map
  intro k m _
  show st (match ps[k]? with | some p => fops.set_params m p | none => m) = st m
  cases ps[k]? with
  | none => rfl
  | some p => exact S.setp_st m p

/-- **`_set_params(_deep_copy_params())` restores the modules' params and touches nothing else**: whatever happened to
the modules' params between the copy (taken from `other`, e.g. the estimator at the start of `step_fit`) and the
restore, afterwards every module has the params it had when the copy was taken, and its weights / counters are the
current ones. -/
theorem set_deep_copy {ops : ModOps M α P C Bool} {fops : FitOps M α P} {chans : List (Chan α)} {mode : MT}
    {eps top : α} {st : M → ModState α} {rhoP : P → α} {Dom : Nat → M → Prop} (S : Sys ops fops chans mode eps top st rhoP Dom)
    (self other : FSelf M) (hn : self.n = self.modules.length) (hl : other.modules.length = self.modules.length) :
    ∃ ps self', deep_copy_params ops other = some ps ∧ set_params fops self ps = some self' ∧
      self'.modules.map ops.params = other.modules.map ops.params ∧ self'.modules.map st = self.modules.map st ∧
      self'.n = self.n ∧ self'.chIdx = self.chIdx ∧ self'.wIdx = self.wIdx ∧ self'.labels = self.labels :=
  ⟨_, _, deep_copy_params_spec ops other, set_params_spec fops self _ hn (by rw [List.length_map, hl]),
    setParamsList_params S _ _ (by rw [List.length_map, hl]), setParamsList_st S _ _, rfl, rfl, rfl, rfl⟩

/-- what `_match_tracking` does when every channel's own test passed: every module tracks -/
theorem track_facts (S : Sys ops fops chans mode eps top st rhoP Dom) (hne : chans ≠ [])
    (dictSkip : C) (s : ArtState (List α)) (x w : List α) (mods : List M) (hI : InvM chans st Dom s mods)
    (cc : List C) (hccl : cc.length = chans.length) (bins : List (Bool × C))
    (hbins : bins = mods.zipIdx.map (binAt ops chans x w cc (match_tracking_operator mode) dictSkip))
    (hb : (bins.map (·.1)).all id = true) :
    InvM chans st Dom s (mods.zipIdx.map (fun mk => (trackChan ops (bins.map (·.2)) eps mode mk).2)) ∧
    rhos ops rhoP (mods.zipIdx.map (fun mk => (trackChan ops (bins.map (·.2)) eps mode mk).2))
      = (fusionCfg mode (· + eps) (· - eps) top).track (rhos ops rhoP mods) (matchVec chans x w) ∧
    (mods.zipIdx.map (fun mk => (trackChan ops (bins.map (·.2)) eps mode mk).1)).all id
      = (fusionCfg mode (· + eps) (· - eps) top).keep := by
  have hpos : 0 < mods.length := hI.1 ▸ List.length_pos_of_ne_nil hne
  -- channel by channel
  have key : ∀ (k : Nat) (m : M), mods[k]? = some m → ∃ c, chans[k]? = some c ∧
      (trackChan ops (bins.map (·.2)) eps mode (m, k)).1 = (mode != .one) ∧
      rhoP (ops.params (trackChan ops (bins.map (·.2)) eps mode (m, k)).2)
        = trackScalar mode (· + eps) (· - eps) top (rhoP (ops.params m))
            (c.K.matchv (slice (widths chans) k x) (slice (wlens chans) k w)) ∧
      st (trackChan ops (bins.map (·.2)) eps mode (m, k)).2 = st m ∧
      Dom k (trackChan ops (bins.map (·.2)) eps mode (m, k)).2 := by
    intro k m hm
    have hk : k < mods.length := (List.getElem?_eq_some_iff.1 hm).1
    have hkc : k < chans.length := hI.1 ▸ hk
    obtain ⟨c, hc⟩ : ∃ c, chans[k]? = some c := ⟨_, List.getElem?_eq_getElem hkc⟩
    obtain ⟨ck, hck⟩ : ∃ ck, cc[k]? = some ck := ⟨_, List.getElem?_eq_getElem (hccl ▸ hkc)⟩
    have hbk : bins[k]? = some (ops.match_criterion_bin m (slice (widths chans) k x) (slice (wlens chans) k w)
        (ops.params m) ck (match_tracking_operator mode)) := by
      rw [hbins, zipIdx_map_getElem?, hm, Option.map_some, binAt, hck]
    have hb1 : (ops.match_criterion_bin m (slice (widths chans) k x) (slice (wlens chans) k w) (ops.params m) ck
        (match_tracking_operator mode)).1 = true :=
      List.all_eq_true.1 hb _ (List.mem_map.2 ⟨_, List.mem_of_getElem? hbk, rfl⟩)
    refine ⟨c, hc, ?_⟩
    simp only [trackChan, List.getElem?_map, hbk, Option.map_some, S.bin_cache, hb1, if_true]
    exact S.track k c hc m (hI.2.2 k m hm) _ _ _
  refine ⟨⟨(zipIdx_map_length _ _).trans hI.1, ?_, ?_⟩, ?_, ?_⟩
  · rw [← hI.2.1, List.map_map]
    exact zipIdx_map_eq_map _ _ st fun k m hm => let ⟨_, _, _, _, h, _⟩ := key k m hm; h
  · exact dom_zipIdx_map mods _ fun k m hm => let ⟨_, _, _, _, _, h⟩ := key k m hm; h
  · -- the thresholds, read through `zip`
    apply List.ext_getElem?
    intro k
    rw [rhos, List.getElem?_map, zipIdx_map_getElem?]
    show _ = ((List.zip (rhos ops rhoP mods) (matchVec chans x w)).map _)[k]?
    rw [List.map_zip_eq_zipWith, List.getElem?_zipWith', rhos, List.getElem?_map, matchVec, zipIdx_map_getElem?]
    cases hm : mods[k]? with
    | none => rfl
    | some m =>
      obtain ⟨c, hc, -, hrho, -, -⟩ := key k m hm
      rw [hc]
      exact congrArg some hrho
  · rw [zipIdx_map_eq_map mods _ (fun _ => mode != .one) fun k m hm => let ⟨_, _, h, _⟩ := key k m hm; h,
      List.map_const', List.all_replicate, if_neg (Nat.pos_iff_ne_zero.1 hpos)]
    rfl

/-- the conjunction of the modules' own tests is the model's `passes` on the channel match values -/
theorem bins_passes (S : Sys ops fops chans mode eps top st rhoP Dom) (gamma_values : List α)
    (hgam : gamma_values = chans.map (·.gamma))
    (dictSkip : C) (s : ArtState (List α)) (x w : List α) (mods : List M) (hI : InvM chans st Dom s mods)
    (cc : List C) (hccl : cc.length = chans.length) :
    ((mods.zipIdx.map (binAt ops chans x w cc (match_tracking_operator mode) dictSkip)).map (·.1)).all id
      = (fusionCfg mode (· + eps) (· - eps) top).passes (rhos ops rhoP mods) (matchVec chans x w) := by
  have L := hI.layout gamma_values hgam
  have h := fusion_match_bin_model ops chans mods chans.length _ _ gamma_values dictSkip L mode
    (fun m => rhoP (ops.params m)) (match_tracking_operator mode)
    (fun k m c hm hc xi wi cc' => S.bin k c hc m (hI.2.2 k m hm) xi wi cc') x w cc hccl []
  rw [match_criterion_bin_full ops chans mods chans.length _ _ gamma_values dictSkip L x w cc hccl, Option.map_some,
    Option.some.injEq, matchBinSkip_noskip mode (· + eps) (· - eps) top] at h
  exact h

/-- the modules after `set_weight(c, update(...))` followed by `_set_params(base)` -/
theorem ret_facts (S : Sys ops fops chans mode eps top st rhoP Dom) (s : ArtState (List α))
    (mods : List M) (hI : InvM chans st Dom s mods) (base : List P)
    (hbase : base.length = chans.length) (c : Nat) (v : List α) :
    (setParamsList fops (mods.zipIdx.map (fun mk => ops.set_weight mk.1 c (slice (wlens chans) mk.2 v))) base).map st
      = modsSet (wlens chans) (chanStates chans s) c v ∧
    (setParamsList fops (mods.zipIdx.map (fun mk => ops.set_weight mk.1 c (slice (wlens chans) mk.2 v))) base).map ops.params
      = base ∧
    ∀ (k : Nat) (m : M),
      (setParamsList fops (mods.zipIdx.map (fun mk => ops.set_weight mk.1 c (slice (wlens chans) mk.2 v))) base)[k]? = some m →
      Dom k m := by
  have L := hI.layout (chans.map (·.gamma)) rfl
  refine ⟨?_, setParamsList_params S _ _ (by rw [hbase, zipIdx_map_length, hI.1]),
    setParamsList_dom S _ _ (dom_zipIdx_map mods _ fun k m hm => S.dom_set k m c _ (hI.2.2 k m hm))⟩
  have h := fusion_set_weight_model ops chans mods chans.length _ _ _ L st S.set_st c v
  rw [fusion_set_weight ops chans mods chans.length _ _ _ L, Option.map_some, Option.some.injEq, hI.2.1] at h
  rw [setParamsList_st S, h]

theorem body_spec {ops : ModOps M α P C Bool} {fops : FitOps M α P} {chans : List (Chan α)} {mode : MT} {eps top : α}
    {st : M → ModState α} {rhoP : P → α} {Dom : Nat → M → Prop} (S : Sys ops fops chans mode eps top st rhoP Dom) (hne : chans ≠ [])
    (gamma_values : List α) (dictEmpty dictSkip : C)
    (self0 : FSelf M) (s : ArtState (List α)) (hn : self0.n = chans.length)
    (hch : self0.chIdx = positions (widths chans)) (hwI : self0.wIdx = positions (wlens chans))
    (hgam : gamma_values = chans.map (·.gamma)) (hs : ∀ w ∈ s.W, w.length ≤ wtotal chans)
    (x : List α) (is_none : Bool) (reset : List α → List α → Nat → Option (List C) → Bool) (veto : Nat → Bool)
    (hv_none : is_none = true → ∀ c, veto c = false)
    (hv_some : is_none = false → ∀ c w ch, s.W[c]? = some w → reset x w c ch = !veto c)
    (base : List P) (hbase : base.length = chans.length) (Tv : List (Option α)) (Tc : List (Option (List C))) :
    BodySpecM (fusionCfg mode (· + eps) (· - eps) top) (matchAt (fusionKernel chans) s.W x) veto (rhos ops rhoP)
      (InvM chans st Dom s)
      (fun T => T.length = s.W.length ∧
        ∀ (c : Nat) (v : α), T[c]? = some (some v) → ∃ cc : List C, Tc[c]? = some (some cc) ∧ cc.length = chans.length)
      (fun mods T => (({ self0 with modules := mods } : FSelf M), T))
      (fun c r => r.2 = c ∧ ∃ ms, r.1 = { self0 with modules := ms } ∧
        ms.map st = modsSet (wlens chans) (chanStates chans s) c (rawUpdate chans x (s.W.getD c [])) ∧
        ms.map ops.params = base ∧ ∀ (k : Nat) (m : M), ms[k]? = some m → Dom k m)
      (step_fit_loop1_body ops fops gamma_values dictEmpty dictSkip x is_none reset mode eps base
        (match_tracking_operator mode) Tv Tc) := by
  constructor
  intro mods T c hI ⟨hTl, hTc⟩ hna
  have hc : c < s.W.length := hTl ▸ nanargmax_lt_length hna
  obtain ⟨w, hw⟩ : ∃ w, s.W[c]? = some w := ⟨_, List.getElem?_eq_getElem hc⟩
  obtain ⟨v, hv⟩ := nanargmax_isSome_at hna
  obtain ⟨cc, hcc, hccl⟩ := hTc c v hv
  have hb := bins_passes S gamma_values hgam dictSkip s x w mods hI cc hccl
  have hM : matchAt (fusionKernel chans) s.W x c = matchVec chans x w := by rw [matchAt, hw]; rfl
  have hgetD : s.W.getD c [] = w := by rw [List.getD_eq_getElem?_getD, hw]; rfl
  rw [hM, hgetD, body_eq S hne gamma_values dictEmpty dictSkip self0 s hn hch hwI hgam hs x is_none reset veto hv_none hv_some
    base hbase Tv Tc mods hI T hTl c hna cc hcc hccl w hw _ rfl, hb,
    show (mode == MT.tilde) = (fusionCfg mode (· + eps) (· - eps) top).tilde from rfl]
  cases hp : (fusionCfg mode (· + eps) (· - eps) top).passes (rhos ops rhoP mods) (matchVec chans x w) with
  | false => exact rfl
  | true =>
    cases hok : ((fusionCfg mode (· + eps) (· - eps) top).tilde || !veto c) with
    | true =>
      simp only [Bool.and_self, ↓reduceIte]
      exact ⟨_, rfl, rfl, _, rfl, ret_facts S s mods hI base hbase c _⟩
    | false =>
      obtain ⟨f1, f2, f3⟩ := track_facts S hne dictSkip s x w mods hI cc hccl _ rfl (hb.trans hp)
      simp only [Bool.and_false, Bool.false_eq_true, Bool.not_false, Bool.and_self, ↓reduceIte]
      exact ⟨_, f1, f2, by rw [f3]⟩

/-! ### one training step -/

theorem fit_map_length {β : Type} {ws : List Nat} {ps : List (List β)} (h : Fit ws ps) : ps.map List.length = ws := by
  induction h with
  | nil => rfl
  | cons hp _ ih => rw [List.map_cons, hp, ih]

/-- the invariant of the FusionART object between training steps: its layout is the channels', its modules are the
projections of the fused model state `s`, and `_weight_indices` is the table of the modules' weight lengths as soon as
there is a category -/
structure Good (chans : List (Chan α)) (st : M → ModState α) (Dom : Nat → M → Prop) (gamma_values : List α) (obj : FSelf M)
    (s : ArtState (List α)) : Prop where
  n_eq : obj.n = chans.length
  inv : InvM chans st Dom s obj.modules
  ch : obj.chIdx = positions (widths chans)
  gam : gamma_values = chans.map (·.gamma)
  hs : ∀ w ∈ s.W, w.length ≤ wtotal chans
  wI : s.W ≠ [] → obj.wIdx = positions (wlens chans)

/-- `new_weight` followed by `add_weight` (the new `_weight_indices` are used for the cut) -/
theorem new_add_facts (S : Sys ops fops chans mode eps top st rhoP Dom) (hl : ∀ c ∈ chans, c.LenOK)
    (s : ArtState (List α)) (mods : List M) (hI : InvM chans st Dom s mods)
    (wIdx : List (Nat × Nat)) (x : List α) (hx : x.length = total chans) :
    new_weight ops mods chans.length (positions (widths chans)) wIdx x = some (positions (wlens chans), rawNew chans x) ∧
    ∃ ms, add_weight ops mods chans.length (positions (wlens chans)) (rawNew chans x) = some ms ∧
      ms.map st = modsAdd (wlens chans) (chanStates chans s) (rawNew chans x) ∧
      ms.map ops.params = mods.map ops.params ∧ ∀ (k : Nat) (m : M), ms[k]? = some m → Dom k m := by
  have L := hI.layout (chans.map (·.gamma)) rfl
  have hnew := fusion_new_weight ops chans mods chans.length _ _ _ L
    (fun k m c hm hc xi => S.newW k c hc m (hI.2.2 k m hm) xi) x
  rw [fit_map_length (newPieces_fit chans hl x hx)] at hnew
  have hadd := fusion_add_weight ops chans mods chans.length _ _ _ L (rawNew chans x)
  have hst := fusion_add_weight_model ops chans mods chans.length _ _ _ L st S.add_st (rawNew chans x)
  rw [hadd, Option.map_some, Option.some.injEq, hI.2.1] at hst
  refine ⟨hnew, _, hadd, hst, ?_, dom_zipIdx_map mods _ fun k m hm => S.dom_add k m _ (hI.2.2 k m hm)⟩
  rw [List.map_map]
  exact zipIdx_map_eq_map _ _ _ fun k m _ => S.add_params m _

/-- `FusionART.category_choice` on the current modules: the fused activation and one cache per channel -/
theorem choice_full (S : Sys ops fops chans mode eps top st rhoP Dom) (gamma_values : List α)
    (hgam : gamma_values = chans.map (·.gamma)) (dictEmpty : C)
    (s : ArtState (List α)) (mods : List M) (hI : InvM chans st Dom s mods) (x w : List α) :
    ∃ cs : List C, category_choice ops mods chans.length (positions (widths chans)) (positions (wlens chans))
        gamma_values dictEmpty x w [] = some ((fusionKernel chans).choice s.W x w, cs) ∧ cs.length = chans.length := by
  have h := fusion_category_choice ops chans mods chans.length _ _ gamma_values dictEmpty (hI.layout gamma_values hgam) s.W
    (fun k m hm => hI.W_at S k m hm) (fun k m c hm hc xi wi => S.choice k c hc m (hI.2.2 k m hm) xi wi) x w []
  obtain ⟨r, hr, h1⟩ := Option.map_eq_some_iff.1 h
  refine ⟨r.2, ?_, category_choice_cache_length ops mods _ _ _ gamma_values dictEmpty x w [] r hr⟩
  rw [hr]
  exact congrArg some (Prod.ext h1 rfl)

theorem strikeVetoed_of_no_veto (tilde : Bool) (veto : Nat → Bool) (T : List (Option α))
    (h : tilde = true → ∀ c, veto c = false) : strikeVetoed tilde veto T = T := by
  cases tilde with
  | false => rfl
  | true =>
    apply List.ext_getElem?
    intro j
    rw [strikeVetoed_getElem?, h rfl j]
    cases T[j]? <;> rfl

theorem tilde_prepass_iff (mode : MT) (is_none : Bool) :
    ([MT.tilde].contains mode && !is_none) = true ↔ mode = .tilde ∧ is_none = false := by
  cases mode <;> cases is_none <;> decide

/-- the activation phase of `step_fit`, with or without the MT~ pre-pass: the model's activation vector, and a cache of
the right length wherever the activation is a number -/
theorem prepass_spec {X' Wt μ : Type} (cch : Wt → Option (Option α × List C)) (K : Kernel X' Wt α μ) (W : List Wt) (x : X')
    (n : Nat) (mode : MT) (is_none : Bool) (reset' : Wt → Nat → Bool) (veto : Nat → Bool)
    (hc : ∀ w, ∃ cs, cch w = some (K.choice W x w, cs) ∧ cs.length = n)
    (hv_none : is_none = true → ∀ c, veto c = false)
    (hv_some : is_none = false → ∀ c w, W[c]? = some w → reset' w c = !veto c) :
    ∃ Tc : List (Option (List C)),
      (if ([MT.tilde].contains mode && !is_none) = true then
          W.zipIdx.mapM (fun wc => if reset' wc.1 wc.2 = true then (cch wc.1 >>= fun a => pure (someSnd a)) >>= fun a => pure a
            else pure (none, none) >>= fun a => pure a) >>= fun z => pure (z.map (·.1), z.map (·.2))
        else W.mapM (fun w => cch w >>= fun a => pure (someSnd a)) >>= fun z => pure (z.map (·.1), z.map (·.2)))
        = some (strikeVetoed (mode == .tilde) veto (activations K W x), Tc) ∧
      ∀ (c : Nat) (v : α), (strikeVetoed (mode == .tilde) veto (activations K W x))[c]? = some (some v) →
        ∃ cc : List C, Tc[c]? = some (some cc) ∧ cc.length = n := by
  choose cs hcs hlen using hc
  by_cases ht : ([MT.tilde].contains mode && !is_none) = true
  · -- with the pre-pass: vetoed categories get a NaN activation and no cache
    obtain ⟨rfl, hn⟩ := (tilde_prepass_iff mode is_none).1 ht
    refine ⟨W.zipIdx.map fun wc => if veto wc.2 then none else some (cs wc.1), ?_, ?_⟩
    · rw [if_pos ht, mapM_some_of_forall
        (g := fun wc => if veto wc.2 then (none, none) else (K.choice W x wc.1, some (cs wc.1))), some_bind]
      · refine congrArg some (Prod.ext ?_ ?_)
        · show List.map _ (List.map _ _) = strikeVetoed true veto (activations K W x)
          rw [strikeVetoed, if_pos rfl, activations, List.zipIdx_map, List.map_map, List.map_map]
          exact List.map_congr_left fun wc _ => apply_ite Prod.fst _ _ _
        · show List.map _ (List.map _ _) = List.map _ _
          rw [List.map_map]
          exact List.map_congr_left fun wc _ => apply_ite Prod.snd _ _ _
      · intro wc hwc
        rw [hv_some hn wc.2 wc.1 (List.mk_mem_zipIdx_iff_getElem?.1 hwc), hcs]
        cases veto wc.2 <;> rfl
    · intro c v hv
      rw [strikeVetoed_getElem?, activations, List.getElem?_map] at hv
      rw [zipIdx_map_getElem?]
      cases hw : W[c]? with
      | none => rw [hw] at hv; cases hv
      | some w =>
        rw [hw] at hv
        cases hvc : veto c with
        | true => rw [hvc] at hv; cases hv
        | false => exact ⟨cs w, by rw [Option.map_some, hvc]; rfl, hlen w⟩
  · -- without: nothing is struck (the mode is not MT~, or nothing is vetoed)
    rw [if_neg ht, strikeVetoed_of_no_veto (mode == .tilde) veto _ fun hm c => by
      cases hi : is_none with
      | true => exact hv_none hi c
      | false => exact absurd ((tilde_prepass_iff mode is_none).2 ⟨beq_iff_eq.1 hm, hi⟩) ht]
    refine ⟨W.map fun w => some (cs w), ?_, ?_⟩
    · rw [mapM_some_of_forall (g := fun w => (K.choice W x w, some (cs w))) fun w _ => by rw [hcs]; rfl, some_bind]
      exact congrArg some (Prod.ext List.map_map List.map_map)
    · intro c v hv
      rw [activations, List.getElem?_map] at hv
      obtain ⟨w, hw, -⟩ := Option.map_eq_some_iff.1 hv
      exact ⟨cs w, by rw [List.getElem?_map, hw]; rfl, hlen w⟩

/-- **One training step of a FusionART, as generated from the source, is the model's step on the module states.**
`BaseART.step_fit` executed on a FusionART whose modules are the projections of the fused state `s` never raises,
returns the label of `modsStep` and leaves modules whose observable states are `modsStep`'s; the modules' params
are restored, `sample_counter_` advances by one, `_weight_indices` is the table of the modules' weight lengths. -/
theorem step_fit_spec {ops : ModOps M α P C Bool} {fops : FitOps M α P} {chans : List (Chan α)} {mode : MT} {eps top : α}
    {st : M → ModState α} {rhoP : P → α} {Dom : Nat → M → Prop} (S : Sys ops fops chans mode eps top st rhoP Dom) (hne : chans ≠ [])
    (hl : ∀ c ∈ chans, c.LenOK) (gamma_values : List α) (dictEmpty dictSkip : C)
    (self : FSelf M) (s : ArtState (List α)) (G : Good chans st Dom gamma_values self s)
    (x : List α) (hx : x.length = total chans)
    (is_none : Bool) (reset : List α → List α → Nat → Option (List C) → Bool) (veto : Nat → Bool)
    (hv_none : is_none = true → ∀ c, veto c = false)
    (hv_some : is_none = false → ∀ c w ch, s.W[c]? = some w → reset x w c ch = !veto c) :
    ∃ r, step_fit ops fops gamma_values dictEmpty dictSkip s.W.length self x is_none reset mode eps = some r ∧
      (r.1.modules.map st, r.2) = modsStep chans (fusionCfg mode (· + eps) (· - eps) top)
        (rhos ops rhoP self.modules) veto (chanStates chans s) x ∧
      r.1.modules.map ops.params = self.modules.map ops.params ∧
      (∀ (k : Nat) (m : M), r.1.modules[k]? = some m → Dom k m) ∧
      r.1.n = self.n ∧ r.1.chIdx = self.chIdx ∧ r.1.wIdx = positions (wlens chans) ∧
      r.1.sample_counter = self.sample_counter + 1 ∧ r.1.cnt = self.cnt ∧ r.1.labels = self.labels := by
  obtain ⟨hn, hI, hch, hgam, hs, hwI⟩ := G
  obtain ⟨hnw, ms, hadd, hms_st, hms_p, hms_d⟩ := new_add_facts S hl s self.modules hI self.wIdx x hx
  unfold step_fit modsStep
  dsimp only
  rw [deep_copy_params_spec, some_bind, hn, hch, hI.W_get S hne hs chans.length rfl, some_bind,
    fusedW_chanStates chans hne s hs]
  by_cases hW : s.W = []
  · -- the first category
    rw [if_pos (show (s.W.length == 0) = true by rw [hW]; rfl), if_pos (show s.W.isEmpty = true by rw [hW]; rfl),
      hnw, some_bind, hadd, some_bind]
    exact ⟨_, rfl, congrArg (·, 0) hms_st, hms_p, hms_d, rfl, rfl, rfl, rfl, rfl, rfl⟩
  · rw [if_neg fun h => hW (List.length_eq_zero_iff.1 (beq_iff_eq.1 h)), if_neg fun h => hW (List.isEmpty_iff.1 h),
      hwI hW, some_bind, some_bind, ite_bind]
    obtain ⟨Tc, hpre, hTc⟩ := prepass_spec
      (fun w => category_choice ops self.modules chans.length (positions (widths chans)) (positions (wlens chans))
        gamma_values dictEmpty x w [])
      (fusionKernel chans) s.W x chans.length mode is_none (fun w c => reset x w c none) veto
      (choice_full S gamma_values hgam dictEmpty s self.modules hI x) hv_none (fun h c w hw => hv_some h c w none hw)
    obtain ⟨Tv, hTv⟩ : ∃ Tv, Tv = strikeVetoed (mode == .tilde) veto (activations (fusionKernel chans) s.W x) := ⟨_, rfl⟩
    rw [← hTv] at hpre hTc
    have hTlen : Tv.length = s.W.length := by rw [hTv, strikeVetoed_length, activations_length]
    rw [hpre, some_bind, stepSearch_eq,
      show strikeVetoed (fusionCfg mode (· + eps) (· - eps) top).tilde veto _ = Tv from hTv.symm]
    dsimp only
    have hbody := body_spec S hne gamma_values dictEmpty dictSkip
      ⟨self.modules, chans.length, positions (widths chans), positions (wlens chans), self.sample_counter + 1,
        self.cnt, self.labels⟩ s rfl rfl rfl hgam hs x is_none reset veto hv_none hv_some
      (self.modules.map ops.params) (by rw [List.length_map, hI.1]) Tv Tc
    -- the loop keeps: `T` is as long as `W`, and where it holds a number `T_cache` holds the channels' caches
    have hloop := whileM_follows_search _ _ _ _ _ _ _ _
      (step_fit_loop1_cond ops fops gamma_values dictEmpty dictSkip x is_none reset mode eps
        (self.modules.map ops.params) (match_tracking_operator mode) Tv Tc) _
      (fun _ _ => rfl)
      (fun T c ⟨h1, h2⟩ => ⟨by rw [List.length_set, h1], fun c' v hv => h2 c' v (by
        rw [List.getElem?_set] at hv
        by_cases hcc : c = c'
        · rw [if_pos hcc] at hv
          split at hv <;> cases hv
        · rwa [if_neg hcc] at hv)⟩)
      (fun T ⟨h1, _⟩ => ⟨by rw [List.length_map, h1], fun c' v hv => by
        rw [List.getElem?_map] at hv
        obtain ⟨_, _, h⟩ := Option.map_eq_some_iff.1 hv
        cases h⟩)
      hbody s.W.length self.modules Tv hI ⟨hTlen, hTc⟩
    generalize (search _ _ veto s.W.length Tv _).winner = winner at hloop ⊢
    cases winner with
    | some c =>
      obtain ⟨r, hr, hrc, ms', hrm, hst', hp', hd'⟩ := hloop
      obtain ⟨r1, c'⟩ := r
      dsimp only at hrc hrm
      subst hrc hrm
      rw [hr, some_bind]
      exact ⟨_, rfl, congrArg (·, c') hst', hp', hd', rfl, rfl, rfl, rfl, rfl, rfl⟩
    | none =>
      -- no category resonates: a new one, then the params are restored
      obtain ⟨p', T', hp', hwm⟩ := hloop
      obtain ⟨hnw', ms', hadd', hms_st', hms_p', hms_d'⟩ := new_add_facts S hl s p' hp' (positions (wlens chans)) x hx
      have hlen' : ms'.length = chans.length := by
        rw [← List.length_map (f := st), hms_st', modsAdd, List.length_zipWith, chanStates_length, splitBy_length,
          wlens_length, Nat.min_self]
      rw [hwm, some_bind]
      dsimp only
      rw [hp'.W_get S hne hs chans.length rfl, some_bind, hnw', some_bind, hadd', some_bind,
        set_params_spec fops _ _ hlen'.symm (by rw [List.length_map, hlen', hI.1]), some_bind]
      exact ⟨_, rfl, congrArg (·, s.W.length) ((setParamsList_st S _ _).trans hms_st'),
        setParamsList_params S _ _ (by rw [List.length_map, hlen', hI.1]), setParamsList_dom S _ _ hms_d',
        rfl, rfl, rfl, rfl, rfl, rfl⟩

/-- **The same step against the fused model**: the generated `step_fit` on a FusionART whose modules are the
projections of the fused state `s` leaves modules that are the projections of `stepFit (fusionKernel chans)` — the model
step the C10 theorems are about — and returns its label. -/
theorem step_fit_refines_stepFit {ops : ModOps M α P C Bool} {fops : FitOps M α P} {chans : List (Chan α)} {mode : MT}
    {eps top : α} {st : M → ModState α} {rhoP : P → α} {Dom : Nat → M → Prop} (S : Sys ops fops chans mode eps top st rhoP Dom) (hne : chans ≠ [])
    (hl : ∀ c ∈ chans, c.LenOK) (gamma_values : List α) (dictEmpty dictSkip : C)
    (self : FSelf M) (s : ArtState (List α)) (G : Good chans st Dom gamma_values self s)
    (x : List α) (hx : x.length = total chans)
    (is_none : Bool) (reset : List α → List α → Nat → Option (List C) → Bool) (veto : Nat → Bool)
    (hv_none : is_none = true → ∀ c, veto c = false)
    (hv_some : is_none = false → ∀ c w ch, s.W[c]? = some w → reset x w c ch = !veto c) :
    ∃ r, step_fit ops fops gamma_values dictEmpty dictSkip s.W.length self x is_none reset mode eps = some r ∧
      Good chans st Dom gamma_values r.1
        (stepFit (fusionKernel chans) (fusionCfg mode (· + eps) (· - eps) top) (rhos ops rhoP self.modules) veto s x).1 ∧
      r.2 = (stepFit (fusionKernel chans) (fusionCfg mode (· + eps) (· - eps) top) (rhos ops rhoP self.modules) veto s x).2 ∧
      r.1.modules.map ops.params = self.modules.map ops.params ∧
      r.1.sample_counter = self.sample_counter + 1 ∧ r.1.cnt = self.cnt ∧ r.1.labels = self.labels := by
  obtain ⟨r, hr, hm, hp, hd, h1, h2, h3, h4, h5, h6⟩ :=
    step_fit_spec S hne hl gamma_values dictEmpty dictSkip self s G x hx is_none reset veto hv_none hv_some
  obtain ⟨m1, m2⟩ := modsStep_chanStates chans hne (fusionCfg mode (· + eps) (· - eps) top) (rhos ops rhoP self.modules)
    veto s G.hs x
  rw [← hm] at m1 m2
  dsimp only at m1 m2
  refine ⟨r, hr, ⟨h1.trans G.n_eq, ⟨?_, m1, hd⟩, h2.trans G.ch, G.gam, ?_, fun _ => h3⟩, m2, hp, h4, h5, h6⟩
  · rw [← List.length_map (f := st), m1, chanStates_length]
  · exact trainStep_W_inv (fusionKernel chans) (fusionCfg mode (· + eps) (· - eps) top) (rhos ops rhoP self.modules)
      (fun _ _ => veto) (fun w => w.length ≤ wtotal chans) s x (fun w _ => stored_length_le _ _) (stored_length_le _ _) G.hs

/-! ### `partial_fit` and `fit` -/

theorem Good.congr {gamma_values : List α} {obj obj' : FSelf M} {s s' : ArtState (List α)}
    (G : Good chans st Dom gamma_values obj s) (hW : s'.W = s.W) (hc : s'.cnt = s.cnt)
    (h1 : obj'.modules = obj.modules) (h2 : obj'.n = obj.n) (h3 : obj'.chIdx = obj.chIdx) (h4 : obj'.wIdx = obj.wIdx) :
    Good chans st Dom gamma_values obj' s' := by
  obtain ⟨a, b, c, d, e, f⟩ := G
  have hcs : chanStates chans s' = chanStates chans s := by
    rw [chanStates, chanStates]
    exact List.map_congr_left fun k _ => by rw [chanState, chanState, hW, hc]
  exact ⟨h2 ▸ a, ⟨h1 ▸ b.1, by rw [h1, hcs]; exact b.2.1, h1 ▸ b.2.2⟩, h3 ▸ c, d, hW ▸ e, fun h => h4 ▸ f (hW ▸ h)⟩

theorem rhos_congr {ms' ms : List M} (h : ms'.map ops.params = ms.map ops.params) : rhos ops rhoP ms' = rhos ops rhoP ms := by
  show ms'.map (rhoP ∘ ops.params) = ms.map (rhoP ∘ ops.params)
  rw [← List.map_map, ← List.map_map, h]

theorem map_resetM_params (S : Sys ops fops chans mode eps top st rhoP Dom) (ms : List M) :
    (ms.map (resetM fops)).map ops.params = ms.map ops.params := by
  rw [List.map_map]
  exact List.map_congr_left fun m _ => S.reset_params m

/-- after the `W` setter has emptied every module the estimator is in the model's empty state -/
theorem good_reset (S : Sys ops fops chans mode eps top st rhoP Dom) (gamma_values : List α)
    (self : FSelf M) (hn : self.n = chans.length) (hlen : self.modules.length = chans.length)
    (hch : self.chIdx = positions (widths chans)) (hgam : gamma_values = chans.map (·.gamma))
    (hdom : ∀ (k : Nat) (m : M), self.modules[k]? = some m → Dom k m) (sc n : Nat) (cnt labs labels : List Nat) :
    Good chans st Dom gamma_values ⟨self.modules.map (resetM fops), self.n, self.chIdx, self.wIdx, sc, cnt, labs⟩
      { W := [], cnt := [], n := n, labels := labels } := by
  refine ⟨hn, ⟨by rw [List.length_map, hlen], ?_, ?_⟩, hch, hgam, fun _ h => (nomatch h), fun h => absurd rfl h⟩
  · rw [List.map_map, show st ∘ resetM fops = fun _ => ⟨[], []⟩ from funext S.reset_st, List.map_const', hlen,
      chanStates, show (fun k => chanState (wlens chans) k { W := [], cnt := [], n := n, labels := labels })
        = fun _ => (⟨[], []⟩ : ModState α) from rfl, List.map_const', List.length_range]
  · intro k m' hm'
    rw [List.getElem?_map] at hm'
    obtain ⟨m, hm, rfl⟩ := Option.map_eq_some_iff.1 hm'
    exact S.dom_reset k m (hdom k m hm)

theorem epochStep_labels_length {X' Wt μ θ : Type} (K : Kernel X' Wt α μ) (cfg : SearchCfg μ θ) (th0 : θ)
    (veto : ArtState Wt → X' → Nat → Bool) (s : ArtState Wt) (z : X' × Nat) :
    (epochStep K cfg th0 veto s z).labels.length = s.labels.length := by
  show ((stepFit K cfg th0 (veto s z.1) s z.1).1.labels.set z.2 _).length = _
  rw [List.length_set, (stepFit_frame K cfg th0 (veto s z.1) s z.1).2.1]

theorem epoch_labels_length {X' Wt μ θ : Type} (K : Kernel X' Wt α μ) (cfg : SearchCfg μ θ) (th0 : θ)
    (veto : ArtState Wt → X' → Nat → Bool) (zs : List (X' × Nat)) (s : ArtState Wt) :
    (zs.foldl (epochStep K cfg th0 veto) s).labels.length = s.labels.length := by
  induction zs generalizing s with
  | nil => rfl
  | cons z zs ih => rw [List.foldl_cons, ih, epochStep_labels_length]

section SampleLoop
variable (S : Sys ops fops chans mode eps top st rhoP Dom) (hne : chans ≠ []) (hl : ∀ c ∈ chans, c.LenOK)
  (gamma_values : List α) (dictEmpty dictSkip : C) (is_none : Bool)
  (reset : List α → List α → Nat → Option (List C) → Bool) (veto : List α → Nat → Bool)
  (hv_none : is_none = true → ∀ x c, veto x c = false)
  (hv_some : is_none = false → ∀ x w c ch, reset x w c ch = !veto x c)
include S hne hl hv_none hv_some

/-- one presentation inside `fit` / `partial_fit`: `step_fit`, then the label is written at position `p` of `labels_` -/
theorem present_spec (self : FSelf M) (s : ArtState (List α)) (G : Good chans st Dom gamma_values self s)
    (hlab : self.labels = s.labels) (x : List α) (hx : x.length = total chans) (p : Nat) (hp : p < s.labels.length) :
    ∃ self', ((W_get ops self.modules self.n).bind fun W =>
        (step_fit ops fops gamma_values dictEmpty dictSkip W.length self x is_none reset mode eps).bind fun r =>
          (pySetItem r.1.labels p r.2).bind fun L => some { r.1 with labels := L }) = some self' ∧
      Good chans st Dom gamma_values self'
        (epochStep (fusionKernel chans) (fusionCfg mode (· + eps) (· - eps) top) (rhos ops rhoP self.modules)
          (fun _ x c => veto x c) s (x, p)) ∧
      self'.labels = (epochStep (fusionKernel chans) (fusionCfg mode (· + eps) (· - eps) top) (rhos ops rhoP self.modules)
          (fun _ x c => veto x c) s (x, p)).labels ∧
      self'.modules.map ops.params = self.modules.map ops.params ∧
      self'.sample_counter = self.sample_counter + 1 ∧ self'.cnt = self.cnt := by
  obtain ⟨r, hr, G', hc, hpar, hsc, hcnt, hlb⟩ := step_fit_refines_stepFit S hne hl gamma_values dictEmpty dictSkip self s G x
    hx is_none reset (veto x) (fun h c => hv_none h x c) (fun h c w ch _ => hv_some h x w c ch)
  rw [G.inv.W_get S hne G.hs self.n G.n_eq, Option.bind_some, hr, Option.bind_some, pySetItem,
    if_pos (by rw [hlb, hlab]; exact hp)]
  refine ⟨_, rfl, G'.congr rfl rfl rfl rfl rfl rfl, ?_, hpar, hsc, hcnt⟩
  show r.1.labels.set p r.2 = (stepFit _ _ _ (veto x) s x).1.labels.set p (stepFit _ _ _ (veto x) s x).2
  rw [hlb, hlab, hc, (stepFit_frame _ _ _ (veto x) s x).2.1]

/-- the sample loop of `fit` (`j = 0`) and of `partial_fit` (`j = len(labels_)` before the call): the label of
presentation `i` overwrites `labels_[i + j]` -/
theorem fit_loop (j : Nat) (th0 : List α) (body : FSelf M → List α × Nat → Option (FSelf M))
    (hbody : ∀ self x i, body self (x, i) = (W_get ops self.modules self.n).bind fun W =>
      (step_fit ops fops gamma_values dictEmpty dictSkip W.length self x is_none reset mode eps).bind fun r =>
        (pySetItem r.1.labels (i + j) r.2).bind fun L => some { r.1 with labels := L }) :
    ∀ (rest : List (List α)) (i : Nat) (self : FSelf M) (s : ArtState (List α)),
      (∀ x ∈ rest, x.length = total chans) → Good chans st Dom gamma_values self s → rhos ops rhoP self.modules = th0 →
      self.labels = s.labels → i + j + rest.length ≤ s.labels.length →
      ∃ self', (rest.zipIdx i).foldlM body self = some self' ∧
        Good chans st Dom gamma_values self'
          ((rest.zipIdx (j + i)).foldl (epochStep (fusionKernel chans) (fusionCfg mode (· + eps) (· - eps) top) th0
            (fun _ x c => veto x c)) s) ∧
        self'.labels = ((rest.zipIdx (j + i)).foldl (epochStep (fusionKernel chans) (fusionCfg mode (· + eps) (· - eps) top) th0
            (fun _ x c => veto x c)) s).labels ∧
        self'.modules.map ops.params = self.modules.map ops.params ∧
        self'.sample_counter = self.sample_counter + rest.length ∧ self'.cnt = self.cnt := by
  intro rest
  induction rest with
  | nil => exact fun i self s _ G _ hlab _ => ⟨self, rfl, G, hlab, rfl, rfl, rfl⟩
  | cons x rest ih =>
    intro i self s hxs G hth hlab hlen
    rw [List.length_cons] at hlen
    obtain ⟨self1, h1, G1, hlab1, hp1, hsc1, hcnt1⟩ := present_spec S hne hl gamma_values dictEmpty dictSkip is_none reset
      veto hv_none hv_some self s G hlab x (hxs x List.mem_cons_self) (i + j) (by omega)
    rw [hth, Nat.add_comm i j] at G1 hlab1
    obtain ⟨self', h2, G2, hlab2, hp2, hsc2, hcnt2⟩ := ih (i + 1) self1 _ (fun x' hx' => hxs x' (List.mem_cons_of_mem _ hx'))
      G1 ((rhos_congr hp1).trans hth) hlab1 (by rw [epochStep_labels_length]; omega)
    rw [List.zipIdx_cons, List.foldlM_cons, hbody, h1, List.zipIdx_cons, List.foldl_cons]
    exact ⟨self', h2, G2, hlab2, hp2.trans hp1, by rw [hsc2, hsc1, List.length_cons]; omega, hcnt2.trans hcnt1⟩

/-- the loop of `partial_fit` writes into the zero-padded tail of `labels_`; read as appended labels this is the
model's `partialFit` -/
theorem pf_loop (body : FSelf M → List α × Nat → Option (FSelf M)) {j : Nat}
    (hbody : ∀ self x i, body self (x, i) = (W_get ops self.modules self.n).bind fun W =>
      (step_fit ops fops gamma_values dictEmpty dictSkip W.length self x is_none reset mode eps).bind fun r =>
        (pySetItem r.1.labels (i + j) r.2).bind fun L => some { r.1 with labels := L })
    (X : List (List α)) (self : FSelf M) (s : ArtState (List α)) (hX : ∀ x ∈ X, x.length = total chans)
    (G : Good chans st Dom gamma_values self s) {th0 : List α} (hth : rhos ops rhoP self.modules = th0)
    (hlab : self.labels = s.labels ++ List.replicate X.length 0) (hj : j = s.labels.length) :
    ∃ self', (X.zipIdx 0).foldlM body self = some self' ∧
      Good chans st Dom gamma_values self'
        (partialFit (fusionKernel chans) (fusionCfg mode (· + eps) (· - eps) top) th0 (fun _ x c => veto x c) s X) ∧
      self'.labels = (partialFit (fusionKernel chans) (fusionCfg mode (· + eps) (· - eps) top) th0
        (fun _ x c => veto x c) s X).labels ∧
      self'.modules.map ops.params = self.modules.map ops.params ∧
      self'.sample_counter = self.sample_counter + X.length ∧ self'.cnt = self.cnt := by
  have h := fit_loop S hne hl gamma_values dictEmpty dictSkip is_none reset veto hv_none hv_some j th0 body hbody X 0 self
    { s with labels := s.labels ++ List.replicate X.length 0 } hX (G.congr rfl rfl rfl rfl rfl rfl) hth hlab
    (by rw [List.length_append, List.length_replicate, hj, Nat.zero_add])
  rwa [hj, Nat.add_zero, Control.epoch_fold_eq_train_fold _ _ _ veto X _ s _ List.length_replicate rfl] at h

end SampleLoop

/-- **`FusionART.partial_fit` on an estimator that was trained before** (its modules have a `W`): the batch is
presented sample by sample, the modules stay the projections of the fused model run `partialFit (fusionKernel chans)`,
`labels_` is extended by the labels of that run, the modules' params are the ones found. -/
theorem partial_fit_spec {ops : ModOps M α P C Bool} {fops : FitOps M α P} {chans : List (Chan α)} {mode : MT}
    {eps top : α} {st : M → ModState α} {rhoP : P → α} {Dom : Nat → M → Prop} (S : Sys ops fops chans mode eps top st rhoP Dom) (hne : chans ≠ [])
    (hl : ∀ c ∈ chans, c.LenOK) (gamma_values : List α) (dictEmpty dictSkip : C)
    (self : FSelf M) (s : ArtState (List α)) (G : Good chans st Dom gamma_values self s) (hlab : self.labels = s.labels)
    (hhas : ∀ m, self.modules[0]? = some m → fops.hasW m = true)
    (X : List (List α)) (hX : ∀ x ∈ X, x.length = total chans)
    (is_none : Bool) (reset : List α → List α → Nat → Option (List C) → Bool) (veto : List α → Nat → Bool)
    (hv_none : is_none = true → ∀ x c, veto x c = false)
    (hv_some : is_none = false → ∀ x w c ch, reset x w c ch = !veto x c) :
    ∃ self', partial_fit ops fops gamma_values dictEmpty dictSkip self X is_none reset mode eps = some self' ∧
      Good chans st Dom gamma_values self'
        (partialFit (fusionKernel chans) (fusionCfg mode (· + eps) (· - eps) top) (rhos ops rhoP self.modules)
          (fun _ x c => veto x c) s X) ∧
      self'.labels = (partialFit (fusionKernel chans) (fusionCfg mode (· + eps) (· - eps) top) (rhos ops rhoP self.modules)
          (fun _ x c => veto x c) s X).labels ∧
      self'.modules.map ops.params = self.modules.map ops.params ∧
      self'.sample_counter = self.sample_counter + X.length ∧ self'.cnt = self.cnt := by
  obtain ⟨m0, h0⟩ : ∃ m0, self.modules[0]? = some m0 :=
    ⟨_, List.getElem?_eq_getElem (G.inv.1 ▸ List.length_pos_of_ne_nil hne)⟩
  unfold partial_fit
  dsimp only
  rw [h0, some_bind, hhas m0 h0]
  exact pf_loop S hne hl gamma_values dictEmpty dictSkip is_none reset veto hv_none hv_some _ (fun _ _ _ => rfl) X
    { self with labels := self.labels ++ List.replicate X.length 0 } s hX (G.congr rfl rfl rfl rfl rfl rfl) rfl
    (congrArg (· ++ _) hlab) (congrArg List.length hlab)

/-- **`FusionART.partial_fit` on a fresh estimator** (`hasattr(self.modules[0], "W")` is false): the `W` setter empties
every module, then the batch is presented; the modules end as the projections of the fused model run from the empty
state, `labels_` are its labels. -/
theorem partial_fit_fresh {ops : ModOps M α P C Bool} {fops : FitOps M α P} {chans : List (Chan α)} {mode : MT}
    {eps top : α} {st : M → ModState α} {rhoP : P → α} {Dom : Nat → M → Prop} (S : Sys ops fops chans mode eps top st rhoP Dom) (hne : chans ≠ [])
    (hl : ∀ c ∈ chans, c.LenOK) (gamma_values : List α) (dictEmpty dictSkip : C)
    (self : FSelf M) (hn : self.n = chans.length) (hlen : self.modules.length = chans.length)
    (hch : self.chIdx = positions (widths chans)) (hgam : gamma_values = chans.map (·.gamma))
    (hdom : ∀ (k : Nat) (m : M), self.modules[k]? = some m → Dom k m)
    (hhas : ∀ m, self.modules[0]? = some m → fops.hasW m = false)
    (X : List (List α)) (hX : ∀ x ∈ X, x.length = total chans)
    (is_none : Bool) (reset : List α → List α → Nat → Option (List C) → Bool) (veto : List α → Nat → Bool)
    (hv_none : is_none = true → ∀ x c, veto x c = false)
    (hv_some : is_none = false → ∀ x w c ch, reset x w c ch = !veto x c) :
    ∃ self', partial_fit ops fops gamma_values dictEmpty dictSkip self X is_none reset mode eps = some self' ∧
      Good chans st Dom gamma_values self'
        (partialFit (fusionKernel chans) (fusionCfg mode (· + eps) (· - eps) top) (rhos ops rhoP self.modules)
          (fun _ x c => veto x c) {} X) ∧
      self'.labels = (partialFit (fusionKernel chans) (fusionCfg mode (· + eps) (· - eps) top) (rhos ops rhoP self.modules)
          (fun _ x c => veto x c) {} X).labels ∧
      self'.modules.map ops.params = self.modules.map ops.params ∧
      self'.sample_counter = self.sample_counter + X.length ∧ self'.cnt = self.cnt := by
  obtain ⟨m0, h0⟩ : ∃ m0, self.modules[0]? = some m0 :=
    ⟨_, List.getElem?_eq_getElem (hlen ▸ List.length_pos_of_ne_nil hne)⟩
  have hpar := map_resetM_params S self.modules
  unfold partial_fit
  dsimp only
  rw [h0, some_bind, hhas m0 h0, W_set_nil_spec fops self (hn.trans hlen.symm), ← rhos_congr hpar, ← hpar]
  exact pf_loop S hne hl gamma_values dictEmpty dictSkip is_none reset veto hv_none hv_some _ (fun _ _ _ => rfl) X _ {} hX
    (good_reset S gamma_values self hn hlen hch hgam hdom self.sample_counter 0 self.cnt _ []) rfl rfl rfl

/-- **`BaseART.fit` executed on a FusionART**: the `W` setter empties every module, the counters and labels are reset,
then `max_iter` epochs present the whole batch; the modules end as the projections of the fused model's `fitEpochs`,
`labels_` are its labels, the modules' params are the ones found. -/
theorem fit_spec {ops : ModOps M α P C Bool} {fops : FitOps M α P} {chans : List (Chan α)} {mode : MT}
    {eps top : α} {st : M → ModState α} {rhoP : P → α} {Dom : Nat → M → Prop} (S : Sys ops fops chans mode eps top st rhoP Dom) (hne : chans ≠ [])
    (hl : ∀ c ∈ chans, c.LenOK) (gamma_values : List α) (dictEmpty dictSkip : C)
    (self : FSelf M) (hn : self.n = chans.length) (hlen : self.modules.length = chans.length)
    (hch : self.chIdx = positions (widths chans)) (hgam : gamma_values = chans.map (·.gamma))
    (hdom : ∀ (k : Nat) (m : M), self.modules[k]? = some m → Dom k m)
    (X : List (List α)) (hX : ∀ x ∈ X, x.length = total chans)
    (is_none : Bool) (reset : List α → List α → Nat → Option (List C) → Bool) (veto : List α → Nat → Bool)
    (hv_none : is_none = true → ∀ x c, veto x c = false)
    (hv_some : is_none = false → ∀ x w c ch, reset x w c ch = !veto x c) (max_iter : Nat) (verbose : Bool) :
    ∃ self', Art.Gen.FusionARTFit.fit ops fops gamma_values dictEmpty dictSkip self X is_none reset max_iter mode eps verbose = some self' ∧
      Good chans st Dom gamma_values self'
        (fitEpochs (fusionKernel chans) (fusionCfg mode (· + eps) (· - eps) top) (rhos ops rhoP self.modules)
          (fun _ x c => veto x c) max_iter X) ∧
      self'.labels = (fitEpochs (fusionKernel chans) (fusionCfg mode (· + eps) (· - eps) top) (rhos ops rhoP self.modules)
          (fun _ x c => veto x c) max_iter X).labels ∧
      self'.modules.map ops.params = self.modules.map ops.params ∧
      self'.sample_counter = max_iter * X.length ∧ self'.cnt = [] := by
  have hpar := map_resetM_params S self.modules
  -- the epochs: each is one pass of the sample loop over a label vector of the length of the batch
  have hep : ∀ (body : FSelf M → List α × Nat → Option (FSelf M)),
      (∀ self x i, body self (x, i) = (W_get ops self.modules self.n).bind fun W =>
        (step_fit ops fops gamma_values dictEmpty dictSkip W.length self x is_none reset mode eps).bind fun r =>
          (pySetItem r.1.labels (i + 0) r.2).bind fun L => some { r.1 with labels := L }) →
      ∀ (l : List Nat) (self1 : FSelf M) (s : ArtState (List α)), Good chans st Dom gamma_values self1 s →
      rhos ops rhoP self1.modules = rhos ops rhoP self.modules → self1.labels = s.labels → s.labels.length = X.length →
      ∃ self', l.foldlM (fun self2 (_ : Nat) => (X.zipIdx 0).foldlM body self2) self1 = some self' ∧
        Good chans st Dom gamma_values self'
          (l.foldl (fun s _ => (X.zipIdx).foldl (epochStep (fusionKernel chans) (fusionCfg mode (· + eps) (· - eps) top)
            (rhos ops rhoP self.modules) (fun _ x c => veto x c)) s) s) ∧
        self'.labels = (l.foldl (fun s _ => (X.zipIdx).foldl (epochStep (fusionKernel chans)
            (fusionCfg mode (· + eps) (· - eps) top) (rhos ops rhoP self.modules) (fun _ x c => veto x c)) s) s).labels ∧
        self'.modules.map ops.params = self1.modules.map ops.params ∧
        self'.sample_counter = self1.sample_counter + l.length * X.length ∧ self'.cnt = self1.cnt := by
    intro body hbody l
    induction l with
    | nil => exact fun self1 s G _ hlab _ => ⟨self1, rfl, G, hlab, rfl, by rw [List.length_nil, Nat.zero_mul]; rfl, rfl⟩
    | cons e l ih =>
      intro self1 s G hth hlab hlen'
      obtain ⟨self2, h1, h2, h3, h4, h5, h6⟩ := fit_loop S hne hl gamma_values dictEmpty dictSkip is_none reset veto hv_none
        hv_some 0 (rhos ops rhoP self.modules) body hbody X 0 self1 s hX G hth hlab (by omega)
      obtain ⟨self', k1, k2, k3, k4, k5, k6⟩ := ih self2 _ h2 ((rhos_congr h4).trans hth) h3
        ((epoch_labels_length _ _ _ _ _ _).trans hlen')
      refine ⟨self', ?_, k2, k3, k4.trans h4, ?_, k6.trans h6⟩
      · rw [List.foldlM_cons, h1]
        exact k1
      · rw [k5, h5, List.length_cons, Nat.succ_mul]
        omega
  have key := fun body hbody => hep body hbody (List.range max_iter) _ _
    (good_reset S gamma_values self hn hlen hch hgam hdom 0 0 [] (List.replicate X.length 0) (List.replicate X.length 0))
    (rhos_congr hpar) rfl List.length_replicate
  unfold Art.Gen.FusionARTFit.fit
  dsimp only
  simp only [ite_self]
  rw [W_set_nil_spec fops self (hn.trans hlen.symm), some_bind, ← hpar,
    show max_iter * X.length = 0 + (List.range max_iter).length * X.length by rw [List.length_range, Nat.zero_add]]
  exact key _ (fun _ _ _ => rfl)

/-! ### the C10 theorems, for the generated training code -/

/-- the generated `partial_fit` of a fresh FusionART = the training loop of the model as the code runs it on the module
states (`modsRun`, the object of `C10.fusion_modules_are_projections` / `fusion_counts_equal`) -/
theorem gen_partial_fit_modsRun {ops : ModOps M α P C Bool} {fops : FitOps M α P} {chans : List (Chan α)} {mode : MT}
    {eps top : α} {st : M → ModState α} {rhoP : P → α} {Dom : Nat → M → Prop} (S : Sys ops fops chans mode eps top st rhoP Dom) (hne : chans ≠ [])
    (hl : ∀ c ∈ chans, c.LenOK) (gamma_values : List α) (dictEmpty dictSkip : C)
    (self : FSelf M) (hn : self.n = chans.length) (hlen : self.modules.length = chans.length)
    (hch : self.chIdx = positions (widths chans)) (hgam : gamma_values = chans.map (·.gamma))
    (hdom : ∀ (k : Nat) (m : M), self.modules[k]? = some m → Dom k m)
    (hhas : ∀ m, self.modules[0]? = some m → fops.hasW m = false)
    (X : List (List α)) (hX : ∀ x ∈ X, x.length = total chans)
    (is_none : Bool) (reset : List α → List α → Nat → Option (List C) → Bool) (veto : List α → Nat → Bool)
    (hv_none : is_none = true → ∀ x c, veto x c = false)
    (hv_some : is_none = false → ∀ x w c ch, reset x w c ch = !veto x c) :
    ∃ self', partial_fit ops fops gamma_values dictEmpty dictSkip self X is_none reset mode eps = some self' ∧
      (self'.modules.map st, self'.labels) = modsRun chans (fusionCfg mode (· + eps) (· - eps) top)
        (rhos ops rhoP self.modules) veto (chanStates chans {}, []) X := by
  obtain ⟨self', h1, G, h3, _⟩ := partial_fit_fresh S hne hl gamma_values dictEmpty dictSkip self hn hlen hch hgam hdom hhas X hX
    is_none reset veto hv_none hv_some
  refine ⟨self', h1, ?_⟩
  rw [C10.fusion_modules_are_projections chans hne, G.inv.2.1, h3]

/-- **All channels always hold the same number of categories** — after any history executed by the generated
`partial_fit` (any mode, epsilon, reset function): every module has exactly as many weights and as many counters as
the fused model has categories, and there is one module per channel. -/
theorem gen_counts_equal {ops : ModOps M α P C Bool} {fops : FitOps M α P} {chans : List (Chan α)} {mode : MT}
    {eps top : α} {st : M → ModState α} {rhoP : P → α} {Dom : Nat → M → Prop} (S : Sys ops fops chans mode eps top st rhoP Dom) (hne : chans ≠ [])
    (hl : ∀ c ∈ chans, c.LenOK) (gamma_values : List α) (dictEmpty dictSkip : C)
    (self : FSelf M) (hn : self.n = chans.length) (hlen : self.modules.length = chans.length)
    (hch : self.chIdx = positions (widths chans)) (hgam : gamma_values = chans.map (·.gamma))
    (hdom : ∀ (k : Nat) (m : M), self.modules[k]? = some m → Dom k m)
    (hhas : ∀ m, self.modules[0]? = some m → fops.hasW m = false)
    (X : List (List α)) (hX : ∀ x ∈ X, x.length = total chans)
    (is_none : Bool) (reset : List α → List α → Nat → Option (List C) → Bool) (veto : List α → Nat → Bool)
    (hv_none : is_none = true → ∀ x c, veto x c = false)
    (hv_some : is_none = false → ∀ x w c ch, reset x w c ch = !veto x c) :
    ∃ self', partial_fit ops fops gamma_values dictEmpty dictSkip self X is_none reset mode eps = some self' ∧
      self'.modules.length = chans.length ∧
      ∀ m ∈ self'.modules,
        (st m).W.length = (partialFit (fusionKernel chans) (fusionCfg mode (· + eps) (· - eps) top)
          (rhos ops rhoP self.modules) (fun _ x c => veto x c) {} X).W.length ∧
        (st m).cnt.length = (partialFit (fusionKernel chans) (fusionCfg mode (· + eps) (· - eps) top)
          (rhos ops rhoP self.modules) (fun _ x c => veto x c) {} X).W.length := by
  obtain ⟨self', h1, h2⟩ := gen_partial_fit_modsRun S hne hl gamma_values dictEmpty dictSkip self hn hlen hch hgam hdom hhas X hX
    is_none reset veto hv_none hv_some
  obtain ⟨c1, c2⟩ := C10.fusion_counts_equal chans hne (fusionCfg mode (· + eps) (· - eps) top)
    (rhos ops rhoP self.modules) veto X
  rw [← h2] at c1 c2
  simp only [List.length_map] at c1
  exact ⟨self', h1, c1, fun m hm => c2 (st m) (List.mem_map_of_mem hm)⟩

/-- **Every channel module stores exactly what its own rule computes on its slices** — for the generated
`partial_fit`: category `j` of module `k` is module `k`'s rule folded over the channel-`k` slices of the samples the
generated code labelled `j` (and it does not exist iff no sample got that label). -/
theorem gen_channel_states {ops : ModOps M α P C Bool} {fops : FitOps M α P} {chans : List (Chan α)} {mode : MT}
    {eps top : α} {st : M → ModState α} {rhoP : P → α} {Dom : Nat → M → Prop} (S : Sys ops fops chans mode eps top st rhoP Dom) (hne : chans ≠ [])
    (hl : ∀ c ∈ chans, c.LenOK) (gamma_values : List α) (dictEmpty dictSkip : C)
    (self : FSelf M) (hn : self.n = chans.length) (hlen : self.modules.length = chans.length)
    (hch : self.chIdx = positions (widths chans)) (hgam : gamma_values = chans.map (·.gamma))
    (hdom : ∀ (k : Nat) (m : M), self.modules[k]? = some m → Dom k m)
    (hhas : ∀ m, self.modules[0]? = some m → fops.hasW m = false)
    (X : List (List α)) (hX : ∀ x ∈ X, x.length = total chans)
    (is_none : Bool) (reset : List α → List α → Nat → Option (List C) → Bool) (veto : List α → Nat → Bool)
    (hv_none : is_none = true → ∀ x c, veto x c = false)
    (hv_some : is_none = false → ∀ x w c ch, reset x w c ch = !veto x c) :
    ∃ self', partial_fit ops fops gamma_values dictEmpty dictSkip self X is_none reset mode eps = some self' ∧
      ∀ (k : Nat) (c : Chan α) (m : M), chans[k]? = some c → self'.modules[k]? = some m → ∀ j : Nat,
        (st m).W[j]? = foldMembers c.K (members (X.map (slice (widths chans) k)) self'.labels j) := by
  obtain ⟨self', h1, G, h3, _⟩ := partial_fit_fresh S hne hl gamma_values dictEmpty dictSkip self hn hlen hch hgam hdom hhas X hX
    is_none reset veto hv_none hv_some
  refine ⟨self', h1, ?_⟩
  intro k c m hc hm j
  rw [G.inv.st_at k m hm, h3]
  exact C10.fusion_channel_states chans hl _ _ _ X hX k c hc j

/-- **The fused `W` is the concatenation of the channel weights** — for the generated code: after the generated
`partial_fit`, the generated `W` property returns, category by category, the concatenation of the modules' weights,
and that list is the fused model's weight list. -/
theorem gen_W_concat {ops : ModOps M α P C Bool} {fops : FitOps M α P} {chans : List (Chan α)} {mode : MT}
    {eps top : α} {st : M → ModState α} {rhoP : P → α} {Dom : Nat → M → Prop} (S : Sys ops fops chans mode eps top st rhoP Dom) (hne : chans ≠ [])
    (hl : ∀ c ∈ chans, c.LenOK) (gamma_values : List α) (dictEmpty dictSkip : C)
    (self : FSelf M) (hn : self.n = chans.length) (hlen : self.modules.length = chans.length)
    (hch : self.chIdx = positions (widths chans)) (hgam : gamma_values = chans.map (·.gamma))
    (hdom : ∀ (k : Nat) (m : M), self.modules[k]? = some m → Dom k m)
    (hhas : ∀ m, self.modules[0]? = some m → fops.hasW m = false)
    (X : List (List α)) (hX : ∀ x ∈ X, x.length = total chans)
    (is_none : Bool) (reset : List α → List α → Nat → Option (List C) → Bool) (veto : List α → Nat → Bool)
    (hv_none : is_none = true → ∀ x c, veto x c = false)
    (hv_some : is_none = false → ∀ x w c ch, reset x w c ch = !veto x c) :
    ∃ self', partial_fit ops fops gamma_values dictEmpty dictSkip self X is_none reset mode eps = some self' ∧
      W_get ops self'.modules self'.n = some (fusedW (self'.modules.map st)) ∧
      fusedW (self'.modules.map st) = (partialFit (fusionKernel chans) (fusionCfg mode (· + eps) (· - eps) top)
          (rhos ops rhoP self.modules) (fun _ x c => veto x c) {} X).W := by
  obtain ⟨self', h1, G, h3, _⟩ := partial_fit_fresh S hne hl gamma_values dictEmpty dictSkip self hn hlen hch hgam hdom hhas X hX
    is_none reset veto hv_none hv_some
  have hc := C10.fusion_W_concat chans hne (fusionCfg mode (· + eps) (· - eps) top) (rhos ops rhoP self.modules)
    (fun _ x c => veto x c) X
  refine ⟨self', h1, ?_, ?_⟩
  · rw [G.inv.2.1, hc]
    exact G.inv.W_get S hne G.hs self'.n G.n_eq
  · rw [G.inv.2.1, hc]

/-- **One channel with gamma 1 behaves as the bare module** — for the generated code: the generated `partial_fit` of a
FusionART with a single channel of weight 1 leaves a `W` property, labels and counters that are exactly those of the
bare module's own training run (`partialFit c.K` under the scalar vigilance configuration). -/
theorem gen_single_channel {ops : ModOps M α P C Bool} {fops : FitOps M α P} (c : Chan α) {mode : MT}
    {eps top : α} {st : M → ModState α} {rhoP : P → α} {Dom : Nat → M → Prop} (S : Sys ops fops [c] mode eps top st rhoP Dom)
    (hγ : c.gamma = 1) (hl : c.LenOK) (gamma_values : List α) (dictEmpty dictSkip : C)
    (self : FSelf M) (m0 : M) (hmods : self.modules = [m0]) (hn : self.n = 1)
    (hch : self.chIdx = positions [c.width]) (hgam : gamma_values = [c.gamma]) (hdom : Dom 0 m0)
    (hhas : fops.hasW m0 = false)
    (X : List (List α)) (hX : ∀ x ∈ X, x.length = c.width)
    (is_none : Bool) (reset : List α → List α → Nat → Option (List C) → Bool) (veto : List α → Nat → Bool)
    (hv_none : is_none = true → ∀ x c, veto x c = false)
    (hv_some : is_none = false → ∀ x w c ch, reset x w c ch = !veto x c) :
    ∃ self', partial_fit ops fops gamma_values dictEmpty dictSkip self X is_none reset mode eps = some self' ∧
      W_get ops self'.modules self'.n = some (partialFit c.K (scalarCfg mode false (· + eps) (· - eps) top)
        (rhoP (ops.params m0)) (fun _ x c => veto x c) {} X).W ∧
      self'.labels = (partialFit c.K (scalarCfg mode false (· + eps) (· - eps) top)
        (rhoP (ops.params m0)) (fun _ x c => veto x c) {} X).labels ∧
      ∀ m ∈ self'.modules, (st m).cnt = (partialFit c.K (scalarCfg mode false (· + eps) (· - eps) top)
        (rhoP (ops.params m0)) (fun _ x c => veto x c) {} X).cnt := by
  obtain ⟨self', h1, G, h3, _⟩ := partial_fit_fresh S (List.cons_ne_nil c []) (fun c' hc' => List.mem_singleton.1 hc' ▸ hl)
    gamma_values dictEmpty dictSkip self hn (congrArg List.length hmods) hch hgam
    (fun k m hm => by
      rw [hmods] at hm
      cases k with
      | zero => cases hm; exact hdom
      | succ k => cases hm)
    (fun m hm => by rw [hmods] at hm; cases hm; exact hhas) X hX is_none reset veto hv_none hv_some
  have hrho : rhos ops rhoP self.modules = [rhoP (ops.params m0)] := by rw [rhos, hmods]; rfl
  rw [hrho, C10.fusion_single_channel c hγ hl mode (· + eps) (· - eps) top (rhoP (ops.params m0))
    (fun _ x c => veto x c) {} X (fun _ h => (nomatch h)) hX] at G h3
  refine ⟨self', h1, G.inv.W_get S (List.cons_ne_nil c []) G.hs self'.n G.n_eq, h3, fun m hm => ?_⟩
  obtain ⟨k, hk⟩ := List.getElem?_of_mem hm
  rw [G.inv.st_at k m hk]
  rfl

end Train

/-! ### the contract is met by elementary modules with a scalar vigilance, with the decision tables taken from the
GENERATED `_match_tracking` / `match_criterion_bin` of ktrans (ArtGen/Kernels.lean); every channel may have its own kernel -/
section Scalar
variable {β : Type} [Field β] [LinearOrder β] [IsStrictOrderedRing β]

/-- an elementary module as an object: its kernel (class + hyper-parameters other than the vigilance), weights,
counters, the vigilance `rho` (= its `params`), and whether the attribute `W` exists -/
structure SMod (β : Type) where
  K : Kernel (List β) (List β) β β
  W : List (List β)
  cnt : List Nat
  rho : β
  hasW : Bool

/-- the methods FusionART calls on such a module; a cache is (match value, result of the binary test) -/
def sOps (inf : β) : ModOps (SMod β) β β (β × Bool) Bool where
  category_choice := fun m xi wi _ => (m.K.choice m.W xi wi, (0, false))
  match_criterion_bin := fun m xi wi rho _ strict =>
    let b := Gen.BaseART.match_bin (fun a b => if strict then decide (b < a) else decide (b ≤ a)) (m.K.matchv xi wi) rho
    (b, (m.K.matchv xi wi, b))
  update := fun m xi wi _ _ => m.K.update xi wi
  new_weight := fun m xi _ => m.K.newW xi
  match_tracking := fun m cache eps rho mt =>
    ((Gen.BaseART.match_tracking inf mt cache.1 eps rho).2, { m with rho := (Gen.BaseART.match_tracking inf mt cache.1 eps rho).1 })
  add_weight := fun m v => { m with W := m.W ++ [v], cnt := m.cnt ++ [1] }
  set_weight := fun m c v => { m with W := m.W.set c v, cnt := m.cnt.set c (m.cnt.getD c 0 + 1) }
  params := fun m => m.rho
  W := fun m => m.W
  n_clusters := fun m => m.W.length
  cache_match_criterion_bin := fun c => c.2

def sFops : FitOps (SMod β) β β where
  set_params := fun m p => { m with rho := p }
  set_W := fun m ws => { m with W := ws, hasW := true }
  set_cnt := fun m cs => { m with cnt := cs }
  set_n := fun m _ => m
  hasW := fun m => m.hasW

/-- **The contract holds** for every list of channels, mode, epsilon: module `k` is any object whose kernel is channel `k`'s -/
theorem scalar_sys (chans : List (Chan β)) (mode : MT) (eps inf : β) :
    Sys (sOps inf) sFops chans mode eps inf (fun m => ⟨m.W, m.cnt⟩) id
      (fun k m => ∃ c, chans[k]? = some c ∧ m.K = c.K) where
  W_eq := fun _ => rfl
  ncl := fun _ => rfl
  choice := fun k c hc m ⟨c', hc', hK⟩ xi wi => by
    cases hc.symm.trans hc'
    show m.K.choice m.W xi wi = c.K.choice m.W xi wi
    rw [hK]
  bin := fun k c hc m ⟨c', hc', hK⟩ xi wi cc => by
    cases hc.symm.trans hc'
    simp only [sOps, hK, id]
    cases mode <;> rfl
  bin_cache := fun _ _ _ _ _ => rfl
  track := fun k c hc m ⟨c', hc', hK⟩ xi wi cc => by
    cases hc.symm.trans hc'
    refine ⟨?_, ?_, rfl, c, hc, hK⟩
    · simp only [sOps, base_match_tracking]
      rfl
    · simp only [sOps, id, base_match_tracking, hK]
      rfl
  update := fun k c hc m ⟨c', hc', hK⟩ xi wi cc => by
    cases hc.symm.trans hc'
    show m.K.update xi wi = c.K.update xi wi
    rw [hK]
  newW := fun k c hc m ⟨c', hc', hK⟩ xi => by
    cases hc.symm.trans hc'
    show m.K.newW xi = c.K.newW xi
    rw [hK]
  add_st := fun _ _ => rfl
  add_params := fun _ _ => rfl
  set_st := fun _ _ _ => rfl
  set_params := fun _ _ _ => rfl
  setp_params := fun _ _ => rfl
  setp_st := fun _ _ => rfl
  reset_st := fun _ => rfl
  reset_params := fun _ => rfl
  dom_add := fun _ _ _ h => h
  dom_set := fun _ _ _ _ h => h
  dom_setp := fun _ _ _ h => h
  dom_reset := fun _ _ h => h

end Scalar

/-! ### the generated code runs: two FuzzyART channels over ℚ, a fresh FusionART, `partial_fit` with MT+ -/
section Example

private def exK : Kernel (List ℚ) (List ℚ) ℚ ℚ := fuzzyKernel (1/100 : ℚ) 1 2

private def exChans : List (Chan ℚ) := [⟨exK, 4, 1/4, 4⟩, ⟨exK, 4, 3/4, 4⟩]

/-- a FusionART straight out of its constructor: no module has a `W` yet, `_weight_indices = _channel_indices` -/
private def exSelf : FSelf (SMod ℚ) :=
  { modules := [⟨exK, [], [], 1/2, false⟩, ⟨exK, [], [], 3/4, false⟩], n := 2,
    chIdx := get_channel_position_tuples [4, 4], wIdx := get_channel_position_tuples [4, 4] }

private def exX : List (List ℚ) :=
  [[1/2, 1/2, 1/2, 1/2, 1/4, 1/2, 3/4, 1/2], [1/2, 1/4, 1/2, 3/4, 1, 0, 0, 1], [1/2, 1/2, 1/2, 1/2, 1/4, 1/2, 3/4, 1/2]]

/-- the generated `partial_fit`, run on that object: three presentations, two categories, the labels, and every module
ends with two weights (its slices) -/
example : ((partial_fit (sOps (1000 : ℚ)) sFops [1/4, 3/4] (0, false) (0, false) exSelf exX true (fun _ _ _ _ => true)
    MT.plus (1/1000)).map (fun o => (o.labels, o.sample_counter, o.modules.map (·.W.length), o.modules.map (·.cnt))))
    = some ([0, 1, 0], 3, [2, 2], [[2, 1], [2, 1]]) := by
  decide +kernel

/-- … and the hypotheses of `partial_fit_fresh` / the C10 transports hold for it -/
example : ∃ self', partial_fit (sOps (1000 : ℚ)) sFops [1/4, 3/4] (0, false) (0, false) exSelf exX true
      (fun _ _ _ _ => true) MT.plus (1/1000) = some self' ∧
    self'.modules.length = exChans.length ∧
    ∀ m ∈ self'.modules,
      m.W.length = (partialFit (fusionKernel exChans) (fusionCfg MT.plus (· + (1/1000 : ℚ)) (· - 1/1000) 1000)
        [1/2, 3/4] (fun _ _ _ => false) {} exX).W.length ∧
      m.cnt.length = (partialFit (fusionKernel exChans) (fusionCfg MT.plus (· + (1/1000 : ℚ)) (· - 1/1000) 1000)
        [1/2, 3/4] (fun _ _ _ => false) {} exX).W.length :=
  gen_counts_equal (scalar_sys exChans MT.plus (1/1000) 1000) (List.cons_ne_nil _ _)
    (by
      intro c hc
      simp only [exChans, List.mem_cons, List.not_mem_nil, or_false] at hc
      rcases hc with rfl | rfl <;> exact C10.fuzzy_LenOK _ _ _ _ _)
    [1/4, 3/4] (0, false) (0, false) exSelf rfl rfl (by show get_channel_position_tuples [4, 4] = _; rw [fusion_positions]; rfl) rfl
    (fun k m hm =>
      match k, hm with
      | 0, hm => by cases hm; exact ⟨_, rfl, rfl⟩
      | 1, hm => by cases hm; exact ⟨_, rfl, rfl⟩
      | k + 2, hm => nomatch hm)
    (fun m hm => by cases hm; rfl)
    exX (by intro x hx; simp only [exX, List.mem_cons, List.not_mem_nil, or_false] at hx; rcases hx with rfl | rfl | rfl <;> rfl)
    true (fun _ _ _ _ => true) (fun _ _ => false) (fun _ _ _ => rfl) nofun

end Example

end Art.GenSpec.FusionFit
