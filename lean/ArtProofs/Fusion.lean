/-
ArtProofs.Fusion — lemmas about the FusionART model (`ArtModel/Fusion.lean`):
slices, channel-wise learning, the simulation principle used for the one-channel
and the channel-permutation theorems, and prediction with skipped channels.
-/
import Mathlib.Algebra.Order.Field.Basic
import Mathlib.Tactic.Ring
import Mathlib.Tactic.Linarith
import Mathlib.Data.List.Forall2
import Mathlib.Algebra.BigOperators.Group.List.Basic
import ArtProofs.Members
import ArtProofs.Predict
import ArtModel.Fusion

namespace Art.Fusion
open Art

set_option linter.unusedSectionVars false

/-! ### slices -/
section Slices
variable {β : Type}

theorem getD_of_getElem? {l : List β} {k : Nat} {a : β} (h : l[k]? = some a) (d : β) : l.getD k d = a := by
  rw [List.getD_eq_getElem?_getD, h]
  rfl

theorem getD_of_lt (l : List β) (d : β) {k : Nat} (hk : k < l.length) : l.getD k d = l[k] :=
  getD_of_getElem? (List.getElem?_eq_getElem hk) d

theorem getD_of_le (l : List β) (d : β) {k : Nat} (hk : l.length ≤ k) : l.getD k d = d := by
  rw [List.getD_eq_getElem?_getD, List.getElem?_eq_none hk]
  rfl

theorem zipIdx_map_getElem? {γ δ : Type} (l : List γ) (F : γ × Nat → δ) (k : Nat) :
    (l.zipIdx.map F)[k]? = (l[k]?).map (fun c => F (c, k)) := by
  rw [List.getElem?_map, List.getElem?_zipIdx, Option.map_map, Nat.zero_add]
  rfl

theorem zipIdx_map_length {γ δ : Type} (l : List γ) (F : γ × Nat → δ) :
    (l.zipIdx.map F).length = l.length := by
  rw [List.length_map, List.length_zipIdx]

/-- a map over `zipIdx` whose values the entries alone determine -/
theorem zipIdx_map_eq_map {γ δ : Type} (l : List γ) (F : γ × Nat → δ) (G : γ → δ)
    (h : ∀ k a, l[k]? = some a → F (a, k) = G a) : l.zipIdx.map F = l.map G := by
  apply List.ext_getElem?
  intro k
  rw [zipIdx_map_getElem?, List.getElem?_map]
  cases ha : l[k]? with
  | none => rfl
  | some a => exact congrArg some (h k a ha)

/-- the pieces have exactly the channel widths -/
def Fit (ws : List Nat) (ps : List (List β)) : Prop := List.Forall₂ (fun w p => p.length = w) ws ps

@[simp] theorem splitBy_length (ws : List Nat) (v : List β) : (splitBy ws v).length = ws.length := by
  induction ws generalizing v with
  | nil => rfl
  | cons w ws ih => rw [splitBy, List.length_cons, ih, List.length_cons]

/-- cutting a concatenation of pieces of the right widths gives the pieces back -/
theorem splitBy_flatten {ws : List Nat} {ps : List (List β)} (h : Fit ws ps) :
    splitBy ws ps.flatten = ps := by
  induction h with
  | nil => rfl
  | cons hp _ ih => rw [List.flatten_cons, splitBy, List.take_left' hp, List.drop_left' hp, ih]

/-- what survives the store / re-assemble round trip is the prefix of the data width -/
theorem stored_eq_take (ws : List Nat) (v : List β) : stored ws v = v.take ws.sum := by
  induction ws generalizing v with
  | nil => rw [List.sum_nil, List.take_zero]; rfl
  | cons w ws ih =>
    have := ih (v.drop w)
    rw [stored] at this ⊢
    rw [splitBy, List.flatten_cons, this, List.sum_cons, List.take_add]

theorem stored_of_le {ws : List Nat} {v : List β} (h : v.length ≤ ws.sum) : stored ws v = v := by
  rw [stored_eq_take, List.take_of_length_le h]

theorem stored_length_le (ws : List Nat) (v : List β) : (stored ws v).length ≤ ws.sum := by
  rw [stored_eq_take, List.length_take]
  exact Nat.min_le_left _ _

/-- cutting `w` entries off a vector at least `w + r` long leaves a piece of length `w` and at least `r` entries -/
theorem take_drop_length {w r : Nat} {v : List β} (h : w + r ≤ v.length) :
    (v.take w).length = w ∧ r ≤ (v.drop w).length :=
  ⟨by rw [List.length_take, Nat.min_eq_left (Nat.le_trans (Nat.le_add_right w r) h)],
   by rw [List.length_drop]; exact Nat.le_sub_of_add_le' h⟩

/-- a vector at least as long as the data is cut into pieces of exactly the widths -/
theorem fit_splitBy {ws : List Nat} {v : List β} (h : ws.sum ≤ v.length) : Fit ws (splitBy ws v) := by
  induction ws generalizing v with
  | nil => exact List.Forall₂.nil
  | cons w ws ih =>
    rw [List.sum_cons] at h
    exact List.Forall₂.cons (take_drop_length h).1 (ih (take_drop_length h).2)

theorem Fit.length_eq {ws : List Nat} {ps : List (List β)} (h : Fit ws ps) : ps.length = ws.length :=
  (List.Forall₂.length_eq h).symm

theorem Fit.flatten_length {ws : List Nat} {ps : List (List β)} (h : Fit ws ps) :
    ps.flatten.length = ws.sum := by
  induction h with
  | nil => rfl
  | cons hp _ ih => rw [List.flatten_cons, List.length_append, hp, ih, List.sum_cons]

theorem Fit.getD {ws : List Nat} {ps : List (List β)} (h : Fit ws ps) (k : Nat) (hk : k < ws.length) :
    (ps.getD k []).length = ws.getD k 0 := by
  rw [getD_of_lt ps [] (h.length_eq ▸ hk), getD_of_lt ws 0 hk]
  exact List.Forall₂.get h hk (h.length_eq ▸ hk)

/-- index form of `Fit` -/
theorem fit_of_getD {ws : List Nat} {ps : List (List β)} (hl : ps.length = ws.length)
    (h : ∀ k, k < ws.length → (ps.getD k []).length = ws.getD k 0) : Fit ws ps := by
  refine List.forall₂_iff_get.2 ⟨hl.symm, fun k h₁ h₂ => ?_⟩
  have := h k h₁
  rwa [getD_of_lt ps [] h₂, getD_of_lt ws 0 h₁] at this

@[simp] theorem slice_cons_zero (w : Nat) (ws : List Nat) (v : List β) :
    slice (w :: ws) 0 v = v.take w := rfl

@[simp] theorem slice_cons_succ (w : Nat) (ws : List Nat) (k : Nat) (v : List β) :
    slice (w :: ws) (k + 1) v = slice ws k (v.drop w) := rfl

theorem offset_cons_succ (w : Nat) (ws : List Nat) (k : Nat) : offset (w :: ws) (k + 1) = w + offset ws k := by
  rw [offset, List.take_succ_cons, List.sum_cons, offset]

/-- `slice ws k v` is the Python slice `v[start_k : start_k + width_k]` -/
theorem slice_eq_drop_take (ws : List Nat) (k : Nat) (v : List β) (hk : k < ws.length) :
    slice ws k v = (v.drop (offset ws k)).take (ws.getD k 0) := by
  induction ws generalizing k v with
  | nil => exact absurd hk (Nat.not_lt_zero k)
  | cons w ws ih =>
    cases k with
    | zero => rfl
    | succ k =>
      rw [slice_cons_succ, ih k (v.drop w) (Nat.lt_of_succ_lt_succ hk), List.drop_drop, offset_cons_succ,
        List.getD_cons_succ]

theorem splitBy_getElem? (ws : List Nat) (v : List β) {k : Nat} (hk : k < ws.length) :
    (splitBy ws v)[k]? = some (slice ws k v) := by
  rw [List.getElem?_eq_getElem (by rwa [splitBy_length]), slice, getD_of_lt _ _ (by rwa [splitBy_length])]

theorem slice_flatten {ws : List Nat} {ps : List (List β)} (h : Fit ws ps) (k : Nat) :
    slice ws k ps.flatten = ps.getD k [] := by
  rw [slice, splitBy_flatten h]

theorem slice_length {ws : List Nat} {v : List β} (h : ws.sum ≤ v.length) (k : Nat) (hk : k < ws.length) :
    (slice ws k v).length = ws.getD k 0 :=
  (fit_splitBy h).getD k hk

theorem slice_of_ge {ws : List Nat} (k : Nat) (v : List β) (hk : ws.length ≤ k) : slice ws k v = [] :=
  getD_of_le _ _ (by rwa [splitBy_length])

/-- all slices of a vector, in order, are its pieces -/
theorem map_slice_range (ws : List Nat) (v : List β) :
    (List.range ws.length).map (fun k => slice ws k v) = splitBy ws v := by
  apply List.ext_getElem?
  intro k
  rw [List.getElem?_map]
  by_cases hk : k < ws.length
  · rw [List.getElem?_range hk, splitBy_getElem? ws v hk]
    rfl
  · rw [List.getElem?_eq_none (by rw [List.length_range]; exact Nat.le_of_not_lt hk),
      List.getElem?_eq_none (by rw [splitBy_length]; exact Nat.le_of_not_lt hk)]
    rfl

theorem zipWith_splitBy {γ δ : Type} (F : γ → List β → δ) (l : List γ) (ws : List Nat) (v : List β)
    (h : l.length = ws.length) :
    List.zipWith F l (splitBy ws v) = l.zipIdx.map (fun ck => F ck.1 (slice ws ck.2 v)) := by
  apply List.ext_getElem?
  intro k
  rw [List.getElem?_zipWith', zipIdx_map_getElem?]
  cases hc : l[k]? with
  | none => rfl
  | some c =>
    rw [splitBy_getElem? ws v (h ▸ (List.getElem?_eq_some_iff.1 hc).1)]
    rfl

theorem splitBy_stored (ws : List Nat) (v : List β) : splitBy ws (stored ws v) = splitBy ws v := by
  rw [stored_eq_take]
  induction ws generalizing v with
  | nil => rfl
  | cons w ws ih =>
    rw [splitBy, splitBy, List.sum_cons, List.take_take, Nat.min_eq_left (Nat.le_add_right w _), List.drop_take,
      Nat.add_sub_cancel_left, ih]

theorem slice_stored (ws : List Nat) (k : Nat) (v : List β) : slice ws k (stored ws v) = slice ws k v := by
  rw [slice, splitBy_stored, slice]

end Slices

/-! ### the per-channel lists -/
section Pieces
variable {α : Type}

theorem zipIdx_map_getD {γ : Type} (l : List γ) (F : γ × Nat → List α) (k : Nat) :
    (l.zipIdx.map F).getD k [] = ((l[k]?).map (fun c => F (c, k))).getD [] := by
  rw [List.getD_eq_getElem?_getD, zipIdx_map_getElem?]

@[simp] theorem widths_length (chans : List (Chan α)) : (widths chans).length = chans.length :=
  List.length_map _

theorem widths_getD (chans : List (Chan α)) (k : Nat) (c : Chan α) (h : chans[k]? = some c) :
    (widths chans).getD k 0 = c.width :=
  getD_of_getElem? (by rw [widths, List.getElem?_map, h]; rfl) 0

@[simp] theorem wlens_length (chans : List (Chan α)) : (wlens chans).length = chans.length :=
  List.length_map _

theorem wlens_getD (chans : List (Chan α)) (k : Nat) (c : Chan α) (h : chans[k]? = some c) :
    (wlens chans).getD k 0 = c.wlen :=
  getD_of_getElem? (by rw [wlens, List.getElem?_map, h]; rfl) 0

end Pieces

/-! ### channel-wise learning -/
section Learn
variable {α : Type} [Add α] [Mul α] [Zero α] [One α]

/-- the module's weight vectors have the constant length `wlen` (true of every artlib module:
FuzzyART / ART2A `d`, HypersphereART `d+1`, EllipsoidART `2d+1`, ART1 `2d`, …) -/
def Chan.LenOK (c : Chan α) : Prop :=
  (∀ x w : List α, x.length = c.width → w.length = c.wlen → (c.K.update x w).length = c.wlen) ∧
  (∀ x : List α, x.length = c.width → (c.K.newW x).length = c.wlen)

/-- `dim_` of the FusionART: the width of a data row -/
def total (chans : List (Chan α)) : Nat := (widths chans).sum

/-- the length of a fused weight -/
def wtotal (chans : List (Chan α)) : Nat := (wlens chans).sum

theorem slice_len_chan {chans : List (Chan α)} {v : List α} (hv : v.length = total chans)
    {k : Nat} {c : Chan α} (hc : chans[k]? = some c) :
    (slice (widths chans) k v).length = c.width := by
  rw [slice_length (Nat.le_of_eq hv.symm) k (by rw [widths_length]; exact (List.getElem?_eq_some_iff.1 hc).1),
    widths_getD chans k c hc]

theorem slice_len_wchan {chans : List (Chan α)} {v : List α} (hv : v.length = wtotal chans)
    {k : Nat} {c : Chan α} (hc : chans[k]? = some c) :
    (slice (wlens chans) k v).length = c.wlen := by
  rw [slice_length (Nat.le_of_eq hv.symm) k (by rw [wlens_length]; exact (List.getElem?_eq_some_iff.1 hc).1),
    wlens_getD chans k c hc]

theorem fit_pieces (chans : List (Chan α)) (F : Chan α × Nat → List α)
    (h : ∀ k c, chans[k]? = some c → (F (c, k)).length = c.wlen) : Fit (wlens chans) (chans.zipIdx.map F) := by
  refine fit_of_getD (by rw [zipIdx_map_length, wlens_length]) fun k hk => ?_
  have hk' : k < chans.length := by rwa [wlens_length] at hk
  have hc : chans[k]? = some chans[k] := List.getElem?_eq_getElem hk'
  rw [zipIdx_map_getD, wlens_getD chans k _ hc, hc]
  exact h k _ hc

/-- pieces of the right lengths survive `set_weight` / `add_weight` and the `W` property unchanged -/
theorem stored_pieces {ws : List Nat} {ps : List (List α)} (h : Fit ws ps) : stored ws ps.flatten = ps.flatten :=
  stored_of_le (Nat.le_of_eq h.flatten_length)

variable (chans : List (Chan α)) (hl : ∀ c ∈ chans, c.LenOK)
include hl

theorem updatePieces_fit (x w : List α) (hx : x.length = total chans) (hw : w.length = wtotal chans) :
    Fit (wlens chans) (updatePieces chans x w) :=
  fit_pieces chans _ fun _ c hc =>
    (hl c (List.mem_of_getElem? hc)).1 _ _ (slice_len_chan hx hc) (slice_len_wchan hw hc)

theorem newPieces_fit (x : List α) (hx : x.length = total chans) : Fit (wlens chans) (newPieces chans x) :=
  fit_pieces chans _ fun _ c hc => (hl c (List.mem_of_getElem? hc)).2 _ (slice_len_chan hx hc)

theorem fusion_update_eq (x w : List α) (hx : x.length = total chans) (hw : w.length = wtotal chans) :
    (fusionKernel chans).update x w = (updatePieces chans x w).flatten :=
  stored_pieces (updatePieces_fit chans hl x w hx hw)

theorem fusion_new_eq (x : List α) (hx : x.length = total chans) :
    (fusionKernel chans).newW x = (newPieces chans x).flatten :=
  stored_pieces (newPieces_fit chans hl x hx)

theorem fusion_update_length (x w : List α) (hx : x.length = total chans) (hw : w.length = wtotal chans) :
    ((fusionKernel chans).update x w).length = wtotal chans := by
  rw [fusion_update_eq chans hl x w hx hw, (updatePieces_fit chans hl x w hx hw).flatten_length, wtotal]

theorem fusion_new_length (x : List α) (hx : x.length = total chans) :
    ((fusionKernel chans).newW x).length = wtotal chans := by
  rw [fusion_new_eq chans hl x hx, (newPieces_fit chans hl x hx).flatten_length, wtotal]

/-- **Learning is channel-wise**: channel `k` of the updated fused weight is module
`k`'s own rule applied to the `k`-slices of sample and weight. -/
theorem fusion_update_slice (x w : List α) (hx : x.length = total chans) (hw : w.length = wtotal chans)
    (k : Nat) (c : Chan α) (hc : chans[k]? = some c) :
    slice (wlens chans) k ((fusionKernel chans).update x w) =
      c.K.update (slice (widths chans) k x) (slice (wlens chans) k w) := by
  rw [fusion_update_eq chans hl x w hx hw, slice_flatten (updatePieces_fit chans hl x w hx hw),
    updatePieces, zipIdx_map_getD, hc]
  rfl

theorem fusion_new_slice (x : List α) (hx : x.length = total chans) (k : Nat) (c : Chan α)
    (hc : chans[k]? = some c) :
    slice (wlens chans) k ((fusionKernel chans).newW x) = c.K.newW (slice (widths chans) k x) := by
  rw [fusion_new_eq chans hl x hx, slice_flatten (newPieces_fit chans hl x hx),
    newPieces, zipIdx_map_getD, hc]
  rfl

/-- the fold of the fused rule, seen through channel `k`, is the fold of module `k`'s rule -/
theorem fold_update_slice (k : Nat) (c : Chan α) (hc : chans[k]? = some c) (ms : List (List α))
    (hms : ∀ m ∈ ms, m.length = total chans) (w : List α) (hw : w.length = wtotal chans) :
    slice (wlens chans) k (ms.foldl (fun w x => (fusionKernel chans).update x w) w) =
      (ms.map (slice (widths chans) k)).foldl (fun w x => c.K.update x w) (slice (wlens chans) k w) ∧
    (ms.foldl (fun w x => (fusionKernel chans).update x w) w).length = wtotal chans := by
  induction ms generalizing w with
  | nil => exact ⟨rfl, hw⟩
  | cons m ms ih =>
    have hm := hms m List.mem_cons_self
    rw [List.foldl_cons, List.map_cons, List.foldl_cons, ← fusion_update_slice chans hl m w hm hw k c hc]
    exact ih (fun m' h' => hms m' (List.mem_cons_of_mem m h')) _ (fusion_update_length chans hl m w hm hw)

theorem foldMembers_slice (k : Nat) (c : Chan α) (hc : chans[k]? = some c) (ms : List (List α))
    (hms : ∀ m ∈ ms, m.length = total chans) :
    (foldMembers (fusionKernel chans) ms).map (slice (wlens chans) k) =
      foldMembers c.K (ms.map (slice (widths chans) k)) := by
  cases ms with
  | nil => rfl
  | cons m ms =>
    have hm := hms m List.mem_cons_self
    rw [foldMembers, Option.map_some, List.map_cons, foldMembers,
      (fold_update_slice chans hl k c hc ms (fun m' h' => hms m' (List.mem_cons_of_mem m h')) _
        (fusion_new_length chans hl m hm)).1, fusion_new_slice chans hl m hm k c hc]

end Learn

theorem members_map {X Y : Type} (f : X → Y) (xs : List X) (labels : List Nat) (k : Nat) :
    members (xs.map f) labels k = (members xs labels k).map f := by
  unfold members
  rw [List.zip_map_left, List.filter_map, List.map_map, List.map_map]
  rfl

theorem members_subset {X : Type} (xs : List X) (labels : List Nat) (k : Nat) :
    ∀ m ∈ members xs labels k, m ∈ xs := by
  intro m hm
  obtain ⟨⟨a, b⟩, hab, rfl⟩ := List.mem_map.1 hm
  exact (List.of_mem_zip (List.mem_filter.1 hab).1).1

/-! ### invariants of the stored weights -/
section Inv
variable {X Wt α μ θ : Type} [LinearOrder α]

theorem trainStep_W_inv (K : Kernel X Wt α μ) (cfg : SearchCfg μ θ) (th0 : θ)
    (veto : ArtState Wt → X → Nat → Bool) (P : Wt → Prop) (s : ArtState Wt) (x : X)
    (hu : ∀ w, P w → P (K.update x w)) (hn : P (K.newW x)) (hs : ∀ w ∈ s.W, P w) :
    ∀ w ∈ (trainStep K cfg th0 veto s x).W, P w := by
  obtain ⟨_, _, hcase⟩ := stepFit_frame K cfg th0 (veto s x) s x
  show ∀ w ∈ (stepFit K cfg th0 (veto s x) s x).1.W, P w
  rcases hcase with ⟨_, w, hw, hW, _⟩ | ⟨_, hW, _⟩
  · rw [hW]
    intro v hv
    rcases List.mem_or_eq_of_mem_set hv with h | rfl
    · exact hs v h
    · exact hu w (hs w (List.mem_of_getElem? hw))
  · rw [hW]
    intro v hv
    rcases List.mem_append.1 hv with h | h
    · exact hs v h
    · rw [List.mem_singleton.1 h]; exact hn

theorem partialFit_W_inv (K : Kernel X Wt α μ) (cfg : SearchCfg μ θ) (th0 : θ)
    (veto : ArtState Wt → X → Nat → Bool) (P : Wt → Prop) (Q : X → Prop)
    (hu : ∀ x w, Q x → P w → P (K.update x w)) (hn : ∀ x, Q x → P (K.newW x))
    (s : ArtState Wt) (xs : List X) (hs : ∀ w ∈ s.W, P w) (hx : ∀ x ∈ xs, Q x) :
    ∀ w ∈ (partialFit K cfg th0 veto s xs).W, P w := by
  unfold partialFit
  induction xs generalizing s with
  | nil => exact hs
  | cons x xs ih =>
    have hq := hx x List.mem_cons_self
    exact ih _ (trainStep_W_inv K cfg th0 veto P s x (fun w hw => hu x w hq hw) (hn x hq) hs)
      (fun x' h' => hx x' (List.mem_cons_of_mem x h'))

end Inv

/-! ### the `W` property is the concatenation of the module weights -/
section Concat
variable {α : Type} [Add α] [Mul α] [Zero α] [One α]

/-- the module states `modules[0..n-1]` as projections of the fused state -/
def chanStates (chans : List (Chan α)) (s : ArtState (List α)) : List (ModState α) :=
  (List.range chans.length).map (fun k => chanState (wlens chans) k s)

theorem fusedW_chanStates (chans : List (Chan α)) (hne : chans ≠ []) (s : ArtState (List α))
    (hs : ∀ w ∈ s.W, w.length ≤ wtotal chans) : fusedW (chanStates chans s) = s.W := by
  have hhead : (chanStates chans s).head? = some (chanState (wlens chans) 0 s) := by
    rw [chanStates, List.head?_map, List.head?_range, if_neg (by rwa [List.length_eq_zero_iff])]
    rfl
  rw [fusedW, hhead]
  show (List.range (s.W.map (slice (wlens chans) 0)).length).map _ = _
  rw [List.length_map]
  apply List.ext_getElem?
  intro i
  rw [List.getElem?_map]
  by_cases hi : i < s.W.length
  · -- category `i`: the slices of `W[i]`, one per channel, concatenated
    have h1 : (chanStates chans s).map (fun m => m.W.getD i []) =
        (List.range (wlens chans).length).map (fun k => slice (wlens chans) k s.W[i]) := by
      rw [chanStates, List.map_map, wlens_length]
      refine List.map_congr_left fun k _ => ?_
      exact getD_of_getElem? (l := s.W.map (slice (wlens chans) k))
        (by rw [List.getElem?_map, List.getElem?_eq_getElem hi]; rfl) []
    rw [List.getElem?_range hi, Option.map_some, h1, map_slice_range, List.getElem?_eq_getElem hi]
    exact congrArg some (stored_of_le (hs _ (List.getElem_mem hi)))
  · rw [List.getElem?_eq_none (by rw [List.length_range]; exact Nat.le_of_not_lt hi),
      List.getElem?_eq_none (Nat.le_of_not_lt hi)]
    rfl

end Concat

/-! ### simulation of one estimator by another -/
section Sim
variable {α μ₁ μ₂ θ₁ θ₂ : Type} [LinearOrder α]

/-- Two searches over the same activation list whose vigilance tests agree and
whose threshold updates stay related choose the same winner. -/
theorem search_sim (cfg₁ : SearchCfg μ₁ θ₁) (cfg₂ : SearchCfg μ₂ θ₂) (M₁ : Nat → μ₁) (M₂ : Nat → μ₂)
    (veto : Nat → Bool) (R : θ₁ → θ₂ → Prop) (n : Nat)
    (hk : cfg₁.keep = cfg₂.keep) (ht : cfg₁.tilde = cfg₂.tilde)
    (hp : ∀ th₁ th₂ c, c < n → R th₁ th₂ → cfg₁.passes th₁ (M₁ c) = cfg₂.passes th₂ (M₂ c))
    (htr : ∀ th₁ th₂ c, c < n → R th₁ th₂ → R (cfg₁.track th₁ (M₁ c)) (cfg₂.track th₂ (M₂ c)))
    (fuel : Nat) (T : List (Option α)) (hT : T.length = n) (th₁ : θ₁) (th₂ : θ₂) (h : R th₁ th₂) :
    (search cfg₁ M₁ veto fuel T th₁).winner = (search cfg₂ M₂ veto fuel T th₂).winner := by
  induction fuel generalizing T th₁ th₂ with
  | zero => rfl
  | succ fuel ih =>
    rw [search_succ, search_succ]
    cases hc : nanargmax T with
    | none => rfl
    | some c =>
      have hcn : c < n := hT ▸ nanargmax_lt_length hc
      have hset : (T.set c none).length = n := by rwa [List.length_set]
      dsimp only
      rw [← hp th₁ th₂ c hcn h, ← ht, ← hk]
      -- both searches now branch on the same two tests
      cases cfg₁.passes th₁ (M₁ c) <;> cases (cfg₁.tilde || !veto c)
      · exact ih _ hset _ _ h
      · exact ih _ hset _ _ h
      · cases cfg₁.keep
        · rfl
        · exact ih _ hset _ _ (htr th₁ th₂ c hcn h)
      · rfl

end Sim

section Sim2
variable {X₁ X₂ W₁ W₂ α μ₁ μ₂ θ₁ θ₂ : Type} [LinearOrder α]

/-- `K₂` (with `cfg₂`) computes on `f x`, `g w` what `K₁` (with `cfg₁`) computes on
`x`, `w`, for inputs satisfying `Px` and weights satisfying `Pw`. -/
structure KernelSim (K₁ : Kernel X₁ W₁ α μ₁) (K₂ : Kernel X₂ W₂ α μ₂)
    (cfg₁ : SearchCfg μ₁ θ₁) (cfg₂ : SearchCfg μ₂ θ₂) (f : X₁ → X₂) (g : W₁ → W₂)
    (Px : X₁ → Prop) (Pw : W₁ → Prop) (R : θ₁ → θ₂ → Prop) : Prop where
  keep : cfg₁.keep = cfg₂.keep
  tilde : cfg₁.tilde = cfg₂.tilde
  choice : ∀ (W : List W₁) x w, (∀ v ∈ W, Pw v) → Px x → w ∈ W →
    K₂.choice (W.map g) (f x) (g w) = K₁.choice W x w
  passes : ∀ th₁ th₂ x w, R th₁ th₂ → Px x → Pw w →
    cfg₁.passes th₁ (K₁.matchv x w) = cfg₂.passes th₂ (K₂.matchv (f x) (g w))
  track : ∀ th₁ th₂ x w, R th₁ th₂ → Px x → Pw w →
    R (cfg₁.track th₁ (K₁.matchv x w)) (cfg₂.track th₂ (K₂.matchv (f x) (g w)))
  update : ∀ x w, Px x → Pw w → K₂.update (f x) (g w) = g (K₁.update x w) ∧ Pw (K₁.update x w)
  newW : ∀ x, Px x → K₂.newW (f x) = g (K₁.newW x) ∧ Pw (K₁.newW x)

/-- transport of a state along the weight map -/
def mapState (g : W₁ → W₂) (s : ArtState W₁) : ArtState W₂ :=
  { W := s.W.map g, cnt := s.cnt, n := s.n, labels := s.labels }

variable {K₁ : Kernel X₁ W₁ α μ₁} {K₂ : Kernel X₂ W₂ α μ₂} {cfg₁ : SearchCfg μ₁ θ₁}
  {cfg₂ : SearchCfg μ₂ θ₂} {f : X₁ → X₂} {g : W₁ → W₂} {Px : X₁ → Prop} {Pw : W₁ → Prop}
  {R : θ₁ → θ₂ → Prop}

theorem KernelSim.activations (h : KernelSim K₁ K₂ cfg₁ cfg₂ f g Px Pw R) (W : List W₁) (x : X₁)
    (hW : ∀ v ∈ W, Pw v) (hx : Px x) :
    Art.activations K₂ (W.map g) (f x) = Art.activations K₁ W x := by
  rw [Art.activations, Art.activations, List.map_map]
  exact List.map_congr_left fun w hw => h.choice W x w hW hx hw

theorem matchAt_map (K₁ : Kernel X₁ W₁ α μ₁) (K₂ : Kernel X₂ W₂ α μ₂) (f : X₁ → X₂) (g : W₁ → W₂) (W : List W₁)
    (x : X₁) (hW : ∀ v ∈ W, Pw v) {c : Nat} (hc : c < W.length) :
    ∃ w, Pw w ∧ Art.matchAt K₁ W x c = K₁.matchv x w ∧
      Art.matchAt K₂ (W.map g) (f x) c = K₂.matchv (f x) (g w) := by
  refine ⟨W[c], hW _ (List.getElem_mem hc), ?_, ?_⟩
  · rw [Art.matchAt, List.getElem?_eq_getElem hc]
  · rw [Art.matchAt, List.getElem?_map, List.getElem?_eq_getElem hc]
    rfl

theorem KernelSim.stepSearch (h : KernelSim K₁ K₂ cfg₁ cfg₂ f g Px Pw R) (W : List W₁) (x : X₁)
    (hW : ∀ v ∈ W, Pw v) (hx : Px x) (veto : Nat → Bool) (th₁ : θ₁) (th₂ : θ₂) (hR : R th₁ th₂) :
    (stepSearch K₂ cfg₂ th₂ veto (W.map g) (f x)).winner = (stepSearch K₁ cfg₁ th₁ veto W x).winner := by
  unfold Art.stepSearch
  rw [h.activations W x hW hx, ← h.tilde]
  refine (search_sim cfg₁ cfg₂ _ _ veto R W.length h.keep h.tilde
    (fun t₁ t₂ c hc hr => by
      obtain ⟨w, p, a, b⟩ := matchAt_map K₁ K₂ f g W x hW hc
      rw [a, b]; exact h.passes t₁ t₂ x _ hr hx p)
    (fun t₁ t₂ c hc hr => by
      obtain ⟨w, p, a, b⟩ := matchAt_map K₁ K₂ f g W x hW hc
      rw [a, b]; exact h.track t₁ t₂ x _ hr hx p)
    _ _ (by rw [strikeVetoed_length, activations_length]) th₁ th₂ hR).symm

theorem mapState_applyWinner_none (h : KernelSim K₁ K₂ cfg₁ cfg₂ f g Px Pw R) (s : ArtState W₁) (x : X₁)
    (hx : Px x) :
    applyWinner K₂ (mapState g s) (f x) none =
      (mapState g (applyWinner K₁ s x none).1, (applyWinner K₁ s x none).2) := by
  simp only [applyWinner, mapState, (h.newW x hx).1, List.map_append, List.map_cons, List.map_nil, List.length_map]

theorem KernelSim.stepFit (h : KernelSim K₁ K₂ cfg₁ cfg₂ f g Px Pw R) (s : ArtState W₁) (x : X₁)
    (hW : ∀ v ∈ s.W, Pw v) (hx : Px x) (veto : Nat → Bool) (th₁ : θ₁) (th₂ : θ₂) (hR : R th₁ th₂) :
    Art.stepFit K₂ cfg₂ th₂ veto (mapState g s) (f x) =
      (mapState g (Art.stepFit K₁ cfg₁ th₁ veto s x).1, (Art.stepFit K₁ cfg₁ th₁ veto s x).2) := by
  unfold Art.stepFit
  rw [show (mapState g s).W.isEmpty = s.W.isEmpty from List.isEmpty_map]
  split
  · exact mapState_applyWinner_none h s x hx
  · show applyWinner K₂ (mapState g s) (f x) (Art.stepSearch K₂ cfg₂ th₂ veto (s.W.map g) (f x)).winner = _
    rw [h.stepSearch s.W x hW hx veto th₁ th₂ hR]
    cases hc : (Art.stepSearch K₁ cfg₁ th₁ veto s.W x).winner with
    | none => exact mapState_applyWinner_none h s x hx
    | some c =>
      have hlt := stepSearch_winner_lt K₁ cfg₁ th₁ veto s.W x c hc
      have e1 : s.W[c]? = some s.W[c] := List.getElem?_eq_getElem hlt
      simp only [applyWinner, mapState, e1, List.getElem?_map, Option.map_some,
        (h.update x s.W[c] hx (hW _ (List.getElem_mem hlt))).1, List.map_set]

theorem KernelSim.trainStep (h : KernelSim K₁ K₂ cfg₁ cfg₂ f g Px Pw R)
    (veto₁ : ArtState W₁ → X₁ → Nat → Bool) (veto₂ : ArtState W₂ → X₂ → Nat → Bool)
    (hv : ∀ s x c, veto₂ (mapState g s) (f x) c = veto₁ s x c)
    (s : ArtState W₁) (x : X₁) (hW : ∀ v ∈ s.W, Pw v) (hx : Px x) (th₁ : θ₁) (th₂ : θ₂) (hR : R th₁ th₂) :
    Art.trainStep K₂ cfg₂ th₂ veto₂ (mapState g s) (f x) =
      mapState g (Art.trainStep K₁ cfg₁ th₁ veto₁ s x) := by
  unfold Art.trainStep
  rw [show veto₂ (mapState g s) (f x) = veto₁ s x from funext (hv s x),
    h.stepFit s x hW hx (veto₁ s x) th₁ th₂ hR]
  rfl

/-- **Simulation over any stream**: related estimators stay related, sample by sample. -/
theorem KernelSim.partialFit (h : KernelSim K₁ K₂ cfg₁ cfg₂ f g Px Pw R)
    (veto₁ : ArtState W₁ → X₁ → Nat → Bool) (veto₂ : ArtState W₂ → X₂ → Nat → Bool)
    (hv : ∀ s x c, veto₂ (mapState g s) (f x) c = veto₁ s x c)
    (th₁ : θ₁) (th₂ : θ₂) (hR : R th₁ th₂)
    (s : ArtState W₁) (xs : List X₁) (hW : ∀ v ∈ s.W, Pw v) (hx : ∀ x ∈ xs, Px x) :
    Art.partialFit K₂ cfg₂ th₂ veto₂ (mapState g s) (xs.map f) =
      mapState g (Art.partialFit K₁ cfg₁ th₁ veto₁ s xs) := by
  unfold Art.partialFit
  induction xs generalizing s with
  | nil => rfl
  | cons x xs ih =>
    have hq := hx x List.mem_cons_self
    rw [List.map_cons, List.foldl_cons, List.foldl_cons, h.trainStep veto₁ veto₂ hv s x hW hq th₁ th₂ hR]
    exact ih _
      (trainStep_W_inv K₁ cfg₁ th₁ veto₁ Pw s x (fun w hw => (h.update x w hq hw).2) (h.newW x hq).2 hW)
      (fun x' h' => hx x' (List.mem_cons_of_mem x h'))

end Sim2

theorem mapState_id {Wt : Type} (s : ArtState Wt) : mapState (fun w => w) s = s := by
  cases s
  simp only [mapState, List.map_id']

section Sums
variable {α : Type} [AddCommMonoid α]

theorem oadd_right_comm (a b c : Option α) : oadd (oadd a b) c = oadd (oadd a c) b := by
  cases a with
  | none => rfl
  | some a =>
    cases b with
    | none => cases c <;> rfl
    | some b =>
      cases c with
      | none => rfl
      | some c => exact congrArg some (add_right_comm a b c)

theorem foldl_oadd_swapAt (i : Nat) (l : List (Option α)) (acc : Option α) :
    (swapAt i l).foldl oadd acc = l.foldl oadd acc := by
  induction i generalizing l acc with
  | zero =>
    match l with
    | [] => rfl
    | [_] => rfl
    | a :: b :: l =>
      show l.foldl oadd (oadd (oadd acc b) a) = l.foldl oadd (oadd (oadd acc a) b)
      rw [oadd_right_comm]
  | succ i ih =>
    cases l with
    | nil => rfl
    | cons a l => exact ih l _

/-- the left-to-right sum does not depend on the order of two neighbours -/
theorem osum_swapAt (i : Nat) (l : List (Option α)) : osum (swapAt i l) = osum l :=
  foldl_oadd_swapAt i l _

theorem foldl_oadd_none (l : List (Option α)) : l.foldl oadd none = none := by
  induction l with
  | nil => rfl
  | cons a l ih => exact ih

/-- a left-to-right sum in which some terms are constants: the constants can be added at the end -/
theorem foldl_skip {γ : Type} (l : List γ) (sk : γ → Bool) (t : γ → Option α) (kc : γ → α) (a c : α) :
    (l.map (fun e => if sk e then some (kc e) else t e)).foldl oadd (some (a + c)) =
      (((l.filter (fun e => !sk e)).map t).foldl oadd (some a)).map
        (· + (c + ((l.filter sk).map kc).sum)) := by
  induction l generalizing a c with
  | nil => exact congrArg some (by rw [List.filter_nil, List.map_nil, List.sum_nil, add_zero])
  | cons e l ih =>
    rw [List.map_cons, List.foldl_cons, List.filter_cons, List.filter_cons]
    cases hs : sk e
    · -- `e` is kept: its term joins the running sum of the kept ones
      simp only [Bool.not_false, Bool.false_eq_true, ↓reduceIte, List.map_cons, List.foldl_cons]
      cases t e with
      | none =>
        rw [show oadd (some (a + c)) none = none from rfl, show oadd (some a) none = none from rfl,
          foldl_oadd_none, foldl_oadd_none]
        rfl
      | some b =>
        rw [show oadd (some (a + c)) (some b) = some (a + b + c) from congrArg some (add_right_comm a c b)]
        exact ih (a + b) c
    · -- `e` is skipped: its constant joins the constant
      simp only [Bool.not_true, Bool.false_eq_true, ↓reduceIte, List.map_cons, List.sum_cons]
      rw [show oadd (some (a + c)) (some (kc e)) = some (a + (c + kc e)) from congrArg some (add_assoc a c (kc e)),
        ih a (c + kc e), add_assoc]

theorem foldl_oadd_some (l : List α) (a : α) : (l.map some).foldl oadd (some a) = some (a + l.sum) := by
  induction l generalizing a with
  | nil => exact congrArg some (add_zero a).symm
  | cons b l ih => rw [List.map_cons, List.foldl_cons, List.sum_cons, ← add_assoc]; exact ih (a + b)

end Sums

section ArgMax
variable {α : Type} [LT α] [DecidableRel (α := α) (· < ·)]

theorem nanargmaxV_map_mono (f : α → α) (hf : ∀ a b, f a < f b ↔ a < b) (T : List (Option α)) :
    nanargmaxV (T.map (Option.map f)) = (nanargmaxV T).map (fun kv => (kv.1, f kv.2)) := by
  induction T with
  | nil => rfl
  | cons t T ih =>
    cases t with
    | none =>
      show (nanargmaxV (T.map _)).map _ = ((nanargmaxV T).map _).map _
      rw [ih, Option.map_map, Option.map_map]
      rfl
    | some v =>
      simp only [List.map_cons, Option.map_some, nanargmaxV, ih]
      cases nanargmaxV T with
      | none => rfl
      | some ku =>
        show (if f v < f ku.2 then _ else _) = (if v < ku.2 then _ else _ : Option (Nat × α)).map _
        by_cases h : v < ku.2
        · rw [if_pos h, if_pos ((hf _ _).2 h)]; rfl
        · rw [if_neg h, if_neg (fun h' => h ((hf _ _).1 h'))]; rfl

/-- a strictly monotone map of the activations changes neither `np.argmax` nor its tie rule -/
theorem argmaxNp_map_mono (f : α → α) (hf : ∀ a b, f a < f b ↔ a < b) (T : List (Option α)) :
    argmaxNp (T.map (Option.map f)) = argmaxNp T := by
  have hnan : (T.map (Option.map f)).findIdx? (·.isNone) = T.findIdx? (·.isNone) := by
    rw [List.findIdx?_map]
    exact congrArg (fun p => List.findIdx? p T) (funext fun t => by cases t <;> rfl)
  unfold argmaxNp nanargmax
  rw [hnan, nanargmaxV_map_mono f hf, Option.map_map]
  rfl

end ArgMax

/-! ### one channel, gamma = 1: the only slice is the whole vector, and the fused kernel is the module's -/
section Single
variable {α : Type} [Field α] [LinearOrder α] [IsStrictOrderedRing α]

theorem slice_single (wd : Nat) (v : List α) (h : v.length = wd) : slice [wd] 0 v = v :=
  List.take_of_length_le (Nat.le_of_eq h)

theorem total_single (c : Chan α) : total [c] = c.width := Nat.add_zero _

theorem wtotal_single (c : Chan α) : wtotal [c] = c.wlen := Nat.add_zero _

theorem single_matchv (c : Chan α) {x w : List α} (hx : x.length = c.width) (hw : w.length = c.wlen) :
    (fusionKernel [c]).matchv x w = [c.K.matchv x w] := by
  show [c.K.matchv (slice [c.width] 0 x) (slice [c.wlen] 0 w)] = _
  rw [slice_single _ x hx, slice_single _ w hw]

theorem single_update (c : Chan α) (hl : c.LenOK) {x w : List α} (hx : x.length = c.width) (hw : w.length = c.wlen) :
    (fusionKernel [c]).update x w = c.K.update x w := by
  rw [fusion_update_eq [c] (List.forall_mem_singleton.2 hl) x w (hx.trans (total_single c).symm)
    (hw.trans (wtotal_single c).symm)]
  show c.K.update (slice [c.width] 0 x) (slice [c.wlen] 0 w) ++ [] = _
  rw [List.append_nil, slice_single _ x hx, slice_single _ w hw]

theorem single_newW (c : Chan α) (hl : c.LenOK) {x : List α} (hx : x.length = c.width) :
    (fusionKernel [c]).newW x = c.K.newW x := by
  rw [fusion_new_eq [c] (List.forall_mem_singleton.2 hl) x (hx.trans (total_single c).symm)]
  show c.K.newW (slice [c.width] 0 x) ++ [] = _
  rw [List.append_nil, slice_single _ x hx]

theorem single_choice (c : Chan α) (hγ : c.gamma = 1) (W : List (List α)) (x w : List α)
    (hW : ∀ v ∈ W, v.length = c.wlen) (hx : x.length = c.width) (hw : w ∈ W) :
    (fusionKernel [c]).choice W x w = c.K.choice W x w := by
  have hWm : W.map (slice [c.wlen] 0) = W :=
    (List.map_congr_left fun v hv => slice_single c.wlen v (hW v hv)).trans (List.map_id _)
  show osum [(c.K.choice (W.map (slice [c.wlen] 0)) (slice [c.width] 0 x) (slice [c.wlen] 0 w)).map (· * c.gamma)] = _
  rw [hWm, slice_single _ x hx, slice_single _ w (hW w hw), hγ]
  cases c.K.choice W x w with
  | none => rfl
  | some a => exact congrArg some ((zero_add _).trans (mul_one a))

theorem single_sim (c : Chan α) (hγ : c.gamma = 1) (hl : c.LenOK) (mode : MT) (adjP adjM : α → α) (top : α) :
    KernelSim (fusionKernel [c]) c.K (fusionCfg mode adjP adjM top) (scalarCfg mode false adjP adjM top)
      (fun x => x) (fun w => w) (fun x => x.length = c.width) (fun w => w.length = c.wlen)
      (fun th₁ th₂ => th₁ = [th₂]) where
  keep := rfl
  tilde := rfl
  choice := by
    intro W x w hW hx hw
    rw [List.map_id']
    exact (single_choice c hγ W x w hW hx hw).symm
  passes := by
    rintro _ th₂ x w rfl hx hw
    rw [single_matchv c hx hw]
    exact Bool.and_true _
  track := by
    rintro _ th₂ x w rfl hx hw
    rw [single_matchv c hx hw]
    rfl
  update := fun x w hx hw =>
    ⟨(single_update c hl hx hw).symm, by rw [single_update c hl hx hw]; exact hl.1 x w hx hw⟩
  newW := fun x hx => ⟨(single_newW c hl hx).symm, by rw [single_newW c hl hx]; exact hl.2 x hx⟩

end Single

/-! ### swapping two adjacent entries -/
section Swap
variable {β γ : Type}

/-- the transposition of `i` and `i+1` -/
def swapIdx (i k : Nat) : Nat := if k = i then i + 1 else if k = i + 1 then i else k

theorem swapIdx_succ (i k : Nat) : swapIdx (i + 1) (k + 1) = swapIdx i k + 1 := by
  unfold swapIdx
  by_cases h1 : k = i
  · rw [if_pos (congrArg (· + 1) h1), if_pos h1]
  · rw [if_neg (fun h => h1 (Nat.succ.inj h)), if_neg h1]
    by_cases h2 : k = i + 1
    · rw [if_pos (congrArg (· + 1) h2), if_pos h2]
    · rw [if_neg (fun h => h2 (Nat.succ.inj h)), if_neg h2]

theorem swapIdx_lt {i k n : Nat} (hi : i + 1 < n) : swapIdx i k < n ↔ k < n := by
  unfold swapIdx
  by_cases h1 : k = i
  · rw [if_pos h1, h1]
    exact ⟨fun _ => Nat.lt_of_succ_lt hi, fun _ => hi⟩
  · rw [if_neg h1]
    by_cases h2 : k = i + 1
    · rw [if_pos h2, h2]
      exact ⟨fun _ => hi, fun _ => Nat.lt_of_succ_lt hi⟩
    · rw [if_neg h2]

@[simp] theorem swapAt_length (i : Nat) (l : List β) : (swapAt i l).length = l.length := by
  induction i generalizing l with
  | zero =>
    match l with
    | [] => rfl
    | [_] => rfl
    | _ :: _ :: _ => rfl
  | succ i ih =>
    cases l with
    | nil => rfl
    | cons a l => exact congrArg Nat.succ (ih l)

theorem swapAt_getElem? (i : Nat) (l : List β) (h : i + 1 < l.length) (k : Nat) :
    (swapAt i l)[k]? = l[swapIdx i k]? := by
  induction i generalizing l k with
  | zero =>
    match l, h with
    | a :: b :: l, _ =>
      match k with
      | 0 => rfl
      | 1 => rfl
      | k + 2 => rfl
  | succ i ih =>
    cases l with
    | nil => exact absurd h (Nat.not_lt_zero _)
    | cons a l =>
      cases k with
      | zero => rfl
      | succ k =>
        rw [swapIdx_succ]
        exact ih l (Nat.lt_of_succ_lt_succ h) k

theorem map_swapAt (f : β → γ) (i : Nat) (l : List β) : (swapAt i l).map f = swapAt i (l.map f) := by
  induction i generalizing l with
  | zero =>
    match l with
    | [] => rfl
    | [_] => rfl
    | _ :: _ :: _ => rfl
  | succ i ih =>
    cases l with
    | nil => rfl
    | cons a l => exact congrArg (f a :: ·) (ih l)

theorem swapAt_perm (i : Nat) (l : List β) : (swapAt i l).Perm l := by
  induction i generalizing l with
  | zero =>
    match l with
    | [] => exact List.Perm.refl _
    | [_] => exact List.Perm.refl _
    | a :: b :: l => exact List.Perm.swap a b l
  | succ i ih =>
    cases l with
    | nil => exact List.Perm.refl _
    | cons a l => exact (ih l).cons a

theorem forall₂_swapAt {R : β → γ → Prop} {l₁ : List β} {l₂ : List γ} (h : List.Forall₂ R l₁ l₂) (i : Nat) :
    List.Forall₂ R (swapAt i l₁) (swapAt i l₂) := by
  induction i generalizing l₁ l₂ with
  | zero =>
    cases h with
    | nil => exact .nil
    | cons h1 h =>
      cases h with
      | nil => exact .cons h1 .nil
      | cons h2 h => exact .cons h2 (.cons h1 h)
  | succ i ih =>
    cases h with
    | nil => exact List.Forall₂.nil
    | cons h1 h => exact List.Forall₂.cons h1 (ih h)

theorem zip_swapAt (i : Nat) (a : List β) (b : List γ) (h : a.length = b.length) :
    List.zip (swapAt i a) (swapAt i b) = swapAt i (List.zip a b) := by
  induction i generalizing a b with
  | zero =>
    match a, b, h with
    | [], [], _ => rfl
    | [x], [y], _ => rfl
    | x :: x' :: a, y :: y' :: b, _ => rfl
  | succ i ih =>
    match a, b, h with
    | [], [], _ => rfl
    | x :: a, y :: b, h => exact congrArg ((x, y) :: ·) (ih a b (Nat.succ.inj h))

theorem all_swapAt (p : β → Bool) (i : Nat) (l : List β) : (swapAt i l).all p = l.all p :=
  (swapAt_perm i l).all_eq

theorem sum_swapAt (i : Nat) (ws : List Nat) : (swapAt i ws).sum = ws.sum :=
  (swapAt_perm i ws).sum_eq

theorem fit_swap {ws : List Nat} {ps : List (List β)} (h : Fit ws ps) (i : Nat) :
    Fit (swapAt i ws) (swapAt i ps) := forall₂_swapAt h i

theorem splitBy_swapCols (ws : List Nat) (i : Nat) (v : List β) (hv : ws.sum ≤ v.length) :
    splitBy (swapAt i ws) (swapCols ws i v) = swapAt i (splitBy ws v) :=
  splitBy_flatten (fit_swap (fit_splitBy hv) i)

theorem swapCols_length (ws : List Nat) (i : Nat) (v : List β) (hv : ws.sum ≤ v.length) :
    (swapCols ws i v).length = ws.sum := by
  rw [swapCols, (fit_swap (fit_splitBy hv) i).flatten_length, sum_swapAt]

theorem slice_swap (ws : List Nat) (i : Nat) (hi : i + 1 < ws.length) (v : List β)
    (hv : ws.sum ≤ v.length) (k : Nat) :
    slice (swapAt i ws) k (swapCols ws i v) = slice ws (swapIdx i k) v := by
  unfold slice
  rw [splitBy_swapCols ws i v hv, List.getD_eq_getElem?_getD, List.getD_eq_getElem?_getD,
    swapAt_getElem? i _ (by rwa [splitBy_length])]

end Swap

/-! ### permuting the channels -/
section Perm
variable {α : Type} [Field α] [LinearOrder α] [IsStrictOrderedRing α]

theorem widths_swapAt (i : Nat) (chans : List (Chan α)) : widths (swapAt i chans) = swapAt i (widths chans) :=
  map_swapAt _ i chans

theorem wlens_swapAt (i : Nat) (chans : List (Chan α)) : wlens (swapAt i chans) = swapAt i (wlens chans) :=
  map_swapAt _ i chans

theorem total_swapAt (i : Nat) (chans : List (Chan α)) : total (swapAt i chans) = total chans := by
  rw [total, widths_swapAt, sum_swapAt, total]

/-- a per-channel list of the permuted FusionART on permuted data is the permuted list -/
theorem zipIdx_map_swap {δ : Type} (chans : List (Chan α)) (i : Nat) (hi : i + 1 < chans.length)
    (F F' : Chan α × Nat → δ) (h : ∀ c k, F' (c, k) = F (c, swapIdx i k)) :
    (swapAt i chans).zipIdx.map F' = swapAt i (chans.zipIdx.map F) := by
  apply List.ext_getElem?
  intro k
  rw [zipIdx_map_getElem?, swapAt_getElem? i chans hi, swapAt_getElem? i _ (by rwa [zipIdx_map_length]),
    zipIdx_map_getElem?]
  cases chans[swapIdx i k]? with
  | none => rfl
  | some c => exact congrArg some (h c k)

theorem swapCols_flatten (ws : List Nat) (i : Nat) {ps : List (List α)} (h : Fit ws ps) :
    swapCols ws i ps.flatten = (swapAt i ps).flatten := by
  rw [swapCols, splitBy_flatten h]

variable (chans : List (Chan α)) (i : Nat) (hi : i + 1 < chans.length)
include hi

theorem slice_widths_swap (x : List α) (hx : x.length = total chans) (k : Nat) :
    slice (widths (swapAt i chans)) k (swapCols (widths chans) i x) = slice (widths chans) (swapIdx i k) x := by
  rw [widths_swapAt, slice_swap _ i (by rwa [widths_length]) x (Nat.le_of_eq hx.symm) k]

theorem slice_wlens_swap (w : List α) (hw : w.length = wtotal chans) (k : Nat) :
    slice (wlens (swapAt i chans)) k (swapCols (wlens chans) i w) = slice (wlens chans) (swapIdx i k) w := by
  rw [wlens_swapAt, slice_swap _ i (by rwa [wlens_length]) w (Nat.le_of_eq hw.symm) k]

theorem chanTerms_swap (W : List (List α)) (x w : List α) (hW : ∀ v ∈ W, v.length = wtotal chans)
    (hx : x.length = total chans) (hw : w.length = wtotal chans) :
    chanTerms (swapAt i chans) noSkip (W.map (swapCols (wlens chans) i)) (swapCols (widths chans) i x)
        (swapCols (wlens chans) i w) = swapAt i (chanTerms chans noSkip W x w) := by
  refine zipIdx_map_swap chans i hi _ _ fun c k => ?_
  have hWm : (W.map (swapCols (wlens chans) i)).map (slice (wlens (swapAt i chans)) k) =
      W.map (slice (wlens chans) (swapIdx i k)) := by
    rw [List.map_map]
    exact List.map_congr_left fun v hv => slice_wlens_swap chans i hi v (hW v hv) k
  show (chanTerm (swapAt i chans) noSkip _ _ _ k c) = chanTerm chans noSkip W x w (swapIdx i k) c
  rw [chanTerm, chanTerm, hWm, slice_widths_swap chans i hi x hx, slice_wlens_swap chans i hi w hw]
  rfl

theorem matchVec_swap (x w : List α) (hx : x.length = total chans) (hw : w.length = wtotal chans) :
    matchVec (swapAt i chans) (swapCols (widths chans) i x) (swapCols (wlens chans) i w) =
      swapAt i (matchVec chans x w) := by
  refine zipIdx_map_swap chans i hi _ _ fun c k => ?_
  dsimp only
  rw [slice_widths_swap chans i hi x hx, slice_wlens_swap chans i hi w hw]

theorem updatePieces_swap (x w : List α) (hx : x.length = total chans) (hw : w.length = wtotal chans) :
    updatePieces (swapAt i chans) (swapCols (widths chans) i x) (swapCols (wlens chans) i w) =
      swapAt i (updatePieces chans x w) := by
  refine zipIdx_map_swap chans i hi _ _ fun c k => ?_
  dsimp only
  rw [slice_widths_swap chans i hi x hx, slice_wlens_swap chans i hi w hw]

theorem newPieces_swap (x : List α) (hx : x.length = total chans) :
    newPieces (swapAt i chans) (swapCols (widths chans) i x) = swapAt i (newPieces chans x) := by
  refine zipIdx_map_swap chans i hi _ _ fun c k => ?_
  dsimp only
  rw [slice_widths_swap chans i hi x hx]

omit hi in
theorem stored_swap_pieces {ps : List (List α)} (h : Fit (wlens chans) ps) :
    stored (wlens (swapAt i chans)) (swapAt i ps).flatten = swapCols (wlens chans) i ps.flatten := by
  rw [wlens_swapAt, stored_pieces (fit_swap h i), swapCols_flatten _ i h]

theorem perm_sim (hl : ∀ c ∈ chans, c.LenOK) (mode : MT) (adjP adjM : α → α) (top : α) :
    KernelSim (fusionKernel chans) (fusionKernel (swapAt i chans)) (fusionCfg mode adjP adjM top)
      (fusionCfg mode adjP adjM top) (swapCols (widths chans) i) (swapCols (wlens chans) i)
      (fun x => x.length = total chans) (fun w => w.length = wtotal chans)
      (fun th₁ th₂ => th₁.length = chans.length ∧ th₂ = swapAt i th₁) where
  keep := rfl
  tilde := rfl
  choice := by
    intro W x w hW hx hw
    show osum (chanTerms (swapAt i chans) noSkip _ _ _) = osum (chanTerms chans noSkip W x w)
    rw [chanTerms_swap chans i hi W x w hW hx (hW w hw), osum_swapAt]
  passes := by
    rintro th₁ _ x w ⟨hlen, rfl⟩ hx hw
    show _ = (List.zip (swapAt i th₁) (matchVec (swapAt i chans) _ _)).all _
    rw [matchVec_swap chans i hi x w hx hw, zip_swapAt i th₁ _ (by rw [matchVec, zipIdx_map_length, hlen]),
      all_swapAt]
    rfl
  track := by
    rintro th₁ _ x w ⟨hlen, rfl⟩ hx hw
    show _ ∧ (List.zip (swapAt i th₁) (matchVec (swapAt i chans) _ _)).map _ = _
    rw [matchVec_swap chans i hi x w hx hw, zip_swapAt i th₁ _ (by rw [matchVec, zipIdx_map_length, hlen]),
      map_swapAt]
    refine ⟨?_, rfl⟩
    show ((List.zip th₁ (matchVec chans x w)).map _).length = _
    rw [List.length_map, List.length_zip, matchVec, zipIdx_map_length, hlen, Nat.min_self]
  update := by
    intro x w hx hw
    refine ⟨?_, fusion_update_length chans hl x w hx hw⟩
    show stored _ (updatePieces (swapAt i chans) _ _).flatten = _
    rw [updatePieces_swap chans i hi x w hx hw, stored_swap_pieces chans i (updatePieces_fit chans hl x w hx hw),
      fusion_update_eq chans hl x w hx hw]
  newW := by
    intro x hx
    refine ⟨?_, fusion_new_length chans hl x hx⟩
    show stored _ (newPieces (swapAt i chans) _).flatten = _
    rw [newPieces_swap chans i hi x hx, stored_swap_pieces chans i (newPieces_fit chans hl x hx),
      fusion_new_eq chans hl x hx]

/-- **Permuting two neighbouring channels** (with their gammas, widths, vigilances and
data columns) gives the same run: same labels and counters, weights permuted likewise. -/
theorem perm_partialFit (hl : ∀ c ∈ chans, c.LenOK) (mode : MT) (adjP adjM : α → α) (top : α)
    (th : List α) (hth : th.length = chans.length)
    (veto veto' : ArtState (List α) → List α → Nat → Bool)
    (hv : ∀ s x c, veto' (mapState (swapCols (wlens chans) i) s) (swapCols (widths chans) i x) c = veto s x c)
    (s : ArtState (List α)) (xs : List (List α)) (hs : ∀ w ∈ s.W, w.length = wtotal chans)
    (hx : ∀ x ∈ xs, x.length = total chans) :
    partialFit (fusionKernel (swapAt i chans)) (fusionCfg mode adjP adjM top) (swapAt i th) veto'
        (mapState (swapCols (wlens chans) i) s) (xs.map (swapCols (widths chans) i)) =
      mapState (swapCols (wlens chans) i)
        (partialFit (fusionKernel chans) (fusionCfg mode adjP adjM top) th veto s xs) :=
  (perm_sim chans i hi hl mode adjP adjM top).partialFit veto veto' hv th (swapAt i th) ⟨hth, rfl⟩ s xs hs hx

end Perm

/-! ### prediction with skipped channels -/
section SkipCore
variable {α : Type} [Add α] [Mul α] [Zero α] [One α] [LT α] [DecidableRel (α := α) (· < ·)]

/-- the fused activation with channels skipped reads only the supplied slices of the sample -/
theorem choiceSkip_indep (chans : List (Chan α)) (skip : Nat → Bool) (W : List (List α)) (x x' w : List α)
    (h : ∀ k, skip k = false → slice (widths chans) k x = slice (widths chans) k x') :
    choiceSkip chans skip W x w = choiceSkip chans skip W x' w := by
  unfold choiceSkip chanTerms
  refine congrArg osum (List.map_congr_left fun ck _ => ?_)
  show chanTerm chans skip W x w ck.2 ck.1 = chanTerm chans skip W x' w ck.2 ck.1
  unfold chanTerm
  cases hs : skip ck.2 with
  | true => rfl
  | false => rw [h ck.2 hs]

theorem stepPredSkip_indep (chans : List (Chan α)) (skip : Nat → Bool) (W : List (List α)) (x x' : List α)
    (h : ∀ k, skip k = false → slice (widths chans) k x = slice (widths chans) k x') :
    stepPredSkip chans skip W x = stepPredSkip chans skip W x' := by
  unfold stepPredSkip
  exact congrArg argmaxNp (List.map_congr_left fun w _ => choiceSkip_indep chans skip W x x' w h)

/-- the gamma-weighted activations of the channels that are not skipped -/
def restTerms (chans : List (Chan α)) (skip : Nat → Bool) (W : List (List α)) (x w : List α) :
    List (Option α) :=
  (chans.zipIdx.filter (fun ck => !skip ck.2)).map (fun ck => chanTerm chans noSkip W x w ck.2 ck.1)

/-- their left-to-right sum -/
def restChoice (chans : List (Chan α)) (skip : Nat → Bool) (W : List (List α)) (x w : List α) : Option α :=
  osum (restTerms chans skip W x w)

end SkipCore

section SkipField
variable {α : Type} [Field α] [LinearOrder α] [IsStrictOrderedRing α]

/-- `Σ_{k skipped} 1·γ_k` -/
def skipConst (chans : List (Chan α)) (skip : Nat → Bool) : α :=
  ((chans.zipIdx.filter (fun ck => skip ck.2)).map (fun ck => 1 * ck.1.gamma)).sum

/-- with channels skipped the fused activation is the remaining channels' sum plus a constant -/
theorem choiceSkip_eq_rest_add (chans : List (Chan α)) (skip : Nat → Bool) (W : List (List α)) (x w : List α) :
    choiceSkip chans skip W x w = (restChoice chans skip W x w).map (· + skipConst chans skip) := by
  have h := foldl_skip chans.zipIdx (fun ck => skip ck.2)
    (fun ck => chanTerm chans noSkip W x w ck.2 ck.1) (fun ck => 1 * ck.1.gamma) 0 0
  rw [add_zero, zero_add] at h
  refine Eq.trans (congrArg (List.foldl oadd (some 0)) (List.map_congr_left fun ck _ => ?_)) h
  show chanTerm chans skip W x w ck.2 ck.1 = _
  rw [chanTerm]
  cases skip ck.2 <;> rfl

/-- adding one constant to every activation does not change `np.argmax` -/
theorem argmaxNp_map_add (c : α) (T : List (Option α)) :
    argmaxNp (T.map (Option.map (· + c))) = argmaxNp T :=
  argmaxNp_map_mono (· + c) (fun _ _ => add_lt_add_iff_right c) T

/-- the category predicted with channels skipped is the first arg-max of the remaining
channels' gamma-weighted activation -/
theorem stepPredSkip_eq_rest (chans : List (Chan α)) (skip : Nat → Bool) (W : List (List α)) (x : List α) :
    stepPredSkip chans skip W x = argmaxNp (W.map (restChoice chans skip W x)) := by
  rw [stepPredSkip, ← argmaxNp_map_add (skipConst chans skip) (W.map (restChoice chans skip W x)), List.map_map]
  exact congrArg argmaxNp (List.map_congr_left fun w _ => choiceSkip_eq_rest_add chans skip W x w)

end SkipField

/-! ### skip indices -/
section Idx

theorem normIdx_neg (n m : Nat) (h : m < n) : normIdx n (-((m : Int) + 1)) = ((n - (m + 1) : Nat) : Int) := by
  rw [normIdx, if_pos (by omega)]
  omega

theorem normIdx_nonneg (n : Nat) (k : Int) (h : 0 ≤ k) : normIdx n k = k := by
  rw [normIdx, if_neg (Int.not_lt.2 h)]

/-- normalising twice (as `predict_regression` followed by `predict` does) changes nothing
for indices that denote a channel -/
theorem skipSet_normIdx (n : Nat) (ks : List Int) (h : ∀ k ∈ ks, 0 ≤ normIdx n k) :
    skipSet n (ks.map (normIdx n)) = skipSet n ks := by
  funext j
  unfold skipSet
  rw [List.map_map]
  exact congrArg (fun l => List.contains l (j : Int)) (List.map_congr_left fun k hk => normIdx_nonneg n _ (h k hk))

/-- a negative index and its positive form denote the same skipped channel -/
theorem skipSet_neg (n m : Nat) (h : m < n) (ks : List Int) :
    skipSet n (-((m : Int) + 1) :: ks) = skipSet n (((n - (m + 1) : Nat) : Int) :: ks) := by
  funext j
  unfold skipSet
  rw [List.map_cons, List.map_cons, normIdx_neg n m h, normIdx_nonneg n _ (Int.natCast_nonneg _)]

end Idx

/-! ### regression -/
section Regr
variable {β : Type}

theorem allSome_map_some (l : List β) : allSome (l.map some) = some l := by
  induction l with
  | nil => rfl
  | cons a l ih => rw [List.map_cons, allSome, ih]; rfl

/-- a comprehension in `Option`: every entry, or `none` as soon as one is missing -/
theorem mapM_eq_allSome {γ : Type} (f : γ → Option β) (l : List γ) : l.mapM f = allSome (l.map f) := by
  induction l with
  | nil => rfl
  | cons a l ih =>
    rw [List.mapM_cons, ih, List.map_cons]
    cases f a with
    | none => rfl
    | some b => rw [allSome]; cases allSome (l.map f) <;> rfl

end Regr

section Regr2
variable {α : Type} [Add α] [Mul α] [Zero α] [One α] [LinearOrder α]

theorem channelCentres_getElem? (chans : List (Chan α)) (centre : Nat → List α → List α)
    (W : List (List α)) (k c : Nat) :
    (channelCentres chans centre W k)[c]? = (W[c]?).map (fun w => centre k (slice (wlens chans) k w)) :=
  List.getElem?_map

/-- **Regression**: for any list of target channels the result is, target by target in the
order given, that channel's centre of the category predicted with the targets skipped. -/
theorem predictRegression_eq (chans : List (Chan α)) (centre : Nat → List α → List α)
    (targets : List Int) (W : List (List α)) (x : List α)
    (hnn : ∀ t ∈ targets, 0 ≤ normIdx chans.length t) (c : Nat)
    (hc : stepPredSkip chans (skipSet chans.length targets) W x = some c) :
    ∃ w, W[c]? = some w ∧
      predictRegression chans centre targets W x =
        some ((targets.map (normIdx chans.length)).map
          (fun k => centre k.toNat (slice (wlens chans) k.toNat w))) := by
  have hs := skipSet_normIdx chans.length targets hnn
  have hlt : c < W.length := by
    have := argmaxNp_lt_length hc
    rwa [List.length_map] at this
  refine ⟨W[c], List.getElem?_eq_getElem hlt, ?_⟩
  unfold predictRegression
  simp only [hs, hc]
  generalize targets.map (normIdx chans.length) = tn
  have hcen : ∀ k : Int, (channelCentres chans centre W k.toNat)[c]? =
      some (centre k.toNat (slice (wlens chans) k.toNat W[c])) := by
    intro k
    rw [channelCentres_getElem?, List.getElem?_eq_getElem hlt]
    rfl
  split
  · rename_i h1
    obtain ⟨k, rfl⟩ := List.length_eq_one_iff.1 h1
    simp only [List.map_cons, List.map_nil, List.getElem?_cons_zero, Option.bind_some, hcen, Option.map_some]
  · rw [List.map_map, ← allSome_map_some, List.map_map]
    exact congrArg allSome (List.map_congr_left fun k _ => hcen k)

end Regr2

/-! ### join / split -/
section JoinSplit
variable {β : Type}

/-- widths of the channels that are kept, from channel number `k` on -/
def keptWidths (skip : Nat → Bool) : Nat → List Nat → List Nat
  | _, [] => []
  | k, w :: ws => if skip k then keptWidths skip (k + 1) ws else w :: keptWidths skip (k + 1) ws

/-- the row with every skipped block overwritten by the filler -/
def maskFrom (filler : β) (skip : Nat → Bool) : Nat → List Nat → List β → List β
  | _, [], _ => []
  | k, w :: ws, v =>
    (if skip k then List.replicate w filler else v.take w) ++ maskFrom filler skip (k + 1) ws (v.drop w)

theorem joinFrom_skip {filler : β} {skip : Nat → Bool} {k : Nat} (hs : skip k = true) (w : Nat) (ws : List Nat)
    (data : List (List β)) :
    joinFrom filler skip k (w :: ws) data =
      (joinFrom filler skip (k + 1) ws data).map (List.replicate w filler ++ ·) := by
  cases data <;> rw [joinFrom, if_pos hs]

theorem joinFrom_keep {filler : β} {skip : Nat → Bool} {k : Nat} (hs : skip k = false) (w : Nat) (ws : List Nat)
    (d : List β) (ds : List (List β)) :
    joinFrom filler skip k (w :: ws) (d :: ds) = (joinFrom filler skip (k + 1) ws ds).map (d ++ ·) := by
  rw [joinFrom, if_neg (by rw [hs]; exact Bool.false_ne_true)]

theorem joinFrom_keep_nil {filler : β} {skip : Nat → Bool} {k : Nat} (hs : skip k = false) (w : Nat)
    (ws : List Nat) : joinFrom filler skip k (w :: ws) [] = none := by
  rw [joinFrom, if_neg (by rw [hs]; exact Bool.false_ne_true)]

/-- `split(join(data)) = data` for supplied rows of the kept widths -/
theorem split_join_from (filler : β) (skip : Nat → Bool) (k : Nat) (ws : List Nat) (data : List (List β))
    (h : Fit (keptWidths skip k ws) data) :
    ∃ v, joinFrom filler skip k ws data = some v ∧ splitFrom skip k ws v = data ∧ v.length = ws.sum := by
  induction ws generalizing k data with
  | nil =>
    cases h
    exact ⟨[], rfl, rfl, rfl⟩
  | cons w ws ih =>
    rw [keptWidths] at h
    cases hs : skip k
    · rw [if_neg (by rw [hs]; exact Bool.false_ne_true)] at h
      cases h with
      | cons hd h =>
        rename_i d ds
        obtain ⟨v, hj, hsp, hl⟩ := ih (k + 1) ds h
        refine ⟨d ++ v, by rw [joinFrom_keep hs, hj]; rfl, ?_, by rw [List.length_append, hl, hd, List.sum_cons]⟩
        rw [splitFrom, if_neg (by rw [hs]; exact Bool.false_ne_true), List.take_left' hd, List.drop_left' hd, hsp]
    · rw [if_pos hs] at h
      obtain ⟨v, hj, hsp, hl⟩ := ih (k + 1) data h
      refine ⟨List.replicate w filler ++ v, by rw [joinFrom_skip hs, hj]; rfl, ?_,
        by rw [List.length_append, List.length_replicate, hl, List.sum_cons]⟩
      rw [splitFrom, if_pos hs, List.drop_left' (List.length_replicate ..), hsp]

theorem fit_splitFrom (skip : Nat → Bool) (k : Nat) (ws : List Nat) (v : List β) (hv : ws.sum ≤ v.length) :
    Fit (keptWidths skip k ws) (splitFrom skip k ws v) := by
  induction ws generalizing k v with
  | nil => exact List.Forall₂.nil
  | cons w ws ih =>
    rw [List.sum_cons] at hv
    obtain ⟨ht, hd⟩ := take_drop_length hv
    rw [keptWidths, splitFrom]
    cases skip k
    · rw [if_neg Bool.false_ne_true, if_neg Bool.false_ne_true]
      exact List.Forall₂.cons ht (ih (k + 1) _ hd)
    · rw [if_pos rfl, if_pos rfl]
      exact ih (k + 1) _ hd

/-- `join(split(row))` is the row with the skipped blocks replaced by the filler -/
theorem join_split_from (filler : β) (skip : Nat → Bool) (k : Nat) (ws : List Nat) (v : List β) :
    joinFrom filler skip k ws (splitFrom skip k ws v) = some (maskFrom filler skip k ws v) := by
  induction ws generalizing k v with
  | nil => rfl
  | cons w ws ih =>
    rw [splitFrom, maskFrom]
    cases hs : skip k
    · rw [if_neg Bool.false_ne_true, if_neg Bool.false_ne_true, joinFrom_keep hs, ih]
      rfl
    · rw [if_pos rfl, if_pos rfl, joinFrom_skip hs, ih]
      rfl

/-- … and agrees with the row on every supplied channel -/
theorem slice_maskFrom (filler : β) (skip : Nat → Bool) (k : Nat) (ws : List Nat) (v : List β)
    (hv : ws.sum ≤ v.length) (j : Nat) (hj : skip (k + j) = false) :
    slice ws j (maskFrom filler skip k ws v) = slice ws j v := by
  induction ws generalizing k v j with
  | nil => rfl
  | cons w ws ih =>
    rw [List.sum_cons] at hv
    obtain ⟨ht, hd⟩ := take_drop_length hv
    have hlen : (if skip k then List.replicate w filler else v.take w).length = w := by
      split
      · exact List.length_replicate ..
      · exact ht
    rw [maskFrom]
    cases j with
    | zero =>
      rw [slice_cons_zero, slice_cons_zero, if_neg (by rw [show skip k = false from hj]; exact Bool.false_ne_true),
        List.take_left' ht]
    | succ j =>
      rw [slice_cons_succ, slice_cons_succ, List.drop_left' hlen]
      exact ih (k + 1) _ hd j (by rw [← hj, Nat.add_right_comm]; rfl)

theorem keptWidths_eq (skip : Nat → Bool) (k : Nat) (ws : List Nat) :
    keptWidths skip k ws =
      ((List.range ws.length).filter (fun j => !skip (k + j))).map (fun j => ws.getD j 0) := by
  induction ws generalizing k with
  | nil => rfl
  | cons w ws ih =>
    rw [keptWidths, ih (k + 1), List.length_cons, List.range_succ_eq_map, List.filter_cons, List.filter_map,
      List.filter_congr (q := (fun j => !skip (k + j)) ∘ Nat.succ) (fun j _ => by rw [Nat.add_right_comm]; rfl)]
    cases skip k
    · rw [if_neg Bool.false_ne_true, if_pos (show (!false) = true from rfl), List.map_cons, List.map_map]
      rfl
    · rw [if_pos rfl, if_neg (show ¬ (!true) = true from Bool.false_ne_true), List.map_map]
      rfl

end JoinSplit

/-! ### the step on the module lists is the projection of the fused step -/
section Mods2
variable {α : Type} [Add α] [Mul α] [Zero α] [One α] [LinearOrder α]

theorem chanStates_length (chans : List (Chan α)) (s : ArtState (List α)) :
    (chanStates chans s).length = chans.length := by
  rw [chanStates, List.length_map, List.length_range]

theorem chanStates_getElem? (chans : List (Chan α)) (s : ArtState (List α)) (k : Nat) (hk : k < chans.length) :
    (chanStates chans s)[k]? = some (chanState (wlens chans) k s) := by
  rw [chanStates, List.getElem?_map, List.getElem?_range hk]
  rfl

theorem zipWith_chanStates (chans : List (Chan α)) (s s' : ArtState (List α)) (w : List α)
    (put : ModState α → List α → ModState α)
    (h : ∀ k, put (chanState (wlens chans) k s) (slice (wlens chans) k w) = chanState (wlens chans) k s') :
    List.zipWith put (chanStates chans s) (splitBy (wlens chans) w) = chanStates chans s' := by
  rw [zipWith_splitBy _ _ _ _ (by rw [chanStates_length, wlens_length])]
  apply List.ext_getElem?
  intro k
  rw [zipIdx_map_getElem?]
  by_cases hk : k < chans.length
  · rw [chanStates_getElem? chans s k hk, chanStates_getElem? chans s' k hk]
    exact congrArg some (h k)
  · rw [List.getElem?_eq_none (by rw [chanStates_length]; exact Nat.le_of_not_lt hk),
      List.getElem?_eq_none (by rw [chanStates_length]; exact Nat.le_of_not_lt hk)]
    rfl

/-- `add_weight` on the modules: the projections of any state that has gained the stored weight and a counter `1`
(`chanState` reads only `W` and `cnt`) -/
theorem modsAdd_chanStates (chans : List (Chan α)) (s s' : ArtState (List α)) (w : List α)
    (hW : s'.W = s.W ++ [stored (wlens chans) w]) (hcnt : s'.cnt = s.cnt ++ [1]) :
    modsAdd (wlens chans) (chanStates chans s) w = chanStates chans s' :=
  zipWith_chanStates chans s s' w _ fun k => by
    rw [chanState, chanState, hW, hcnt, List.map_append, List.map_cons, List.map_nil, slice_stored]

/-- `set_weight` on the modules, likewise -/
theorem modsSet_chanStates (chans : List (Chan α)) (s s' : ArtState (List α)) (c : Nat) (w : List α)
    (hW : s'.W = s.W.set c (stored (wlens chans) w)) (hcnt : s'.cnt = s.cnt.set c (s.cnt.getD c 0 + 1)) :
    modsSet (wlens chans) (chanStates chans s) c w = chanStates chans s' :=
  zipWith_chanStates chans s s' w _ fun k => by
    rw [chanState, chanState, hW, hcnt, List.map_set, slice_stored]

/-- **The FusionART step on the module lists is the projection of the fused step**: same
label, and every module ends with exactly its slice of every fused weight and the shared
counters. -/
theorem modsStep_chanStates {θ : Type} (chans : List (Chan α)) (hne : chans ≠ [])
    (cfg : SearchCfg (List α) θ) (th0 : θ) (veto : Nat → Bool) (s : ArtState (List α))
    (hs : ∀ w ∈ s.W, w.length ≤ wtotal chans) (x : List α) :
    (modsStep chans cfg th0 veto (chanStates chans s) x).1 =
      chanStates chans (stepFit (fusionKernel chans) cfg th0 veto s x).1 ∧
    (modsStep chans cfg th0 veto (chanStates chans s) x).2 =
      (stepFit (fusionKernel chans) cfg th0 veto s x).2 := by
  unfold modsStep stepFit
  rw [fusedW_chanStates chans hne s hs]
  dsimp only
  have hnew : modsAdd (wlens chans) (chanStates chans s) (rawNew chans x) =
      chanStates chans (applyWinner (fusionKernel chans) s x none).1 :=
    modsAdd_chanStates chans s _ _ rfl rfl
  cases he : s.W.isEmpty
  · rw [if_neg Bool.false_ne_true, if_neg Bool.false_ne_true]
    cases hc : (stepSearch (fusionKernel chans) cfg th0 veto s.W x).winner with
    | none => exact ⟨hnew, rfl⟩
    | some c =>
      have hlt := stepSearch_winner_lt (fusionKernel chans) cfg th0 veto s.W x c hc
      have e1 : s.W[c]? = some s.W[c] := List.getElem?_eq_getElem hlt
      refine ⟨?_, by rw [applyWinner, e1]⟩
      rw [applyWinner, e1]
      show modsSet (wlens chans) (chanStates chans s) c (rawUpdate chans x (s.W.getD c [])) = _
      rw [getD_of_lt s.W [] hlt]
      exact modsSet_chanStates chans s _ c _ rfl rfl
  · rw [if_pos rfl, if_pos rfl]
    exact ⟨hnew, (congrArg List.length (List.isEmpty_iff.1 he)).symm⟩

/-- over any stream: the module lists are the projections of the fused state, the labels agree -/
theorem modsRun_chanStates {θ : Type} (chans : List (Chan α)) (hne : chans ≠ [])
    (cfg : SearchCfg (List α) θ) (th0 : θ) (veto : List α → Nat → Bool) (s : ArtState (List α))
    (hs : ∀ w ∈ s.W, w.length ≤ wtotal chans) (xs : List (List α)) :
    modsRun chans cfg th0 veto (chanStates chans s, s.labels) xs =
      (chanStates chans (partialFit (fusionKernel chans) cfg th0 (fun _ x c => veto x c) s xs),
       (partialFit (fusionKernel chans) cfg th0 (fun _ x c => veto x c) s xs).labels) := by
  induction xs generalizing s with
  | nil => rfl
  | cons x xs ih =>
    obtain ⟨h1, h2⟩ := modsStep_chanStates chans hne cfg th0 (veto x) s hs x
    have hl : (stepFit (fusionKernel chans) cfg th0 (veto x) s x).1.labels = s.labels :=
      (stepFit_frame (fusionKernel chans) cfg th0 (veto x) s x).2.1
    have hinv := trainStep_W_inv (fusionKernel chans) cfg th0 (fun _ x c => veto x c)
      (fun w => w.length ≤ wtotal chans) s x (fun w _ => stored_length_le _ _) (stored_length_le _ _) hs
    -- one pass of `modsRun` = the projections and labels of `trainStep`; `chanState` does not read the labels
    rw [modsRun, h1, h2, ← hl]
    exact ih (trainStep (fusionKernel chans) cfg th0 (fun _ x c => veto x c) s x) hinv

end Mods2

end Art.Fusion
