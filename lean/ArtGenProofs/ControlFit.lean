/-
ArtGenProofs.ControlFit — `BaseART.step_pred`, `predict`, `partial_fit` and `fit`, as translated from the Python
source by `harness/artv/ctrans.py` (ArtGen/Control.lean), compute the model's `stepPred`, `predict`, `partialFit`
and `fitEpochs` — for all states, streams, modes, epsilons, reset functions and numbers of epochs, under the
kernel contract of ControlSpec.lean.
-/
import ArtGenProofs.ControlSpec

namespace Art.GenSpec.Control

open Art Art.Imp

/-! ### Prediction -/

section Predict
variable {X Wt P C α μ : Type} [LinearOrder α] [Inhabited Wt] [Inhabited C]

/-- **`step_pred` is the model's `stepPred` and does not touch the estimator.** -/
theorem step_pred_spec (K : Kernel X Wt α μ) (E : Ext X Wt P C α) (self : Self Wt P) (x : X)
    (hch : ∀ w, (E.category_choice self.W x w self.params).1 = K.choice self.W x w) :
    Art.Gen.BaseART.step_pred E self x = (self, (stepPred K self.W x).getD 0) := by
  unfold Art.Gen.BaseART.step_pred stepPred activations
  dsimp only
  rw [List.map_map, show (Prod.fst ∘ fun w => E.category_choice self.W x w self.params) = K.choice self.W x from
    funext hch]

/-- **`predict` is the row-wise map of `stepPred` and returns the estimator unchanged** (C08: pure, row-wise). -/
theorem predict_spec (K : Kernel X Wt α μ) (E : Ext X Wt P C α) (self : Self Wt P) (Xs : List X)
    (hch : ∀ x ∈ Xs, ∀ w, (E.category_choice self.W x w self.params).1 = K.choice self.W x w) :
    Art.Gen.BaseART.predict E self Xs = (self, Xs.map (fun x => (stepPred K self.W x).getD 0)) := by
  unfold Art.Gen.BaseART.predict
  dsimp only
  rw [forEach_store (fun y => (self.W, self.cnt, self.n, self.params, self.labels, self.hasW, y))
    (fun x => (stepPred K self.W x).getD 0) _ Xs
    (fun y x hx i => congrArg (fun r => Flow.next (r.1.W, r.1.cnt, r.1.n, r.1.params, r.1.labels, r.1.hasW, y.set i r.2))
      (step_pred_spec K E self x (hch x hx)))]

end Predict

/-! ### Training -/

section Train
variable {X Wt P C α μ θ : Type} [LinearOrder α] [Inhabited Wt] [Inhabited C]

/-- the kernel contract, at every state and sample a training call can meet; the reset function's answer is a
function of the sample and the category only (`vetoF x c` = "category `c` is forbidden for sample `x`") -/
def GContract (K : Kernel X Wt α μ) (cfg : SearchCfg μ θ) (E : Ext X Wt P C α) (th : P → θ) (is_none : Bool)
    (reset : X → Wt → Nat → P → C → Bool) (vetoF : X → Nat → Bool) (mt : MT) (eps : α) : Prop :=
  ∀ (W : List Wt) (x : X) (p0 : P), Contract K cfg E th W x p0 is_none reset (vetoF x) mt eps

section
variable {K : Kernel X Wt α μ} {cfg : SearchCfg μ θ} {E : Ext X Wt P C α} {th : P → θ} {is_none : Bool}
  {reset : X → Wt → Nat → P → C → Bool} {vetoF : X → Nat → Bool} {mt : MT} {eps : α}
  (hG : GContract K cfg E th is_none reset vetoF mt eps)
include hG

/-- the translated `step_fit` inside a training loop: the model's `stepFit` on the weights and counters, whatever
label vector `lab` the estimator carries -/
theorem step_fit_in_loop (p0 : P) (hw : Bool) (m : ArtState Wt) (lab : List Nat) (x : X) :
    Art.Gen.BaseART.step_fit E m.W.length ⟨m.W, m.cnt, m.n, p0, lab, hw⟩ x is_none reset mt eps =
      (let r := stepFit K cfg (th p0) (vetoF x) m x
       (⟨r.1.W, r.1.cnt, r.1.n, p0, lab, hw⟩, r.2)) := by
  have href := step_fit_refines K cfg E th ⟨m.W, m.cnt, m.n, p0, lab, hw⟩ x is_none reset (vetoF x) mt eps
    (hG m.W x p0)
  rw [stepFit_with_labels K cfg (th p0) (vetoF x) m lab x] at href
  exact href

/-- one iteration of the `partial_fit` loop: one model `stepFit`, the label written at position `i + j` -/
theorem partial_fit_body_eq (p0 : P) (hw : Bool) (j : Nat) (m : ArtState Wt) (lab : List Nat) (x : X) (i : Nat) :
    Art.Gen.BaseART.partial_fit_loop1_body E mt eps j is_none reset (m.W, m.cnt, m.n, p0, lab, hw) (x, i) =
      (let r := stepFit K cfg (th p0) (vetoF x) m x
       Flow.next (r.1.W, r.1.cnt, r.1.n, p0, lab.set (i + j) r.2, hw)) := by
  unfold Art.Gen.BaseART.partial_fit_loop1_body
  simp only [step_fit_in_loop hG p0 hw m lab x]

theorem fit_body_eq (p0 : P) (hw : Bool) (Xs : List X) (m : ArtState Wt) (xi : X × Nat) :
    Art.Gen.BaseART.fit_loop1_body E Xs mt eps is_none reset (m.W, m.cnt, m.n, p0, m.labels, hw) xi =
      (let m' := epochStep K cfg (th p0) (fun _ x c => vetoF x c) m xi
       Flow.next (m'.W, m'.cnt, m'.n, p0, m'.labels, hw)) := by
  unfold Art.Gen.BaseART.fit_loop1_body
  simp only [step_fit_in_loop hG p0 hw m m.labels xi.1, epochStep_eq]

end

/-- the loop of `partial_fit`: each sample is one `trainStep` of the model; labels are written into the
zero-padded vector at offset `j` -/
theorem partial_fit_loop (K : Kernel X Wt α μ) (cfg : SearchCfg μ θ) (E : Ext X Wt P C α) (th : P → θ)
    (is_none : Bool) (reset : X → Wt → Nat → P → C → Bool) (vetoF : X → Nat → Bool) (mt : MT) (eps : α)
    (hG : GContract K cfg E th is_none reset vetoF mt eps) (p0 : P) (hw : Bool) (j : Nat) :
    ∀ (xs : List X) (k : Nat) (m : ArtState Wt) (tail : List Nat), tail.length = xs.length →
      m.labels.length = j + k →
      forEach (Art.Gen.BaseART.partial_fit_loop1_body E mt eps j is_none reset) (xs.zipIdx k)
          (m.W, m.cnt, m.n, p0, m.labels ++ tail, hw) =
        (let m' := xs.foldl (trainStep K cfg (th p0) (fun _ x c => vetoF x c)) m
         Flow.next (m'.W, m'.cnt, m'.n, p0, m'.labels, hw)) :=
  fun xs k m tail ht hl =>
    forEach_zipIdx_write _ (trainStep K cfg (th p0) (fun _ x c => vetoF x c))
      (fun m L => (m.W, m.cnt, m.n, p0, L, hw)) ArtState.labels
      (fun m x => (stepFit K cfg (th p0) (vetoF x) m x).2) j
      (fun m L x i => partial_fit_body_eq hG p0 hw j m L x i)
      (fun m x => congrArg ArtState.labels (trainStep_eq K cfg (th p0) _ m x))
      xs k m tail (hl.trans (Nat.add_comm j k)) ht

/-- **`partial_fit` is the model's `partialFit`** (a left fold of `trainStep` over the batch): new labels are appended
to the old ones, weights / counters / sample counter are the fold's, `params` is returned untouched.  On a
freshly constructed estimator (`hasattr(self, "W")` false) the fold starts from no categories and no labels. -/
theorem partial_fit_spec (K : Kernel X Wt α μ) (cfg : SearchCfg μ θ) (E : Ext X Wt P C α) (th : P → θ)
    (is_none : Bool) (reset : X → Wt → Nat → P → C → Bool) (vetoF : X → Nat → Bool) (mt : MT) (eps : α)
    (hG : GContract K cfg E th is_none reset vetoF mt eps) (self : Self Wt P) (Xs : List X) :
    Art.Gen.BaseART.partial_fit E self Xs is_none reset mt eps =
      (let s0 : ArtState Wt := if self.hasW then ⟨self.W, self.cnt, self.n, self.labels⟩ else ⟨[], self.cnt, self.n, []⟩
       let r := partialFit K cfg (th self.params) (fun _ x c => vetoF x c) s0 Xs
       (⟨r.W, r.cnt, r.n, self.params, r.labels, true⟩, ())) := by
  unfold Art.Gen.BaseART.partial_fit partialFit
  have hloop := fun m => partial_fit_loop K cfg E th is_none reset vetoF mt eps hG self.params true
    m.labels.length Xs 0 m (List.replicate Xs.length 0) List.length_replicate rfl
  cases self.hasW with
  | false =>
    have := hloop ⟨[], self.cnt, self.n, []⟩
    dsimp only [List.length_nil, List.nil_append] at this
    simp only [Bool.not_false, if_true, Bool.false_eq_true, if_false, this]
  | true =>
    have := hloop ⟨self.W, self.cnt, self.n, self.labels⟩
    dsimp only at this
    simp only [Bool.not_true, Bool.false_eq_true, if_false, if_true, this]

/-- the inner loop of `fit`: one epoch of the model -/
theorem fit_inner_loop (K : Kernel X Wt α μ) (cfg : SearchCfg μ θ) (E : Ext X Wt P C α) (th : P → θ)
    (is_none : Bool) (reset : X → Wt → Nat → P → C → Bool) (vetoF : X → Nat → Bool) (mt : MT) (eps : α)
    (hG : GContract K cfg E th is_none reset vetoF mt eps) (p0 : P) (hw : Bool) (Xs : List X) :
    ∀ (l : List (X × Nat)) (m : ArtState Wt),
      forEach (Art.Gen.BaseART.fit_loop1_body E Xs mt eps is_none reset) l (m.W, m.cnt, m.n, p0, m.labels, hw) =
        (let m' := l.foldl (epochStep K cfg (th p0) (fun _ x c => vetoF x c)) m
         Flow.next (m'.W, m'.cnt, m'.n, p0, m'.labels, hw)) :=
  fun l m => forEach_pack (fun m : ArtState Wt => (m.W, m.cnt, m.n, p0, m.labels, hw)) _ _ l
    (fun m xi _ => fit_body_eq hG p0 hw Xs m xi) m

/-- **`fit(X, max_iter = k)` is the model's `fitEpochs`**, for every number of epochs, with or without progress bar:
weights, counters, sample counter and labels; `params` is returned untouched. -/
theorem fit_spec (K : Kernel X Wt α μ) (cfg : SearchCfg μ θ) (E : Ext X Wt P C α) (th : P → θ)
    (is_none : Bool) (reset : X → Wt → Nat → P → C → Bool) (vetoF : X → Nat → Bool) (mt : MT) (eps : α)
    (hG : GContract K cfg E th is_none reset vetoF mt eps) (self : Self Wt P) (Xs : List X) (epochs : Nat)
    (verbose : Bool) :
    Art.Gen.BaseART.fit E self Xs is_none reset epochs mt eps verbose =
      (let r := fitEpochs K cfg (th self.params) (fun _ x c => vetoF x c) epochs Xs
       (⟨r.W, r.cnt, r.n, self.params, r.labels, true⟩, ())) := by
  unfold Art.Gen.BaseART.fit fitEpochs
  -- an epoch of the outer loop is the inner loop, whatever `verbose` says
  have hepoch : ∀ (m : ArtState Wt) (e : Nat),
      Art.Gen.BaseART.fit_loop2_body E Xs mt eps verbose is_none reset
          (m.W, m.cnt, m.n, self.params, m.labels, true) e =
        (let m' := (Xs.zipIdx).foldl (epochStep K cfg (th self.params) (fun _ x c => vetoF x c)) m
         Flow.next (m'.W, m'.cnt, m'.n, self.params, m'.labels, true)) := by
    intro m e
    unfold Art.Gen.BaseART.fit_loop2_body
    cases verbose <;>
      simp only [if_true, Bool.false_eq_true, if_false,
        fit_inner_loop K cfg E th is_none reset vetoF mt eps hG self.params true Xs Xs.zipIdx m]
  have := forEach_pack (fun m : ArtState Wt => (m.W, m.cnt, m.n, self.params, m.labels, true)) _ _
    (List.range epochs) (fun m e _ => hepoch m e)
    { W := [], cnt := [], n := 0, labels := List.replicate Xs.length 0 }
  dsimp only at this ⊢
  rw [this]

omit [Inhabited Wt] in
/-- writing labels into a pre-allocated vector (one epoch) is appending them (the `partialFit` fold) -/
theorem epoch_fold_eq_train_fold (K : Kernel X Wt α μ) (cfg : SearchCfg μ θ) (th0 : θ) (vetoF : X → Nat → Bool) :
    ∀ (xs : List X) (k : Nat) (m : ArtState Wt) (tail : List Nat), tail.length = xs.length → m.labels.length = k →
      (xs.zipIdx k).foldl (epochStep K cfg th0 (fun _ x c => vetoF x c)) { m with labels := m.labels ++ tail } =
        xs.foldl (trainStep K cfg th0 (fun _ x c => vetoF x c)) m :=
  fun xs k m tail ht hl =>
    foldl_zipIdx_write _ (trainStep K cfg th0 (fun _ x c => vetoF x c)) (fun m L => { m with labels := L })
      ArtState.labels (fun m x => (stepFit K cfg th0 (vetoF x) m x).2) 0
      (fun m L x i => by rw [epochStep_eq, stepFit_with_labels, trainStep_eq]; rfl)
      (fun m x => congrArg ArtState.labels (trainStep_eq K cfg th0 _ m x)) xs k m tail hl ht

/-- **one epoch is the model's `fit`** (the statement the C05 / C06 theorems are about) -/
theorem fitEpochs_one (K : Kernel X Wt α μ) (cfg : SearchCfg μ θ) (th0 : θ) (vetoF : X → Nat → Bool)
    (s : ArtState Wt) (xs : List X) :
    fitEpochs K cfg th0 (fun _ x c => vetoF x c) 1 xs = fit K cfg th0 (fun _ x c => vetoF x c) s xs :=
  epoch_fold_eq_train_fold K cfg th0 vetoF xs 0 {} (List.replicate xs.length 0) List.length_replicate rfl

/-- **No training call changes a hyper-parameter** (C07, for the translated `fit` / `partial_fit`): whatever match
tracking did during any of the searches of any epoch, the calls hand back the `params` they were given. -/
theorem fit_restores_params (K : Kernel X Wt α μ) (cfg : SearchCfg μ θ) (E : Ext X Wt P C α) (th : P → θ)
    (is_none : Bool) (reset : X → Wt → Nat → P → C → Bool) (vetoF : X → Nat → Bool) (mt : MT) (eps : α)
    (hG : GContract K cfg E th is_none reset vetoF mt eps) (self : Self Wt P) (Xs : List X) (epochs : Nat) (v : Bool) :
    (Art.Gen.BaseART.fit E self Xs is_none reset epochs mt eps v).1.params = self.params ∧
    (Art.Gen.BaseART.partial_fit E self Xs is_none reset mt eps).1.params = self.params := by
  rw [fit_spec K cfg E th is_none reset vetoF mt eps hG self, partial_fit_spec K cfg E th is_none reset vetoF mt eps hG self]
  exact ⟨rfl, rfl⟩

/-- **Batching is irrelevant** (C06, for the translated code): two `partial_fit` calls are one call on the
concatenated batch. -/
theorem partial_fit_append (K : Kernel X Wt α μ) (cfg : SearchCfg μ θ) (E : Ext X Wt P C α) (th : P → θ)
    (is_none : Bool) (reset : X → Wt → Nat → P → C → Bool) (vetoF : X → Nat → Bool) (mt : MT) (eps : α)
    (hG : GContract K cfg E th is_none reset vetoF mt eps) (self : Self Wt P) (Xs Ys : List X) :
    Art.Gen.BaseART.partial_fit E (Art.Gen.BaseART.partial_fit E self Xs is_none reset mt eps).1 Ys is_none reset mt eps =
      Art.Gen.BaseART.partial_fit E self (Xs ++ Ys) is_none reset mt eps := by
  rw [partial_fit_spec K cfg E th is_none reset vetoF mt eps hG self Xs,
      partial_fit_spec K cfg E th is_none reset vetoF mt eps hG self (Xs ++ Ys)]
  simp only
  rw [partial_fit_spec K cfg E th is_none reset vetoF mt eps hG]
  simp [partialFit, List.foldl_append]

/-- **`fit` forgets the earlier model** (C06, for the translated code): the result depends on the estimator it is
called on only through its hyper-parameters. -/
theorem fit_history_independent (K : Kernel X Wt α μ) (cfg : SearchCfg μ θ) (E : Ext X Wt P C α) (th : P → θ)
    (is_none : Bool) (reset : X → Wt → Nat → P → C → Bool) (vetoF : X → Nat → Bool) (mt : MT) (eps : α)
    (hG : GContract K cfg E th is_none reset vetoF mt eps) (self₁ self₂ : Self Wt P) (hp : self₁.params = self₂.params)
    (Xs : List X) (epochs : Nat) (v₁ v₂ : Bool) :
    Art.Gen.BaseART.fit E self₁ Xs is_none reset epochs mt eps v₁ =
      Art.Gen.BaseART.fit E self₂ Xs is_none reset epochs mt eps v₂ := by
  rw [fit_spec K cfg E th is_none reset vetoF mt eps hG self₁, fit_spec K cfg E th is_none reset vetoF mt eps hG self₂, hp]

/-- one epoch of the translated `fit` = the translated `partial_fit` on a freshly constructed estimator -/
theorem fit_one_eq_partial_fit_fresh (K : Kernel X Wt α μ) (cfg : SearchCfg μ θ) (E : Ext X Wt P C α) (th : P → θ)
    (is_none : Bool) (reset : X → Wt → Nat → P → C → Bool) (vetoF : X → Nat → Bool) (mt : MT) (eps : α)
    (hG : GContract K cfg E th is_none reset vetoF mt eps) (self : Self Wt P) (p0 : P) (Xs : List X) (v : Bool)
    (hp : self.params = p0) :
    Art.Gen.BaseART.fit E self Xs is_none reset 1 mt eps v =
      Art.Gen.BaseART.partial_fit E ⟨[], [], 0, p0, [], false⟩ Xs is_none reset mt eps := by
  rw [fit_spec K cfg E th is_none reset vetoF mt eps hG self, partial_fit_spec K cfg E th is_none reset vetoF mt eps hG]
  simp only [hp, Bool.false_eq_true, if_false]
  rw [fitEpochs_one K cfg (th p0) vetoF {} Xs]
  rfl

end Train

/-! ### Every module with a scalar vigilance, with the generated decision tables -/

section ScalarFit
variable {X Wt β : Type} [Field β] [LinearOrder β] [IsStrictOrderedRing β]

theorem scalar_gcontract (K : Kernel X Wt β β) (inf eps : β) (mt : MT) (is_none : Bool) (vetoF : X → Nat → Bool)
    (hv : is_none = true → ∀ x c, vetoF x c = false) :
    GContract K (scalarCfg mt false (· + eps) (· - eps) inf) (scalarExt K inf) id is_none
      (fun x _ c _ _ => !vetoF x c) vetoF mt eps := by
  intro W x p0
  have h := scalar_contract K W inf p0 eps x mt is_none (vetoF x) (fun h c => hv h x c)
  exact { choice := h.choice, passes := h.passes, track := h.track, keep := h.keep, update := h.update, newW := h.newW,
          tilde := h.tilde, veto_none := h.veto_none, veto_some := fun _ _ _ _ _ _ => rfl }

/-- **`BaseART.fit`, statements and decision tables all translated from the source, is the model's `fitEpochs` under
the scalar configuration.** -/
theorem scalar_fit [Inhabited Wt] (K : Kernel X Wt β β) (inf eps : β) (mt : MT) (is_none : Bool) (vetoF : X → Nat → Bool)
    (hv : is_none = true → ∀ x c, vetoF x c = false) (self : Self Wt β) (Xs : List X) (epochs : Nat) (v : Bool) :
    letI : Inhabited β := ⟨0⟩
    Art.Gen.BaseART.fit (scalarExt K inf) self Xs is_none (fun x _ c _ _ => !vetoF x c) epochs mt eps v =
      (let r := fitEpochs K (scalarCfg mt false (· + eps) (· - eps) inf) self.params (fun _ x c => vetoF x c) epochs Xs
       (⟨r.W, r.cnt, r.n, self.params, r.labels, true⟩, ())) := by
  letI : Inhabited β := ⟨0⟩
  exact fit_spec K _ (scalarExt K inf) id is_none _ vetoF mt eps (scalar_gcontract K inf eps mt is_none vetoF hv) self Xs epochs v

theorem scalar_partial_fit [Inhabited Wt] (K : Kernel X Wt β β) (inf eps : β) (mt : MT) (is_none : Bool)
    (vetoF : X → Nat → Bool) (hv : is_none = true → ∀ x c, vetoF x c = false) (self : Self Wt β) (Xs : List X) :
    letI : Inhabited β := ⟨0⟩
    Art.Gen.BaseART.partial_fit (scalarExt K inf) self Xs is_none (fun x _ c _ _ => !vetoF x c) mt eps =
      (let s0 : ArtState Wt := if self.hasW then ⟨self.W, self.cnt, self.n, self.labels⟩ else ⟨[], self.cnt, self.n, []⟩
       let r := partialFit K (scalarCfg mt false (· + eps) (· - eps) inf) self.params (fun _ x c => vetoF x c) s0 Xs
       (⟨r.W, r.cnt, r.n, self.params, r.labels, true⟩, ())) := by
  letI : Inhabited β := ⟨0⟩
  exact partial_fit_spec K _ (scalarExt K inf) id is_none _ vetoF mt eps (scalar_gcontract K inf eps mt is_none vetoF hv) self Xs

end ScalarFit

/-! ### The inverted vigilance of BayesianART, with ITS generated tables -/

section Bayes
variable {X Wt β : Type} [Field β] [LinearOrder β] [IsStrictOrderedRing β]

/-- externals of BayesianART: `match_criterion_bin` and `_match_tracking` are the class's own overrides, as generated -/
def bayesExt (K : Kernel X Wt β β) (inf : β) : Ext X Wt β β β where
  category_choice := fun W x w _ => (K.choice W x w, K.matchv x w)
  match_criterion_bin := fun x w rho _ strict =>
    (Gen.BayesianART.match_bin (fun a b => if strict then decide (b < a) else decide (b ≤ a)) (K.matchv x w) rho, K.matchv x w)
  update := fun x w _ _ => K.update x w
  new_weight := fun x _ => K.newW x
  match_tracking := fun M eps rho mt =>
    ((Gen.BayesianART.match_tracking inf mt M eps rho).2, (Gen.BayesianART.match_tracking inf mt M eps rho).1)
  operator := Gen.BaseART.strict
  noneC := 0

theorem bayes_gcontract (K : Kernel X Wt β β) (inf eps : β) (mt : MT) (is_none : Bool) (vetoF : X → Nat → Bool)
    (hv : is_none = true → ∀ x c, vetoF x c = false) :
    GContract K (scalarCfg mt true (· - eps) (· + eps) (-inf)) (bayesExt K inf) id is_none
      (fun x _ c _ _ => !vetoF x c) vetoF mt eps := by
  intro W x p0
  exact {
    choice := fun _ => rfl
    passes := fun w p _ => by
      simp only [bayesExt, id]
      exact bayes_match_bin mt (K.matchv x w) p
    track := fun w p _ => by simp only [bayesExt, id, bayes_match_tracking]
    keep := fun _ p => by simp only [bayesExt, bayes_match_tracking]
    update := fun _ _ _ => rfl
    newW := fun _ => rfl
    tilde := by cases mt <;> rfl
    veto_none := fun h c => hv h x c
    veto_some := fun _ _ _ _ _ _ => rfl }

/-- `BaseART.fit` on a BayesianART (statements from BaseART, decisions from BayesianART's overrides, all generated) is
the model's `fitEpochs` under the inverted scalar configuration -/
theorem bayes_fit [Inhabited Wt] (K : Kernel X Wt β β) (inf eps : β) (mt : MT) (is_none : Bool) (vetoF : X → Nat → Bool)
    (hv : is_none = true → ∀ x c, vetoF x c = false) (self : Self Wt β) (Xs : List X) (epochs : Nat) (v : Bool) :
    letI : Inhabited β := ⟨0⟩
    Art.Gen.BaseART.fit (bayesExt K inf) self Xs is_none (fun x _ c _ _ => !vetoF x c) epochs mt eps v =
      (let r := fitEpochs K (scalarCfg mt true (· - eps) (· + eps) (-inf)) self.params (fun _ x c => vetoF x c) epochs Xs
       (⟨r.W, r.cnt, r.n, self.params, r.labels, true⟩, ())) := by
  letI : Inhabited β := ⟨0⟩
  exact fit_spec K _ (bayesExt K inf) id is_none _ vetoF mt eps (bayes_gcontract K inf eps mt is_none vetoF hv) self Xs epochs v

end Bayes

section
variable {X Wt α μ θ : Type} [LinearOrder α]

theorem smapStep_eq (K : Kernel X Wt α μ) (cfg : SearchCfg μ θ) (th0 : θ) (m : SMapState Wt) (xy : X × Nat) :
    smapStep K cfg th0 m xy =
      { a := { W := (stepFit K cfg th0 (mapVeto m.map xy.2) m.a xy.1).1.W,
               cnt := (stepFit K cfg th0 (mapVeto m.map xy.2) m.a xy.1).1.cnt,
               n := (stepFit K cfg th0 (mapVeto m.map xy.2) m.a xy.1).1.n,
               labels := m.a.labels ++ [(stepFit K cfg th0 (mapVeto m.map xy.2) m.a xy.1).2] }
        map := mapSet m.map (stepFit K cfg th0 (mapVeto m.map xy.2) m.a xy.1).2 xy.2
        labelsB := m.labelsB ++ [xy.2] } := by
  rw [← stepFit_labels K cfg th0 (mapVeto m.map xy.2) m.a xy.1]
  rfl

end

/-! ### SimpleARTMAP: the model's supervised step is the generated A-side step under the generated veto -/

section SMap
variable {X Wt β : Type} [Field β] [LinearOrder β] [IsStrictOrderedRing β]

/-- **One supervised training step of the model (`smapStep`) is**: the generated `BaseART.step_fit` run on the A-side
with the reset function `SimpleARTMAP.match_reset_func` *as generated from its source* (closed over the current map
and the sample's class), followed by the map update and the label bookkeeping.  So for elementary A-sides with a
scalar vigilance the search loop, the decision tables and the class veto of a SimpleARTMAP step all come from the
source; the two lines that record `map[c_a] = c_b` and the labels are written by hand here and tied to the generated
`SimpleARTMAP.step_fit` by `smap_generated_step_fit` below. -/
theorem smap_step_via_generated [Inhabited Wt] (K : Kernel X Wt β β) (inf eps : β) (mt : MT)
    (s : SMapState Wt) (rho : β) (x : X) (y : Nat) :
    letI : Inhabited β := ⟨0⟩
    smapStep K (scalarCfg mt false (· + eps) (· - eps) inf) rho s (x, y) =
      (let r := Art.Gen.BaseART.step_fit (scalarExt K inf) s.a.W.length
                  ⟨s.a.W, s.a.cnt, s.a.n, rho, s.a.labels, true⟩ x false
                  (fun _ _ c _ _ => Gen.SimpleARTMAP.match_reset (mapGet s.map) c y) mt eps
       { a := { W := r.1.W, cnt := r.1.cnt, n := r.1.n, labels := s.a.labels ++ [r.2] }
         map := mapSet s.map r.2 y
         labelsB := s.labelsB ++ [y] }) := by
  letI : Inhabited β := ⟨0⟩
  have hreset : (fun (_ : X) (_ : Wt) (c : Nat) (_ : β) (_ : β) => Gen.SimpleARTMAP.match_reset (mapGet s.map) c y) =
      (fun _ _ c _ _ => !mapVeto s.map y c) := by
    funext _ _ c _ _; exact smap_match_reset s.map c y
  rw [hreset, scalar_step_fit K inf eps ⟨s.a.W, s.a.cnt, s.a.n, rho, s.a.labels, true⟩ x mt false (mapVeto s.map y)
    (fun h => nomatch h), smapStep_eq]

/-- the conditional dict store of `SimpleARTMAP.step_fit` is the model's `mapSet` -/
theorem mapPut_if_absent (m : List (Option Nat)) (c y : Nat) :
    (if (mapGet m c).isNone then mapPut m c y else m) = mapSet m c y := by
  unfold mapSet mapPut mapGet
  by_cases hc : c < m.length
  · rw [if_pos hc, if_pos hc, List.getElem?_eq_getElem hc]
    cases m[c] <;> rfl
  · rw [if_neg hc, if_neg hc, List.getElem?_eq_none (Nat.le_of_not_lt hc)]
    rfl

/-- the lambda `SimpleARTMAP.step_fit` builds around `match_reset_func`, as translated, is the negated model veto -/
theorem smap_lambda_eq (m : List (Option Nat)) (y c : Nat) :
    (if ((mapGet m c).isSome && ((mapGet m c).getD 0 != y)) = true then false else true) = !mapVeto m y c := by
  unfold mapVeto
  cases mapGet m c with
  | none => rfl
  | some v => by_cases e : v = y <;> simp [e]

/-- **`SimpleARTMAP.step_fit`, translated statement by statement (lambda, nested call of the generated
`BaseART.step_fit`, dict bookkeeping), is the model's `smapStep`** on the A-side weights / counters, on the map and
on the returned label — for every elementary A-side with a scalar vigilance, every state, sample, class, mode, epsilon. -/
theorem smap_generated_step_fit [Inhabited Wt] (K : Kernel X Wt β β) (inf eps : β) (mt : MT)
    (self : SMapSelf Wt β) (x : X) (y : Nat) :
    letI : Inhabited β := ⟨0⟩
    Art.Gen.SimpleARTMAP.step_fit (scalarExt K inf) self x y mt eps =
      (let s : SMapState Wt := { a := ⟨self.a.W, self.a.cnt, self.a.n, self.a.labels⟩, map := self.map, labelsB := [] }
       let s' := smapStep K (scalarCfg mt false (· + eps) (· - eps) inf) self.a.params s (x, y)
       let c := (stepFit K (scalarCfg mt false (· + eps) (· - eps) inf) self.a.params (mapVeto self.map y) s.a x).2
       (⟨⟨s'.a.W, s'.a.cnt, s'.a.n, self.a.params, self.a.labels, self.a.hasW⟩, s'.map, self.labelsB, self.hasLabels⟩, c)) := by
  letI : Inhabited β := ⟨0⟩
  unfold Art.Gen.SimpleARTMAP.step_fit
  dsimp only
  have hreset : (fun (i : X) (w : Wt) (cluster : Nat) (params : β) (cache : β) =>
      if ((mapGet self.map cluster).isSome && ((mapGet self.map cluster).getD 0 != y)) = true then false else true) =
      (fun _ _ c _ _ => !mapVeto self.map y c) := by
    funext _ _ c _ _; exact smap_lambda_eq self.map y c
  rw [hreset, scalar_step_fit K inf eps self.a x mt false (mapVeto self.map y) (fun h => nomatch h)]
  simp only [mapPut_if_absent, smapStep]

/-- `SimpleARTMAP.step_pred` = (A-side arg-max, its class); the estimator is returned unchanged -/
theorem smap_step_pred_spec [Inhabited Wt] (K : Kernel X Wt β β) (inf : β) (self : SMapSelf Wt β) (x : X) :
    letI : Inhabited β := ⟨0⟩
    Art.Gen.SimpleARTMAP.step_pred (scalarExt K inf) self x =
      (self, ((stepPred K self.a.W x).getD 0, (mapGet self.map ((stepPred K self.a.W x).getD 0)).getD 0)) := by
  letI : Inhabited β := ⟨0⟩
  unfold Art.Gen.SimpleARTMAP.step_pred
  dsimp only
  rw [step_pred_spec K (scalarExt K inf) self.a x (fun _ => rfl)]

/-- **`SimpleARTMAP.predict` is row-wise `map[arg-max]` and returns the estimator unchanged** (C08 / C09 for the
translated code) -/
theorem smap_predict_spec [Inhabited Wt] (K : Kernel X Wt β β) (inf : β) (self : SMapSelf Wt β) (Xs : List X) :
    letI : Inhabited β := ⟨0⟩
    Art.Gen.SimpleARTMAP.predict (scalarExt K inf) self Xs =
      (self, Xs.map (fun x => (mapGet self.map ((stepPred K self.a.W x).getD 0)).getD 0)) := by
  letI : Inhabited β := ⟨0⟩
  unfold Art.Gen.SimpleARTMAP.predict
  dsimp only
  rw [forEach_store (fun y => (self.a, self.map, self.labelsB, self.hasLabels, y))
    (fun x => (mapGet self.map ((stepPred K self.a.W x).getD 0)).getD 0) _ Xs
    (fun y x _ i => congrArg (fun r => Flow.next (r.1.a, r.1.map, r.1.labelsB, r.1.hasLabels, y.set i r.2.2))
      (smap_step_pred_spec K inf self x))]

/-! #### `SimpleARTMAP.partial_fit` and `fit` -/

/-- one iteration of the `SimpleARTMAP.partial_fit` loop = one model `smapStep`, the A-label written at `i + j` -/
theorem smap_partial_fit_body_eq [Inhabited Wt] (K : Kernel X Wt β β) (inf eps : β) (mt : MT) (p0 : β) (hw : Bool) (j : Nat)
    (m : SMapState Wt) (lab LB : List Nat) (hl : Bool) (x : X) (y i : Nat) :
    letI : Inhabited β := ⟨0⟩
    Art.Gen.SimpleARTMAP.partial_fit_loop1_body (scalarExt K inf) mt eps j
        (⟨m.a.W, m.a.cnt, m.a.n, p0, lab, hw⟩, m.map, LB, hl) ((x, y), i) =
      (let r := stepFit K (scalarCfg mt false (· + eps) (· - eps) inf) p0 (mapVeto m.map y) m.a x
       Flow.next (⟨r.1.W, r.1.cnt, r.1.n, p0, lab.set (i + j) r.2, hw⟩, mapSet m.map r.2 y, LB, hl)) := by
  letI : Inhabited β := ⟨0⟩
  unfold Art.Gen.SimpleARTMAP.partial_fit_loop1_body
  have h := smap_generated_step_fit K inf eps mt
    ({ a := ⟨m.a.W, m.a.cnt, m.a.n, p0, lab, hw⟩, map := m.map, labelsB := LB, hasLabels := hl } : SMapSelf Wt β) x y
  dsimp only at h
  rw [smapStep_eq, stepFit_with_labels K _ p0 _ m.a lab x] at h
  simp only [h]

/-- the loop of `SimpleARTMAP.partial_fit` is the model's fold of `smapStep` (A-labels written into the padded vector) -/
theorem smap_partial_fit_loop [Inhabited Wt] (K : Kernel X Wt β β) (inf eps : β) (mt : MT) (p0 : β) (hw : Bool) (j : Nat)
    (LB : List Nat) (hl : Bool) :
    letI : Inhabited β := ⟨0⟩
    ∀ (l : List (X × Nat)) (k : Nat) (m : SMapState Wt) (tail : List Nat), tail.length = l.length →
      m.a.labels.length = j + k →
      forEach (Art.Gen.SimpleARTMAP.partial_fit_loop1_body (scalarExt K inf) mt eps j) (l.zipIdx k)
          (⟨m.a.W, m.a.cnt, m.a.n, p0, m.a.labels ++ tail, hw⟩, m.map, LB, hl) =
        (let m' := l.foldl (smapStep K (scalarCfg mt false (· + eps) (· - eps) inf) p0) m
         Flow.next (⟨m'.a.W, m'.a.cnt, m'.a.n, p0, m'.a.labels, hw⟩, m'.map, LB, hl)) := by
  letI : Inhabited β := ⟨0⟩
  exact fun l k m tail ht hlen =>
    forEach_zipIdx_write _ (smapStep K _ p0)
      (fun m L => ((⟨m.a.W, m.a.cnt, m.a.n, p0, L, hw⟩ : Self Wt β), m.map, LB, hl)) (fun m => m.a.labels)
      (fun m xy => (stepFit K _ p0 (mapVeto m.map xy.2) m.a xy.1).2) j
      (fun m L xy i => smap_partial_fit_body_eq K inf eps mt p0 hw j m L LB hl xy.1 xy.2 i)
      (fun m xy => congrArg (fun s : SMapState Wt => s.a.labels) (smapStep_eq K _ p0 m xy))
      l k m tail (hlen.trans (Nat.add_comm j k)) ht

theorem smap_fold_labelsB [Inhabited Wt] (K : Kernel X Wt β β) (cfg : SearchCfg β β) (th0 : β) :
    ∀ (l : List (X × Nat)) (m : SMapState Wt),
      (l.foldl (smapStep K cfg th0) m).labelsB = m.labelsB ++ l.map Prod.snd := by
  intro l
  induction l with
  | nil => intro m; exact (List.append_nil _).symm
  | cons xy l ih => intro m; rw [List.foldl_cons, ih, smapStep_eq]; exact List.append_assoc _ _ _

theorem smap_fold_labels_length [Inhabited Wt] (K : Kernel X Wt β β) (cfg : SearchCfg β β) (th0 : β) :
    ∀ (l : List (X × Nat)) (m : SMapState Wt),
      (l.foldl (smapStep K cfg th0) m).a.labels.length = m.a.labels.length + l.length := by
  intro l
  induction l with
  | nil => intro m; rfl
  | cons xy l ih =>
    intro m
    rw [List.foldl_cons, ih, smapStep_eq, List.length_append, List.length_cons, List.length_cons, List.length_nil]
    omega

/-- **`SimpleARTMAP.partial_fit` is the model's `smapPartialFit`** on the batch `zip X y` (same length): A-side weights,
counters, sample counter, A-labels, the class map and the recorded class labels; on an estimator without `labels_` it
starts from an empty A-side.  Batching is then irrelevant for the supervised model too (`smapPartialFit` is a fold). -/
theorem smap_partial_fit_spec [Inhabited Wt] (K : Kernel X Wt β β) (inf eps : β) (mt : MT)
    (self : SMapSelf Wt β) (Xs : List X) (ys : List Nat) (hxy : Xs.length = ys.length)
    (hinv : self.hasLabels = true → self.a.labels.length = self.labelsB.length) :
    letI : Inhabited β := ⟨0⟩
    Art.Gen.SimpleARTMAP.partial_fit (scalarExt K inf) self Xs ys mt eps =
      (let s0 : SMapState Wt :=
         if self.hasLabels then { a := ⟨self.a.W, self.a.cnt, self.a.n, self.a.labels⟩, map := self.map, labelsB := self.labelsB }
         else { a := ⟨[], [], 0, []⟩, map := self.map, labelsB := [] }
       let r := smapPartialFit K (scalarCfg mt false (· + eps) (· - eps) inf) self.a.params s0 (Xs.zip ys)
       (⟨⟨r.a.W, r.a.cnt, r.a.n, self.a.params, r.a.labels, if self.hasLabels then self.a.hasW else true⟩, r.map, r.labelsB, true⟩, ())) := by
  letI : Inhabited β := ⟨0⟩
  unfold Art.Gen.SimpleARTMAP.partial_fit smapPartialFit
  have hzl : (Xs.zip ys).length = Xs.length := by rw [List.length_zip, ← hxy, Nat.min_self]
  have hsnd : (Xs.zip ys).map Prod.snd = ys := List.map_snd_zip (Nat.le_of_eq hxy.symm)
  have hloop := fun hw LB (m : SMapState Wt) =>
    smap_partial_fit_loop K inf eps mt self.a.params hw m.a.labels.length LB true (Xs.zip ys) 0 m
      (List.replicate Xs.length 0) (by rw [List.length_replicate, hzl]) rfl
  cases hh : self.hasLabels with
  | false =>
    have h1 := hloop true ys { a := ⟨[], [], 0, []⟩, map := self.map, labelsB := [] }
    dsimp only [List.length_nil, List.nil_append] at h1
    simp only [Bool.not_false, if_true, Bool.false_eq_true, if_false, h1]
    rw [smap_fold_labelsB, hsnd]
    rfl
  | true =>
    have h1 := hloop self.a.hasW (self.labelsB ++ ys)
      { a := ⟨self.a.W, self.a.cnt, self.a.n, self.a.labels⟩, map := self.map, labelsB := self.labelsB }
    dsimp only at h1
    rw [hinv hh] at h1
    simp only [Bool.not_true, Bool.false_eq_true, if_false, if_true, h1]
    rw [smap_fold_labelsB, hsnd]

/-- one epoch of `SimpleARTMAP.fit`: the model's `smapPartialFit` from emptied label vectors; the A-labels of the
previous epoch are overwritten position by position -/
theorem smap_fit_epoch [Inhabited Wt] (K : Kernel X Wt β β) (inf eps : β) (mt : MT) (p0 : β) (hw : Bool)
    (LB : List Nat) (hl : Bool) (l : List (X × Nat)) (m : SMapState Wt) (L : List Nat) (hL : L.length = l.length) :
    letI : Inhabited β := ⟨0⟩
    forEach (Art.Gen.SimpleARTMAP.fit_loop1_body (scalarExt K inf) mt eps) (l.zipIdx)
        (⟨m.a.W, m.a.cnt, m.a.n, p0, L, hw⟩, m.map, LB, hl) =
      (let m' := smapPartialFit K (scalarCfg mt false (· + eps) (· - eps) inf) p0
                   { m with a := { m.a with labels := [] }, labelsB := [] } l
       Flow.next (⟨m'.a.W, m'.a.cnt, m'.a.n, p0, m'.a.labels, hw⟩, m'.map, LB, hl)) := by
  letI : Inhabited β := ⟨0⟩
  exact smap_partial_fit_loop K inf eps mt p0 hw 0 LB hl l 0
    { m with a := { m.a with labels := [] }, labelsB := [] } L hL rfl

/-- **`SimpleARTMAP.fit(X, y, max_iter = k)` is the model's `smapFitEpochs`** for every `k >= 1`: A-side weights,
counters, sample counter and labels, the class map; `labels_` is `y`. -/
theorem smap_fit_spec [Inhabited Wt] (K : Kernel X Wt β β) (inf eps : β) (mt : MT)
    (self : SMapSelf Wt β) (Xs : List X) (ys : List Nat) (hxy : Xs.length = ys.length) (epochs : Nat) (v : Bool) :
    letI : Inhabited β := ⟨0⟩
    Art.Gen.SimpleARTMAP.fit (scalarExt K inf) self Xs ys (epochs + 1) mt eps v =
      (let r := smapFitEpochs K (scalarCfg mt false (· + eps) (· - eps) inf) self.a.params (epochs + 1) (Xs.zip ys)
       (⟨⟨r.a.W, r.a.cnt, r.a.n, self.a.params, r.a.labels, true⟩, r.map, ys, true⟩, ())) := by
  letI : Inhabited β := ⟨0⟩
  unfold Art.Gen.SimpleARTMAP.fit smapFitEpochs
  dsimp only
  have hzl : (Xs.zip ys).length = Xs.length := by rw [List.length_zip, ← hxy, Nat.min_self]
  -- one epoch of the model, and the state of the loop: the model state and the label vector in use
  let ep : SMapState Wt → SMapState Wt := fun s =>
    smapPartialFit K (scalarCfg mt false (· + eps) (· - eps) inf) self.a.params
      { s with a := { s.a with labels := [] }, labelsB := [] } (Xs.zip ys)
  have hep_len : ∀ s, (ep s).a.labels.length = Xs.length := fun s =>
    (smap_fold_labels_length K _ self.a.params (Xs.zip ys) _).trans ((Nat.zero_add _).trans hzl)
  have hloop := forEach_pack_inv
    (fun p : SMapState Wt × List Nat =>
      ((⟨p.1.a.W, p.1.a.cnt, p.1.a.n, self.a.params, p.2, true⟩ : Self Wt β), p.1.map, ys, true))
    (fun p => p.2.length = Xs.length) (fun p _ => (ep p.1, (ep p.1).a.labels))
    (Art.Gen.SimpleARTMAP.fit_loop2_body (scalarExt K inf) Xs ys mt eps v) (List.range (epochs + 1))
    (fun p e _ hp => by
      refine ⟨?_, hep_len p.1⟩
      unfold Art.Gen.SimpleARTMAP.fit_loop2_body
      have := smap_fit_epoch K inf eps mt self.a.params true ys true (Xs.zip ys) p.1 p.2 (hp.trans hzl.symm)
      cases v <;> simp only [if_true, Bool.false_eq_true, if_false, this] <;> rfl)
    ({}, List.replicate Xs.length 0) List.length_replicate
  have hfst : ∀ (es : List Nat) (p : SMapState Wt × List Nat),
      (es.foldl (fun p _ => (ep p.1, (ep p.1).a.labels)) p).1 = es.foldl (fun s _ => ep s) p.1 :=
    fun es p => (List.foldl_hom Prod.fst (fun _ _ => rfl)).symm
  have hlast : ∀ p : SMapState Wt × List Nat,
      ((List.range (epochs + 1)).foldl (fun p _ => (ep p.1, (ep p.1).a.labels)) p).2 =
        ((List.range (epochs + 1)).foldl (fun p _ => (ep p.1, (ep p.1).a.labels)) p).1.a.labels := by
    intro p; rw [List.range_succ, List.foldl_append]; rfl
  obtain ⟨h, -⟩ := hloop
  dsimp only at h
  rw [h, hlast, hfst]

end SMap

end Art.GenSpec.Control
