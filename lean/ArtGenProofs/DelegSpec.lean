/-
`generated = specification` for the delegating wrappers of the compound estimators (ArtGen/Deleg.lean, regenerated
from the Python sources by harness/artv/xtrans.py on every run), and the hosts' `restore_data ∘ prepare_data = id`
derived from the modules' round trip (C18: "every estimator's prepare/restore pair").

The specification of a wrapper says *which* held estimator, *which* of its methods, *which* argument and in which
order — written here by hand with the record fields of ArtModel/ImpDeleg.lean.  The wrappers are applied with named
arguments, so a renamed or reordered parameter in the source breaks the statement, not just the proof.
-/
import ArtGen.Deleg

namespace Art.GenSpec.Deleg
open Art.Deleg Art.Gen.Deleg

variable {A : Type}

/-! ### one-module hosts -/

theorem SimpleARTMAP_prepare (self : Host A) (X : A) (y : Option A) :
    SimpleARTMAP.prepare_data (self := self) (X := X) (y := y) = some (self.module_a.prepare_data X) := rfl

theorem SimpleARTMAP_restore (self : Host A) (X : A) (y : Option A) :
    SimpleARTMAP.restore_data (self := self) (X := X) (y := y) = some (self.module_a.restore_data X) := rfl

theorem Dual_prepare (self : Host A) (X : A) :
    DualVigilanceART.prepare_data (self := self) (X := X) = some (self.base_module.prepare_data X) := rfl

theorem Dual_restore (self : Host A) (X : A) :
    DualVigilanceART.restore_data (self := self) (X := X) = some (self.base_module.restore_data X) := rfl

theorem Dual_centers (self : Host A) :
    DualVigilanceART.get_cluster_centers (self := self) = some self.base_module.get_cluster_centers := rfl

theorem Topo_prepare (self : Host A) (X : A) :
    TopoART.prepare_data (self := self) (X := X) = some (self.base_module.prepare_data X) := rfl

theorem Topo_restore (self : Host A) (X : A) :
    TopoART.restore_data (self := self) (X := X) = some (self.base_module.restore_data X) := rfl

theorem Topo_match (self : Host A) (i w params : A) (cache : Option A) :
    TopoART.match_criterion (self := self) (i := i) (w := w) (params := params) (cache := cache)
      = some (self.base_module.match_criterion i w params cache) := rfl

theorem Topo_centers (self : Host A) :
    TopoART.get_cluster_centers (self := self) = some self.base_module.get_cluster_centers := rfl

theorem CVIART_validate (self : Host A) (X : A) :
    CVIART.validate_data (self := self) (X := X) = self.base_module.validate_data X := by
  unfold CVIART.validate_data
  cases self.base_module.validate_data X <;> rfl

theorem CVIART_check (self : Host A) (X : A) :
    CVIART.check_dimensions (self := self) (X := X) = self.base_module.check_dimensions X := by
  unfold CVIART.check_dimensions
  cases self.base_module.check_dimensions X <;> rfl

theorem CVIART_prepare (self : Host A) (X : A) :
    CVIART.prepare_data (self := self) (X := X) = some (self.base_module.prepare_data X) := rfl

theorem CVIART_restore (self : Host A) (X : A) :
    CVIART.restore_data (self := self) (X := X) = some (self.base_module.restore_data X) := rfl

theorem CVIART_step_pred (self : Host A) (x : A) :
    CVIART.step_pred (self := self) (x := x) = some (self.base_module.step_pred x) := rfl

theorem CVIART_centers (self : Host A) :
    CVIART.get_cluster_centers (self := self) = some self.base_module.get_cluster_centers := rfl

/-! ### ARTMAP: two modules, A side first -/

/-- both sides are validated, the A side first; the call raises iff one of them does -/
theorem ARTMAP_validate (self : Host A) (X y : A) :
    ARTMAP.validate_data (self := self) (X := X) (y := y)
      = (self.module_a.validate_data X).bind (fun _ => self.module_b.validate_data y) := by
  unfold ARTMAP.validate_data
  cases self.module_a.validate_data X with
  | none => rfl
  | some u => cases self.module_b.validate_data y <;> rfl

theorem ARTMAP_prepare (self : Host A) (X : A) (y : Option A) :
    ARTMAP.prepare_data (self := self) (X := X) (y := y)
      = y.map (fun y => (self.module_a.prepare_data X, self.module_b.prepare_data y)) := by
  cases y <;> rfl

theorem ARTMAP_restore (self : Host A) (X : A) (y : Option A) :
    ARTMAP.restore_data (self := self) (X := X) (y := y)
      = y.map (fun y => (self.module_a.restore_data X, self.module_b.restore_data y)) := by
  cases y <;> rfl

/-! ### DeepARTMAP / SMART: one module per channel -/

/-- the comprehension `[modules[i].f(X[i]) for i in range(n)]` over two lists of length `n` is the zip -/
theorem comprehension_eq (f : Deleg.Mod A → A → A) : ∀ (ms : List (Deleg.Mod A)) (X : List A),
    ms.length = X.length →
    (List.range ms.length).mapM (fun i => do pure (f (← ms[i]?) (← X[i]?))) = some (List.zipWith f ms X)
  | [], [], _ => rfl
  | m :: ms, x :: X, h => by
    -- position 0 reads the heads, position `i + 1` reads position `i` of the tails
    rw [List.length_cons, List.range_succ_eq_map, List.mapM_cons, List.mapM_map]
    exact congrArg (fun r => r.bind fun l => some (f m x :: l)) (comprehension_eq f ms X (Nat.succ.inj h))

theorem DeepARTMAP_prepare (self : Host A) (X : List A) (y : Option A)
    (hm : self.n_modules = self.modules.length) (hx : self.n_modules = X.length) :
    DeepARTMAP.prepare_data (self := self) (X := X) (y := y)
      = some (List.zipWith (fun m x => m.prepare_data x) self.modules X, y) := by
  rw [DeepARTMAP.prepare_data, hm]
  exact congrArg (fun r => r.bind fun l => some (l, y))
    (comprehension_eq (fun m x => m.prepare_data x) self.modules X (hm.symm.trans hx))

theorem DeepARTMAP_restore (self : Host A) (X : List A) (y : Option A)
    (hm : self.n_modules = self.modules.length) (hx : self.n_modules = X.length) :
    DeepARTMAP.restore_data (self := self) (X := X) (y := y)
      = some (List.zipWith (fun m x => m.restore_data x) self.modules X, y) := by
  rw [DeepARTMAP.restore_data, hm]
  exact congrArg (fun r => r.bind fun l => some (l, y))
    (comprehension_eq (fun m x => m.restore_data x) self.modules X (hm.symm.trans hx))

theorem DeepARTMAP_labels (self : Host A) :
    DeepARTMAP.labels_ (self := self) = (self.layers[0]?).map (fun l => l.labels_) := by
  unfold DeepARTMAP.labels_
  cases self.layers[0]? <;> rfl

/-- SMART feeds the same matrix to every level and returns the first level's result -/
theorem SMART_prepare (self : Host A) (X : A) (y : Option A) (m : Deleg.Mod A) (ms : List (Deleg.Mod A))
    (hmods : self.modules = m :: ms) (hm : self.n_modules = self.modules.length) :
    SMART.prepare_data (self := self) (X := X) (y := y) = some (m.prepare_data X) := by
  rw [SMART.prepare_data, DeepARTMAP_prepare self _ none hm List.length_replicate.symm, hm, hmods, List.length_cons,
    List.replicate_succ]
  rfl

theorem SMART_restore (self : Host A) (X : A) (y : Option A) (m : Deleg.Mod A) (ms : List (Deleg.Mod A))
    (hmods : self.modules = m :: ms) (hm : self.n_modules = self.modules.length) :
    SMART.restore_data (self := self) (X := X) (y := y) = some (m.restore_data X) := by
  rw [SMART.restore_data, DeepARTMAP_restore self _ none hm List.length_replicate.symm, hm, hmods, List.length_cons,
    List.replicate_succ]
  rfl

/-! ### FALCON: states, actions, rewards are channels 0, 1, 2 of the fusion module -/

theorem FALCON_prepare (self : Host A) (s a r : A) (ms ma mr : Deleg.Mod A) (rest : List (Deleg.Mod A))
    (h : self.fusion_art.modules = ms :: ma :: mr :: rest) :
    FALCON.prepare_data (self := self) (states := s) (actions := a) (rewards := r)
      = some (ms.prepare_data s, ma.prepare_data a, mr.prepare_data r) := by
  rw [FALCON.prepare_data, h]
  rfl

theorem FALCON_restore (self : Host A) (s a r : A) (ms ma mr : Deleg.Mod A) (rest : List (Deleg.Mod A))
    (h : self.fusion_art.modules = ms :: ma :: mr :: rest) :
    FALCON.restore_data (self := self) (states := s) (actions := a) (rewards := r)
      = some (ms.restore_data s, ma.restore_data a, mr.restore_data r) := by
  rw [FALCON.restore_data, h]
  rfl

/-! ### C18 for the hosts: `restore_data (prepare_data X) = X` whenever the held estimators round-trip -/

theorem roundtrip_of_forward (m : Deleg.Mod A) {prepare restore : A → Option A}
    (hp : ∀ X, prepare X = some (m.prepare_data X)) (hr : ∀ P, restore P = some (m.restore_data P))
    (h : m.RoundTrips) (X : A) : (prepare X).bind restore = some X := by
  rw [hp, Option.bind_some, hr, h X]

theorem SimpleARTMAP_roundtrip (self : Host A) (X : A) (h : self.module_a.RoundTrips) :
    (SimpleARTMAP.prepare_data self X).bind (fun P => SimpleARTMAP.restore_data self P) = some X :=
  roundtrip_of_forward self.module_a (SimpleARTMAP_prepare self · none) (SimpleARTMAP_restore self · none) h X

theorem Dual_roundtrip (self : Host A) (X : A) (h : self.base_module.RoundTrips) :
    (DualVigilanceART.prepare_data self X).bind (fun P => DualVigilanceART.restore_data self P) = some X :=
  roundtrip_of_forward self.base_module (Dual_prepare self) (Dual_restore self) h X

theorem Topo_roundtrip (self : Host A) (X : A) (h : self.base_module.RoundTrips) :
    (TopoART.prepare_data self X).bind (fun P => TopoART.restore_data self P) = some X :=
  roundtrip_of_forward self.base_module (Topo_prepare self) (Topo_restore self) h X

theorem CVIART_roundtrip (self : Host A) (X : A) (h : self.base_module.RoundTrips) :
    (CVIART.prepare_data self X).bind (fun P => CVIART.restore_data self P) = some X :=
  roundtrip_of_forward self.base_module (CVIART_prepare self) (CVIART_restore self) h X

theorem ARTMAP_roundtrip (self : Host A) (X y : A) (ha : self.module_a.RoundTrips) (hb : self.module_b.RoundTrips) :
    (ARTMAP.prepare_data self X (some y)).bind (fun P => ARTMAP.restore_data self P.1 (some P.2)) = some (X, y) := by
  rw [ARTMAP_prepare, Option.map_some, Option.bind_some, ARTMAP_restore, Option.map_some, ha X, hb y]

theorem zipWith_roundtrip (ms : List (Deleg.Mod A)) (X : List A) (h : ∀ m ∈ ms, m.RoundTrips)
    (hl : ms.length = X.length) :
    List.zipWith (fun m x => m.restore_data x) ms (List.zipWith (fun m x => m.prepare_data x) ms X) = X := by
  induction ms generalizing X with
  | nil => cases X with
    | nil => rfl
    | cons _ _ => cases hl
  | cons m ms ih =>
    cases X with
    | nil => cases hl
    | cons x X =>
      rw [List.zipWith_cons_cons, List.zipWith_cons_cons, h m List.mem_cons_self x,
        ih X (fun m' hm' => h m' (List.mem_cons_of_mem _ hm')) (Nat.succ.inj hl)]

theorem DeepARTMAP_roundtrip (self : Host A) (X : List A) (y : Option A)
    (hm : self.n_modules = self.modules.length) (hx : self.n_modules = X.length)
    (h : ∀ m ∈ self.modules, m.RoundTrips) :
    (DeepARTMAP.prepare_data self X y).bind (fun P => DeepARTMAP.restore_data self P.1 P.2) = some (X, y) := by
  have hl : self.modules.length = X.length := hm.symm.trans hx
  rw [DeepARTMAP_prepare self X y hm hx, Option.bind_some,
    DeepARTMAP_restore self _ y hm (by rw [List.length_zipWith, ← hl, Nat.min_self, hm]),
    zipWith_roundtrip self.modules X h hl]

theorem SMART_roundtrip (self : Host A) (X : A) (m : Deleg.Mod A) (ms : List (Deleg.Mod A))
    (hmods : self.modules = m :: ms) (hm : self.n_modules = self.modules.length) (h : m.RoundTrips) :
    (SMART.prepare_data self X).bind (fun P => SMART.restore_data self P) = some X := by
  rw [SMART_prepare self X none m ms hmods hm]
  simp only [Option.bind_some]
  rw [SMART_restore self _ none m ms hmods hm, h X]

theorem FALCON_roundtrip (self : Host A) (s a r : A) (ms ma mr : Deleg.Mod A) (rest : List (Deleg.Mod A))
    (hmods : self.fusion_art.modules = ms :: ma :: mr :: rest)
    (h0 : ms.RoundTrips) (h1 : ma.RoundTrips) (h2 : mr.RoundTrips) :
    (FALCON.prepare_data self s a r).bind (fun P => FALCON.restore_data self P.1 P.2.1 P.2.2) = some (s, a, r) := by
  rw [FALCON_prepare self s a r ms ma mr rest hmods]
  simp only [Option.bind_some]
  rw [FALCON_restore self _ _ _ ms ma mr rest hmods, h0 s, h1 a, h2 r]

/-! ### non-vacuity: concrete hosts -/

/-- a module over `Int` that shifts by `k` -/
def shift (k : Int) : Deleg.Mod Int :=
  { prepare_data := (· + k), restore_data := (· - k), validate_data := fun x => if 0 ≤ x then some () else none,
    check_dimensions := fun _ => some (), get_cluster_centers := k, step_pred := id,
    match_criterion := fun i _ _ _ => i, labels_ := k }

theorem shift_roundTrips (k : Int) : (shift k).RoundTrips := fun x => Int.add_sub_cancel x k

def host₀ : Host Int :=
  { module_a := shift 1, module_b := shift 2, base_module := shift 3, modules := [shift 4, shift 5],
    layers := [shift 6], n_modules := 2, fusion_art := ⟨[shift 7, shift 8, shift 9]⟩ }

example : ARTMAP.prepare_data host₀ 10 (some 20) = some (11, 22) := by decide
example : ARTMAP.prepare_data host₀ 10 = none := by decide
example : ARTMAP.validate_data host₀ 1 (-1) = none := by decide
example : DeepARTMAP.prepare_data host₀ [10, 20] = some ([14, 25], none) := by decide
example : DeepARTMAP.prepare_data host₀ [10] = none := by decide
example : SMART.prepare_data host₀ 10 = some 14 := by decide
example : FALCON.restore_data host₀ 10 20 30 = some (3, 12, 21) := by decide
example : DeepARTMAP.labels_ host₀ = some 6 := by decide
example : (DeepARTMAP.prepare_data host₀ [10, 20]).bind (fun P => DeepARTMAP.restore_data host₀ P.1 P.2)
    = some ([10, 20], none) :=
  DeepARTMAP_roundtrip host₀ [10, 20] none rfl rfl (by
    intro m hm; simp [host₀] at hm; rcases hm with rfl | rfl <;> exact shift_roundTrips _)

end Art.GenSpec.Deleg
