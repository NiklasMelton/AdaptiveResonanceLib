/-
ArtGenProofs.ICVISpec — the incremental Calinski-Harabasz index `iCVI_CH`, as translated from the Python source by
`harness/artv/itrans.py` (ArtGen/ICVI.lean), computes the definitions of `ArtModel/ICVI.lean` that the C15 property
theorems are stated about — for every dimension, every state, every sample and label, no bounds.

The generated code keeps its data the way the Python does: `self.CD` is an association list label -> string-keyed
dict, the candidate parameters are a string-keyed dict of `Imp.Val`.  The model uses records.  The tie is therefore
stated through the encoding `RepState` / `RepCD` / `RepClu` / `RepCand` ("this dict, read at these keys, is that
record"; the order of the string keys inside one dict is left free because the Python code inserts them in different
orders in different methods and never iterates over them; the order of the *labels* in `self.CD` is kept):

  delta_add_spec / delta_remove_spec   the two helpers = deltaAdd / deltaRemove
  init_spec             iCVI_CH(x) represents `init (len x)`
  add_sample_spec       RepState s st  ->  add_sample s x l returns a dict representing `addSample st x l`
  remove_sample_spec    … remove_sample … `removeSample st x l` (on states with n_samples ≥ 1, see the theorem)
  remove_sample_core    the cluster part of remove_sample = `cluRemove`, on every state
  switch_label_spec     … switch_label … `switchLabel st x lo ln` whenever the model returns a record
  switch_label_none     … and raises (`none`) whenever the model says the Python raises
  update_spec           committing a dict that represents `c` yields a state representing `update st c`
  genReach_rep          any permitted history run on the GENERATED functions stays in the encoding of the same
                        history run on the model (`Reach`)
  gen_criterion_eq_batch / gen_add_candidate_eq_batch / gen_switch_defined / gen_tracks_online
                        C15's "incremental = batch" theorems, stated about folds of the generated functions

Proof method: each entry point is shown to return one explicit dict (`add_sample_exec`, `remove_sample_exec`,
`switch_label_ne`), written with the model's own functions (`addDict`, `remDict`, `swDict` over `cluAdd`, `cluRemove`,
`muAdd` …); that this dict represents the model's record is then a matter of reading it (`repCand_addDict` …).  The
generated `do` block is run block by block (`Good`): the reads of the encoded state are rewritten with the encoding
hypotheses, after which a straight-line block is a closed term that `rfl` evaluates; the common end of the three
(the `SEP` loop and the criterion) is `good_criterion`; the casts between Python ints and `ℕ` are settled where a
block's result is stated.  Division is α's `/` on both sides (a total function of the field; float division by zero and
rounding are outside these theorems, as in C15).
-/
import Mathlib.Algebra.Order.Field.Rat
import Mathlib.Tactic.NormNum
import Mathlib.Tactic.Ring
import Mathlib.Tactic.Push
import ArtGen.ICVI
import ArtProofs.ICVI
import ArtProps.C15

set_option linter.unusedSectionVars false

namespace Art.GenSpec.ICVI
open Art Art.ICVI Art.Imp

/-! ### the encoding -/

section Rep
variable {α : Type}

/-- a `{"n", "v", "CP", "G"}` dict represents the model's `Clu` record -/
def RepClu [NatCast α] (d : Imp.Dict α) (c : Clu α) : Prop :=
  Imp.aget d "n" = some (.int c.n) ∧ Imp.aget d "v" = some (.vec c.v) ∧
    Imp.aget d "CP" = some (.num c.CP) ∧ Imp.aget d "G" = some (.vec c.G)

/-- `self.CD`: same labels in the same order, entry by entry -/
def RepCD [NatCast α] : List (Nat × Imp.Dict α) → List (Nat × Clu α) → Prop
  | [], [] => True
  | (k, d) :: g, (l, c) :: m => k = l ∧ RepClu d c ∧ RepCD g m
  | _, _ => False

/-- the attributes of the object -/
structure RepState [NatCast α] (s : Gen.ICVI.Self α) (st : State α) : Prop where
  dim : s.dim = st.dim
  n : s.n_samples = st.n
  mu : s.mu = st.mu
  cd : RepCD s.CD st.CD
  nodup : (st.CD.map (·.1)).Nodup
  wgss : s.WGSS = st.WGSS
  crit : s.criterion_value = st.crit

/-- an object that represents `st` is `st`'s fields around a dict that represents `st.CD` -/
theorem RepState.exists_mk [NatCast α] {s : Gen.ICVI.Self α} {st : State α} (h : RepState s st) :
    ∃ sCD, s = ⟨st.dim, st.n, st.mu, sCD, st.WGSS, st.crit⟩ ∧ RepCD sCD st.CD ∧ (st.CD.map (·.1)).Nodup := by
  obtain ⟨sdim, sn, smu, sCD, sW, sc⟩ := s
  obtain ⟨hdim, hn, hmu, hcd, hnd, hw, hcr⟩ := h
  simp only at hdim hn hmu hcd hw hcr
  subst hdim hn hmu hw hcr
  exact ⟨sCD, rfl, hcd, hnd⟩

/-- the candidate-parameter dict `newP` -/
def RepCand [NatCast α] (p : Imp.Dict α) (c : Cand α) : Prop :=
  Imp.aget p "label" = some (.key c.label) ∧ Imp.aget p "n_samples" = some (.int c.n) ∧
  Imp.aget p "mu" = some (.vec c.mu) ∧ (∃ d, Imp.aget p "CD" = some (.dict d) ∧ RepClu d c.CD) ∧
  Imp.aget p "CP_diff" = some (.num c.CPdiff) ∧ Imp.aget p "criterion_value" = some (.num c.crit) ∧
  match c.second with
  | none => Imp.ahas p "label2" = false
  | some (l2, c2, d2) =>
    Imp.ahas p "label2" = true ∧ Imp.aget p "label2" = some (.key l2) ∧
      (∃ d, Imp.aget p "CD2" = some (.dict d) ∧ RepClu d c2) ∧ Imp.aget p "CP_diff2" = some (.num d2)

end Rep

/-! ### association lists -/

section Assoc
variable {α : Type} [NatCast α]

/-- `RepCD` relates two lists entry by entry: induction over both at once -/
theorem RepCD.induction {motive : List (Nat × Imp.Dict α) → List (Nat × Clu α) → Prop} (nil : motive [] [])
    (cons : ∀ k d c g m, RepClu d c → RepCD g m → motive g m → motive ((k, d) :: g) ((k, c) :: m)) :
    ∀ {g : List (Nat × Imp.Dict α)} {m : List (Nat × Clu α)}, RepCD g m → motive g m
  | [], [], _ => nil
  | (k, d) :: g, (_, c) :: m, ⟨rfl, h2, h3⟩ => cons k d c g m h2 h3 (RepCD.induction nil cons h3)
  | [], _ :: _, h => h.elim
  | _ :: _, [], h => h.elim

variable {g : List (Nat × Imp.Dict α)} {m : List (Nat × Clu α)} (h : RepCD g m)
include h

theorem repCD_length : g.length = m.length :=
  h.induction (motive := fun g m => g.length = m.length) rfl fun _ _ _ _ _ _ _ ih => congrArg (· + 1) ih

theorem repCD_keys : Imp.akeys g = m.map (·.1) :=
  h.induction (motive := fun g (m : List (Nat × Clu α)) => Imp.akeys g = m.map (·.1)) rfl fun k _ _ _ _ _ _ ih => congrArg (k :: ·) ih

theorem repCD_none {l : Nat} : lookup m l = none → Imp.ahas g l = false ∧ Imp.aget g l = none := by
  refine h.induction (motive := fun g m => lookup m l = none → Imp.ahas g l = false ∧ Imp.aget g l = none)
    (fun _ => ⟨rfl, rfl⟩) fun k d c g m _ _ ih => ?_
  · rw [lookup, Imp.ahas, Imp.aget]
    by_cases hk : k = l
    · rw [if_pos hk]
      exact fun hl => nomatch hl
    · rw [if_neg hk, if_neg hk, if_neg hk]
      exact ih

theorem repCD_some {l : Nat} {c : Clu α} :
    lookup m l = some c → Imp.ahas g l = true ∧ ∃ d, Imp.aget g l = some d ∧ RepClu d c := by
  refine h.induction (motive := fun g m => lookup m l = some c → Imp.ahas g l = true ∧ ∃ d, Imp.aget g l = some d ∧
    RepClu d c) (fun hl => nomatch hl) fun k d c' g m hd _ ih => ?_
  · rw [lookup, Imp.ahas, Imp.aget]
    by_cases hk : k = l
    · rw [if_pos hk, if_pos hk, if_pos hk, Option.some.injEq]
      rintro rfl
      exact ⟨rfl, d, rfl, hd⟩
    · rw [if_neg hk, if_neg hk, if_neg hk]
      exact ih

theorem repCD_set (l : Nat) {d : Imp.Dict α} {c : Clu α} (hd : RepClu d c) :
    RepCD (Imp.aset g l d) (setCD m l c) := by
  refine h.induction (motive := fun g m => RepCD (Imp.aset g l d) (setCD m l c)) ⟨rfl, hd, trivial⟩
    fun k d' c' g m hd' h ih => ?_
  · rw [Imp.aset, setCD]
    by_cases hk : k = l
    · rw [if_pos hk, if_pos hk]
      exact ⟨rfl, hd, h⟩
    · rw [if_neg hk, if_neg hk]
      exact ⟨rfl, hd', ih⟩

omit h

theorem lookup_of_mem {β : Type} {m : List (Nat × Clu β)} (h : (m.map (·.1)).Nodup) {e : Nat × Clu β}
    (he : e ∈ m) : lookup m e.1 = some e.2 := by
  induction m with
  | nil => simp at he
  | cons a m ih =>
    obtain ⟨k, c0⟩ := a
    obtain ⟨hk, hm⟩ := List.nodup_cons.mp h
    rw [lookup]
    rcases List.mem_cons.mp he with rfl | he
    · exact if_pos rfl
    · rw [if_neg fun hk' => hk (List.mem_map.mpr ⟨e, he, hk'.symm⟩), ih hm he]

theorem foldlM_keys {β γ : Type} (m : List (Nat × γ)) (body : List β → Nat → Option (List β)) (F : Nat × γ → β)
    (h : ∀ e ∈ m, ∀ acc, body acc e.1 = some (acc ++ [F e])) (acc : List β) :
    (m.map (·.1)).foldlM body acc = some (acc ++ m.map F) := by
  induction m generalizing acc with
  | nil => simp
  | cons e m ih =>
    simp only [List.map_cons, List.foldlM_cons, h e (by simp), Option.bind_eq_bind, Option.bind_some]
    rw [ih fun e' he' => h e' (List.mem_cons_of_mem _ he'), List.append_assoc]
    rfl

end Assoc

/-! ### numbers -/

section Num
variable {α : Type} [Field α]

theorem foldl_add (l : List α) (a : α) : l.foldl (· + ·) a = a + vsum l := by
  induction l generalizing a with
  | nil => simp [vsum]
  | cons b l ih => simp [vsum, ih, add_assoc]

theorem pySum_eq (l : List α) : Imp.pySum l = vsum l := by simp [Imp.pySum, foldl_add]

theorem pySum_vsq (v : List α) : Imp.pySum (Imp.vsq v) = l2sq v := by
  rw [pySum_eq, l2sq, dot, vmul, List.zipWith_self]; rfl

theorem vdivs_eq (v : List α) (c : α) : Imp.vdivs v c = Art.ICVI.vdivs v c := rfl

theorem npZeros_nat (d : Nat) : (Imp.npZeros (d : Int) : Option (List α)) = some (vzero d) := by
  simp [Imp.npZeros, vzero]

end Num

/-! ### running the generated `Option` programs

`Good R o` = the computation `o` returns a value satisfying `R`.  A generated `do` block is run block by block: once
the reads of the encoded state have been rewritten with the encoding hypotheses, a straight-line block is a closed
term and `rfl` evaluates it (`good_eq _ rfl`); what is known after a block is stated as an assertion `Q` in the model's
vocabulary (`good_bind (Q := …)`), so that casts between Python ints and `ℕ` are settled where they arise and the
remaining program only sees small terms. -/

section Good
variable {β γ : Type}

/-- the computation returns (does not raise) and its value satisfies `R` -/
def Good (R : β → Prop) (o : Option β) : Prop := ∃ p, o = some p ∧ R p

theorem good_some {R : β → Prop} {v : β} (h : R v) : Good R (some v) := ⟨v, rfl, h⟩

theorem good_eq {R : β → Prop} {X : Option β} (v : β) (hX : X = some v) (h : R v) : Good R X := ⟨v, hX, h⟩

theorem good_bind {R : γ → Prop} {Q : β → Prop} {X : Option β} {f : β → Option γ} (hX : Good Q X)
    (h : ∀ t, Q t → Good R (f t)) : Good R (X.bind f) := by
  obtain ⟨v, rfl, hv⟩ := hX; exact h v hv

theorem good_bind_eq {R : γ → Prop} {X : Option β} {f : β → Option γ} (v : β) (hX : X = some v)
    (h : Good R (f v)) : Good R (X.bind f) := by
  subst hX; exact h

theorem good_ite {R : β → Prop} {c : Prop} [Decidable c] {A B : Option β} (h1 : c → Good R A)
    (h2 : ¬ c → Good R B) : Good R (ite c A B) := by
  by_cases hc : c
  · rw [if_pos hc]; exact h1 hc
  · rw [if_neg hc]; exact h2 hc

theorem good_ite_bind {R : γ → Prop} {Q : β → Prop} {c : Prop} [Decidable c] {A B : Option β} {f : β → Option γ}
    (hA : c → Good Q A) (hB : ¬ c → Good Q B) (h : ∀ t, Q t → Good R (f t)) :
    Good R (if c then A.bind f else B.bind f) :=
  good_ite (fun hc => good_bind (hA hc) h) (fun hc => good_bind (hB hc) h)

theorem good_mono {R R' : β → Prop} {X : Option β} (h : Good R X) (hR : ∀ v, R v → R' v) : Good R' X := by
  obtain ⟨p, hp, hr⟩ := h; exact ⟨p, hp, hR p hr⟩

theorem eq_of_good {X : Option β} {w : β} (h : Good (· = w) X) : X = some w := by
  obtain ⟨p, hp, rfl⟩ := h; exact hp

end Good

section Eval
variable {α : Type}

@[simp] theorem asVec_vec (v : List α) : (Val.vec v : Val α).asVec = some v := rfl
@[simp] theorem asInt_int (v : Int) : (Val.int v : Val α).asInt = some v := rfl
@[simp] theorem asNum_num (v : α) : (Val.num v : Val α).asNum = some v := rfl
@[simp] theorem asKey_key (v : Nat) : (Val.key v : Val α).asKey = some v := rfl
@[simp] theorem asDict_dict (v : Imp.Dict α) : (Val.dict v : Val α).asDict = some v := rfl

variable [Field α] [DecidableEq α]

theorem delta_add_eval (avg x : List α) (i : Int) :
    Gen.ICVI.delta_add_sample_to_average avg x i = some (Art.ICVI.vdivs (vsub x avg) (i : α)) := rfl

theorem delta_remove_eval (avg x : List α) (i : Int) :
    Gen.ICVI.delta_remove_sample_from_average avg x i
      = some (Art.ICVI.vdivs (vsub avg x) (((i - 1 : Int)) : α)) := rfl

end Eval

/-! ### the model's records as dicts, and its equations in the form the programs meet them -/

section Dicts
variable {α : Type} [Field α] [DecidableEq α]

def cluDict (c : Clu α) : Imp.Dict α :=
  [("n", .int c.n), ("v", .vec c.v), ("CP", .num c.CP), ("G", .vec c.G)]

theorem repClu_cluDict (c : Clu α) : RepClu (cluDict c) c := ⟨rfl, rfl, rfl, rfl⟩

/-- the new mean, in both branches of `addSample` -/
def muAdd (st : State α) (x : List α) : List α :=
  if st.mu.isEmpty then x else vadd st.mu (deltaAdd st.mu x (st.n + 1))

theorem muAdd_nil {st : State α} (x : List α) (h : (st.mu.length : ℤ) = 0) : muAdd st x = x := by
  rw [muAdd, List.isEmpty_iff.mpr (List.length_eq_zero_iff.mp (Int.natCast_eq_zero.mp h)), if_pos rfl]

theorem muAdd_cons {st : State α} (x : List α) (h : ¬ (st.mu.length : ℤ) = 0) :
    muAdd st x = vadd st.mu (Imp.vdivs (vsub x st.mu) (((st.n : ℤ) + 1 : ℤ) : α)) := by
  have : st.mu.isEmpty = false := by
    cases hm : st.mu with
    | nil => rw [hm] at h; exact absurd rfl h
    | cons _ _ => rfl
  rw [muAdd, this, if_neg Bool.false_ne_true, deltaAdd, vdivs_eq]
  push_cast
  rfl

/-- the tail of all three entry points as the generated code computes it: the counts are Python ints -/
def chValueInt (bgss wgss : α) (n k : ℤ) : α :=
  if k < 2 then ((0 : ℤ) : α) else if wgss = ((0 : ℤ) : α) then ((0 : ℤ) : α)
  else bgss / wgss * ((n - k : ℤ) : α) / ((k - 1 : ℤ) : α)

theorem chValue_int (bgss wgss : α) (n k : ℕ) : chValue bgss wgss n k = chValueInt bgss wgss n k := by
  simp only [chValue, chValueInt, Nat.cast_lt_ofNat, Int.cast_zero, Int.cast_sub, Int.cast_natCast, Int.cast_one]

/-- The end of all three entry points.  With fewer than two clusters the criterion is 0; otherwise the `SEP` loop appends
one term per cluster (`hbody`) and the criterion is entered from `BGSS = sum(SEP)` and `WGSS`, or 0 if `WGSS = 0`
(`hT`: what the caller's code after the loop does with a given `SEP`, `π` its way out of the enclosing blocks). -/
theorem good_criterion {γ δ : Type} {m : List (Nat × γ)} {keys : List Nat} {body : List α → Nat → Option (List α)}
    {S0 L : List α} (hkeys : keys = m.map (·.1)) (F : Nat × γ → α)
    (hbody : ∀ e ∈ m, ∀ acc, body acc e.1 = some (acc ++ [F e])) (hL : S0 ++ m.map F = L)
    {P : Imp.Dict α} {wgss : α} {n k : ℤ} {X0 : Option (Imp.Dict α)} {T : List α → Option δ}
    {π : δ → Option (Imp.Dict α)} (h0 : X0 = some (Imp.aset P "criterion_value" (.num ((0 : ℤ) : α))))
    (hT : ∀ S, Good (· = Imp.aset P "criterion_value" (.num (if wgss = ((0 : ℤ) : α) then ((0 : ℤ) : α)
      else Imp.pySum S / wgss * ((n - k : ℤ) : α) / ((k - 1 : ℤ) : α)))) ((T S).bind π)) :
    Good (· = Imp.aset P "criterion_value" (.num (chValueInt (vsum L) wgss n k)))
      (if k < 2 then X0 else ((List.foldlM body S0 keys).bind T).bind π) := by
  refine good_ite (fun hk => good_eq _ h0 ?_) fun hk => ?_
  · rw [chValueInt, if_pos hk]
  rw [hkeys, foldlM_keys m body F hbody S0, hL]
  refine good_mono (hT L) fun r hr => ?_
  rw [hr, chValueInt, if_neg hk, pySum_eq]

/-- what `add_sample` returns before the criterion is entered: `c`, `cp` = the new entry of the cluster and `CP_diff` -/
def addDict (st : State α) (x : List α) (l : Nat) (c : Clu α) (cp : α) : Imp.Dict α :=
  [("x", .vec x), ("label", .key l), ("n_samples", .int ((st.n + 1 : ℕ) : ℤ)), ("mu", .vec (muAdd st x)),
    ("CD", .dict (cluDict c)), ("CP_diff", .num cp)]

theorem repCand_addDict (st : State α) (x : List α) (l : Nat) (c : Clu α) (cp v : α) :
    RepCand (Imp.aset (addDict st x l c cp) "criterion_value" (.num v)) ⟨l, st.n + 1, muAdd st x, c, cp, v, none⟩ := by
  simp only [RepCand, addDict, Imp.aget, Imp.aset, Imp.ahas, String.reduceEq, ↓reduceIte, Option.some.injEq,
    Val.dict.injEq, exists_eq_left', repClu_cluDict, and_self]

/-- the `SEP` term of one cluster after `x` has joined cluster `l`, whose entry becomes `c` -/
def sepAdd (st : State α) (x : List α) (l : Nat) (c : Clu α) (e : Nat × Clu α) : α :=
  if e.1 = l then sepTerm (muAdd st x) c.n c.v else sepTerm (muAdd st x) e.2.n e.2.v

theorem ne_of_lookup_none {m : List (Nat × Clu α)} {l : Nat} (hl : lookup m l = none) : ∀ e ∈ m, ¬ e.1 = l := by
  induction m with
  | nil => simp
  | cons a m ih =>
    intro e he
    by_cases ha : a.1 = l
    · simp [lookup, ha] at hl
    · simp only [lookup, ha, if_false] at hl
      rcases List.mem_cons.mp he with rfl | he
      exacts [ha, ih hl e he]

/-- `addSample` in one equation for both kinds of label: a new label adds a cluster and a `SEP` term of its own -/
theorem addSample_eq (st : State α) (x : List α) (l : Nat) :
    addSample st x l = ⟨l, st.n + 1, muAdd st x, (addSample st x l).CD, (addSample st x l).CPdiff,
      chValue (vsum ((if (lookup st.CD l).isNone then [l2sq (vsub x (muAdd st x))] else []) ++
          st.CD.map (sepAdd st x l (addSample st x l).CD)))
        (st.WGSS + (addSample st x l).CPdiff) (st.n + 1)
        (if (lookup st.CD l).isNone then st.CD.length + 1 else st.CD.length), none⟩ := by
  cases hl : lookup st.CD l with
  | none =>
    have : st.CD.map (sepAdd st x l (addSample st x l).CD) = st.CD.map (fun e => sepTerm (muAdd st x) e.2.n e.2.v) :=
      List.map_congr_left fun e he => if_neg (ne_of_lookup_none hl e he)
    rw [this]
    simp only [addSample, hl]
    rfl
  | some data =>
    simp only [addSample, hl]
    rfl

end Dicts

/-! ### the three entry points -/

section Add
variable {α : Type} [Field α] [DecidableEq α]

variable {sCD : List (Nat × Imp.Dict α)} {st : State α} (hcd : RepCD sCD st.CD) (hnd : (st.CD.map (·.1)).Nodup)

include hcd hnd in
/-- what every `SEP` loop needs of the encoding: the keys of `self.CD` in order, and the `n` and `v` of each entry -/
theorem rep_entries : sCD.length = st.CD.length ∧ Imp.akeys sCD = st.CD.map (·.1) ∧
    ∀ e ∈ st.CD, ∃ d, Imp.aget sCD e.1 = some d ∧ Imp.aget d "n" = some (.int e.2.n) ∧
      Imp.aget d "v" = some (.vec e.2.v) ∧ lookup st.CD e.1 = some e.2 := by
  refine ⟨repCD_length hcd, repCD_keys hcd, fun e he => ?_⟩
  obtain ⟨_, d, hd, hn', hv', _, _⟩ := repCD_some hcd (lookup_of_mem hnd he)
  exact ⟨d, hd, hn', hv', lookup_of_mem hnd he⟩

include hcd hnd in
theorem add_sample_exec (x : List α) (l : Nat) :
    Gen.ICVI.add_sample ⟨st.dim, st.n, st.mu, sCD, st.WGSS, st.crit⟩ x l
      = some (Imp.aset (addDict st x l (addSample st x l).CD (addSample st x l).CPdiff) "criterion_value"
        (.num (addSample st x l).crit)) := by
  obtain ⟨hlen, hkeys, hent⟩ := rep_entries hcd hnd
  refine eq_of_good ?_
  rw [congrArg Cand.crit (addSample_eq st x l), chValue_int, ← hlen]
  unfold Gen.ICVI.add_sample
  dsimp only [Option.bind_eq_bind, Option.pure_def]
  refine good_ite_bind (Q := (· = ([("x", .vec x), ("label", .key l), ("n_samples", .int ((st.n + 1 : ℕ) : ℤ)),
    ("mu", .vec (muAdd st x))] : Imp.Dict α))) (fun hm => good_eq _ rfl (by rw [muAdd_nil x hm]; rfl))
    (fun hm => good_eq _ rfl (by rw [muAdd_cons x hm]; rfl)) fun t ht => ?_
  subst ht
  -- the entry of the cluster, `CP_diff`, the number of clusters and the `SEP` term of a new cluster
  refine good_ite_bind (Q := (· = (((if (lookup st.CD l).isNone then sCD.length + 1 else sCD.length : ℕ) : ℤ),
    cluDict (addSample st x l).CD, addDict st x l (addSample st x l).CD (addSample st x l).CPdiff,
    (if (lookup st.CD l).isNone then [l2sq (vsub x (muAdd st x))] else [])))) (fun hh => ?_) (fun hh => ?_)
    fun t ht => ?_
  · cases hl : lookup st.CD l with
    | some data => exact absurd (repCD_some hcd hl).1 hh
    | none =>
      rw [npZeros_nat]
      refine good_eq _ rfl ?_
      simp only [addSample, hl, Option.isNone_none, Imp.aset, String.reduceEq, ↓reduceIte, addDict, cluDict,
        Int.cast_zero, Nat.cast_add, Nat.cast_one, List.nil_append, pySum_vsq]
  · cases hl : lookup st.CD l with
    | none => exact absurd (repCD_none hcd hl).1 (by simpa using hh)
    | some data =>
      obtain ⟨-, d, hget, hdn, hdv, hdcp, hdg⟩ := repCD_some hcd hl
      rw [hget]
      dsimp only [Option.bind_some]
      rw [hdn, hdv, hdcp, hdg]
      refine good_eq _ rfl ?_
      -- `cluAdd`, up to the casts of Python ints
      simp only [addSample, hl, Option.isNone_some, Bool.false_eq_true, Imp.aset, String.reduceEq,
        ↓reduceIte, addDict, cluDict, cluAdd, deltaAdd, vdivs_eq, Int.cast_add, Int.cast_natCast, Int.cast_one,
        Int.cast_neg, Int.cast_sub, Int.cast_ofNat, Nat.cast_add, Nat.cast_one, one_add_one_eq_two]
  subst ht
  refine good_criterion hkeys (sepAdd st x l (addSample st x l).CD) (fun e he acc => ?_) rfl rfl fun SEP => ?_
  · obtain ⟨d', hd', hn', hv', -⟩ := hent e he
    by_cases hc : e.1 = l
    · simp only [hc, ↓reduceIte, addDict, cluDict, Imp.aget, String.reduceEq, asInt_int, asVec_vec, Option.bind_some,
        sepAdd, sepTerm, pySum_vsq, Int.cast_natCast]
    · simp only [hc, ↓reduceIte, hd', hn', hv', addDict, Imp.aget, String.reduceEq, asInt_int, asVec_vec,
        Option.bind_some, sepAdd, sepTerm, pySum_vsq, Int.cast_natCast]
  refine good_bind (Q := (·.1 = _)) ?_ fun r hr => good_some hr
  refine good_bind_eq _ rfl (good_bind_eq _ rfl (good_ite (fun hw => good_some ?_) fun hw => good_eq _ rfl ?_))
  · rw [if_pos hw]
  · rw [if_neg hw]

/-- **`add_sample` = the model's `addSample`**, on every state, sample and label (new or existing): the generated
code does not raise and the dict it returns represents the model's candidate record. -/
theorem add_sample_spec {s : Gen.ICVI.Self α} {st : State α} (h : RepState s st) (x : List α) (l : Nat) :
    ∃ p, Gen.ICVI.add_sample s x l = some p ∧ RepCand p (addSample st x l) := by
  obtain ⟨sCD, rfl, hcd, hnd⟩ := h.exists_mk
  refine ⟨_, add_sample_exec hcd hnd x l, ?_⟩
  rw [addSample_eq st x l]
  exact repCand_addDict ..

end Add

section Remove
variable {α : Type} [Field α] [DecidableEq α]
variable {sCD : List (Nat × Imp.Dict α)} {st : State α} (hcd : RepCD sCD st.CD) (hnd : (st.CD.map (·.1)).Nodup)

/-- the new mean as `remove_sample` computes it (the sign is the Python's, see `ArtModel/ICVI.lean`) -/
def muRem (st : State α) (x : List α) : List α := vsub st.mu (deltaRemove st.mu x st.n)

/-- `remove_sample` writes the entry of the cluster in the order `n`, `v`, `G`, `CP` -/
def cluDictGC (c : Clu α) : Imp.Dict α :=
  [("n", .int c.n), ("v", .vec c.v), ("G", .vec c.G), ("CP", .num c.CP)]

theorem repClu_cluDictGC (c : Clu α) : RepClu (cluDictGC c) c := ⟨rfl, rfl, rfl, rfl⟩

/-- what `remove_sample` returns before the criterion is entered; `n_samples` is the Python int `self.n_samples - 1`
(no truncation at 0) -/
def remDict (st : State α) (x : List α) (l : Nat) (c : Clu α) (cp : α) : Imp.Dict α :=
  [("x", .vec x), ("label", .key l), ("mu", .vec (muRem st x)), ("n_samples", .int ((st.n : ℤ) - 1)),
    ("CD", .dict (cluDictGC c)), ("CP_diff", .num cp)]

def sepRem (st : State α) (x : List α) (l : Nat) (data : Clu α) (e : Nat × Clu α) : α :=
  if e.1 = l then sepTerm (muRem st x) (cluRemove data x).1.n (cluRemove data x).1.v
  else sepTerm (muRem st x) e.2.n e.2.v

theorem removeSample_some {st : State α} (x : List α) {l : Nat} {data : Clu α} (hl : lookup st.CD l = some data)
    (hn1 : ¬ data.n ≤ 1) :
    removeSample st x l = some ⟨l, st.n - 1, muRem st x, (cluRemove data x).1, (cluRemove data x).2,
      chValue (vsum (st.CD.map (sepRem st x l data))) (st.WGSS + (cluRemove data x).2) (st.n - 1) st.CD.length,
      none⟩ := by
  simp only [removeSample, hl, hn1, if_false]
  rfl

theorem repCand_remDict {st : State α} (hpos : 0 < st.n) (x : List α) (l : Nat) (c : Clu α) (cp v : α) :
    RepCand (Imp.aset (remDict st x l c cp) "criterion_value" (.num v)) ⟨l, st.n - 1, muRem st x, c, cp, v, none⟩ := by
  have hz : ((st.n : ℤ) - 1) = ((st.n - 1 : ℕ) : ℤ) := by omega
  simp only [RepCand, remDict, Imp.aget, Imp.aset, Imp.ahas, String.reduceEq, ↓reduceIte, Option.some.injEq,
    Val.dict.injEq, exists_eq_left', repClu_cluDictGC, and_self, hz]

include hcd hnd in
theorem remove_sample_exec (x : List α) (l : Nat) (data : Clu α) (hl : lookup st.CD l = some data)
    (hn1 : ¬ data.n ≤ 1) :
    Gen.ICVI.remove_sample ⟨st.dim, st.n, st.mu, sCD, st.WGSS, st.crit⟩ x l
      = some (Imp.aset (remDict st x l (cluRemove data x).1 (cluRemove data x).2) "criterion_value"
        (.num (chValueInt (vsum (st.CD.map (sepRem st x l data))) (st.WGSS + (cluRemove data x).2)
          ((st.n : ℤ) - 1) st.CD.length))) := by
  obtain ⟨hlen, hkeys, hent⟩ := rep_entries hcd hnd
  obtain ⟨-, d, hget, hdn, hdv, hdcp, hdg⟩ := repCD_some hcd hl
  have hpos : 0 < data.n := by omega
  have hcast : ((data.n - 1 : ℕ) : ℤ) = (data.n : ℤ) - 1 := by omega
  have hgt : ¬ ((data.n : ℤ) ≤ 1) := by omega
  refine eq_of_good ?_
  unfold Gen.ICVI.remove_sample
  dsimp only [Option.bind_eq_bind, Option.pure_def]
  rw [hget]
  refine good_bind_eq _ rfl ?_
  rw [hdn, hdv, hdcp, hdg]
  refine good_bind_eq _ rfl (good_bind_eq _ rfl ?_)
  rw [if_neg hgt]
  -- the straight-line part reads 24 times from dicts it has itself built (this block has no boundary of its own,
  -- its continuation is the rest of the function); each read is evaluated by `rfl`
  iterate 24 refine good_bind_eq _ rfl ?_
  -- name the two dicts built so far by their last two writes: they are the entry of the cluster and the candidate
  -- of `cluRemove`, up to the casts of Python ints
  generalize hC : Imp.aset (Imp.aset _ "G" _) "CP" _ = C
  generalize hP : Imp.aset (Imp.aset _ "CP_diff" _) "CD" _ = P
  obtain rfl : C = cluDictGC (cluRemove data x).1 := by
    rw [← hC]
    simp only [Imp.aset, String.reduceEq, ↓reduceIte, cluDictGC, cluRemove, deltaRemove, vdivs_eq, hcast, Int.cast_sub,
      Int.cast_natCast, Int.cast_one, Int.cast_neg, Int.cast_ofNat, Nat.cast_pred hpos, one_add_one_eq_two]
  obtain rfl : P = remDict st x l (cluRemove data x).1 (cluRemove data x).2 := by
    rw [← hP]
    simp only [Imp.aset, String.reduceEq, ↓reduceIte, remDict, muRem, cluRemove, deltaRemove, vdivs_eq, Int.cast_sub,
      Int.cast_natCast, Int.cast_one, Int.cast_neg, Int.cast_ofNat, Nat.cast_pred hpos, one_add_one_eq_two]
  clear hC hP
  rw [hlen]
  refine good_criterion hkeys (sepRem st x l data) (fun e he acc => ?_) (List.nil_append _) rfl fun SEP => ?_
  · obtain ⟨d', hd', hn', hv', -⟩ := hent e he
    by_cases hc : e.1 = l
    · simp only [hc, ↓reduceIte, remDict, cluDictGC, Imp.aget, String.reduceEq, asInt_int, asVec_vec, Option.bind_some,
        sepRem, sepTerm, pySum_vsq, Int.cast_natCast]
    · simp only [hc, ↓reduceIte, hd', hn', hv', remDict, Imp.aget, String.reduceEq, asInt_int, asVec_vec,
        Option.bind_some, sepRem, sepTerm, pySum_vsq, Int.cast_natCast]
  refine good_bind (Q := (· = _)) ?_ fun r hr => good_some hr
  refine good_bind_eq _ rfl (good_bind_eq _ rfl (good_ite (fun hw => good_some ?_) fun hw => good_eq _ rfl ?_))
  · rw [if_pos hw]
  · rw [if_neg hw]

end Remove

section Switch
variable {α : Type} [Field α] [DecidableEq α]
variable {sCD : List (Nat × Imp.Dict α)} {st : State α} (hcd : RepCD sCD st.CD) (hnd : (st.CD.map (·.1)).Nodup)

/-- the part of `remove_sample`'s answer that `switch_label` uses (the new entry of the old cluster and its
`CP_diff`) is the model's `cluRemove` — on every state, also one whose `n_samples` is 0 -/
theorem remove_sample_core {s : Gen.ICVI.Self α} {st : State α} (h : RepState s st) (x : List α) (l : Nat)
    (data : Clu α) (hl : lookup st.CD l = some data) (hn1 : ¬ data.n ≤ 1) :
    ∃ p, Gen.ICVI.remove_sample s x l = some p ∧ ∃ d, Imp.aget p "CD" = some (.dict d) ∧
      RepClu d (cluRemove data x).1 ∧ Imp.aget p "CP_diff" = some (.num (cluRemove data x).2) := by
  obtain ⟨sCD, rfl, hcd, hnd⟩ := h.exists_mk
  exact ⟨_, remove_sample_exec hcd hnd x l data hl hn1, _, rfl, repClu_cluDictGC _, rfl⟩

/-- **`remove_sample` = the model's `removeSample`** wherever the model returns a record, on a state with at least
one sample (`n_samples - 1` is a Python int; the model's `Nat` subtraction agrees with it from 1 on) -/
theorem remove_sample_spec {s : Gen.ICVI.Self α} {st : State α} (h : RepState s st) (x : List α) (l : Nat)
    (c : Cand α) (hc : removeSample st x l = some c) (hpos : 0 < st.n) :
    ∃ p, Gen.ICVI.remove_sample s x l = some p ∧ RepCand p c := by
  obtain ⟨sCD, rfl, hcd, hnd⟩ := h.exists_mk
  cases hl : lookup st.CD l with
  | none => simp [removeSample, hl] at hc
  | some data =>
    by_cases hn1 : data.n ≤ 1
    · simp [removeSample, hl, hn1] at hc
    · rw [removeSample_some x hl hn1, Option.some.injEq] at hc
      subst hc
      refine ⟨_, remove_sample_exec hcd hnd x l data hl hn1, ?_⟩
      have hz : ((st.n : ℤ) - 1) = ((st.n - 1 : ℕ) : ℤ) := by omega
      rw [chValue_int, ← hz]
      exact repCand_remDict hpos ..

/-- the `SEP` term of one cluster after `x` has moved from cluster `lo` (new entry `cr`) to `ln` (new entry `ca`):
`switch_label` keeps the old mean -/
def sepSw (st : State α) (lo ln : Nat) (cr ca : Clu α) (e : Nat × Clu α) : α :=
  if e.1 = lo then sepTerm st.mu cr.n cr.v else if e.1 = ln then sepTerm st.mu ca.n ca.v else sepTerm st.mu e.2.n e.2.v

theorem switchLabel_ne {st : State α} (x : List α) {lo ln : Nat} {cOld : Clu α} (heq : ¬ ln = lo)
    (hl : lookup st.CD lo = some cOld) (hn1 : ¬ cOld.n ≤ 1) :
    switchLabel st x lo ln = some ⟨lo, st.n, st.mu, (cluRemove cOld x).1, (cluRemove cOld x).2,
      chValue (vsum ((if (lookup st.CD ln).isNone then [l2sq (vsub x st.mu)] else []) ++
          st.CD.map (sepSw st lo ln (cluRemove cOld x).1 (addSample st x ln).CD)))
        ((st.WGSS + (cluRemove cOld x).2) + (addSample st x ln).CPdiff) st.n
        (if (lookup st.CD ln).isNone then st.CD.length + 1 else st.CD.length),
      some (ln, (addSample st x ln).CD, (addSample st x ln).CPdiff)⟩ := by
  simp only [switchLabel, heq, if_false, hl, hn1, removeSample_some x hl hn1]
  rfl

/-- what `switch_label` returns for `lo ≠ ln` before the criterion is entered -/
def swDict (st : State α) (x : List α) (lo ln : Nat) (cr : Clu α) (cpr : α) (ca : Clu α) (cpa : α) : Imp.Dict α :=
  [("x", .vec x), ("label", .key lo), ("label2", .key ln), ("mu", .vec st.mu), ("n_samples", .int st.n),
    ("CD", .dict (cluDictGC cr)), ("CP_diff", .num cpr), ("CD2", .dict (cluDict ca)), ("CP_diff2", .num cpa)]

theorem repCand_swDict (st : State α) (x : List α) (lo ln : Nat) (cr : Clu α) (cpr : α) (ca : Clu α) (cpa v : α) :
    RepCand (Imp.aset (swDict st x lo ln cr cpr ca cpa) "criterion_value" (.num v))
      ⟨lo, st.n, st.mu, cr, cpr, v, some (ln, ca, cpa)⟩ := by
  simp only [RepCand, swDict, Imp.aget, Imp.aset, Imp.ahas, String.reduceEq, ↓reduceIte, Option.some.injEq,
    Val.dict.injEq, exists_eq_left', repClu_cluDictGC, repClu_cluDict, and_self]

include hcd hnd in
theorem switch_label_ne (x : List α) (lo ln : Nat) (cOld : Clu α) (heq : ¬ ln = lo)
    (hl : lookup st.CD lo = some cOld) (hn1 : ¬ cOld.n ≤ 1) :
    Good (· = Imp.aset (swDict st x lo ln (cluRemove cOld x).1 (cluRemove cOld x).2 (addSample st x ln).CD
          (addSample st x ln).CPdiff) "criterion_value"
        (.num (chValueInt (vsum ((if (lookup st.CD ln).isNone then [l2sq (vsub x st.mu)] else []) ++
            st.CD.map (sepSw st lo ln (cluRemove cOld x).1 (addSample st x ln).CD)))
          ((st.WGSS + (cluRemove cOld x).2) + (addSample st x ln).CPdiff) st.n
          ((if (lookup st.CD ln).isNone then st.CD.length + 1 else st.CD.length : ℕ) : ℤ))))
      (Gen.ICVI.switch_label ⟨st.dim, st.n, st.mu, sCD, st.WGSS, st.crit⟩ x lo ln) := by
  obtain ⟨hlen, hkeys, hent⟩ := rep_entries hcd hnd
  have hgt : ¬ ((cOld.n : ℤ) ≤ 1) := by omega
  have hpr := remove_sample_exec hcd hnd x lo cOld hl hn1
  have hpa := add_sample_exec hcd hnd x ln
  obtain ⟨-, d, hget, hdn, -⟩ := repCD_some hcd hl
  unfold Gen.ICVI.switch_label
  dsimp only [Option.bind_eq_bind, Option.pure_def]
  rw [if_neg heq, hget]
  refine good_bind_eq _ rfl ?_
  rw [hdn]
  refine good_bind_eq _ rfl (good_bind_eq _ rfl ?_)
  rw [if_neg hgt, hpr, hpa]
  -- the results of the two calls and the eight reads from them, then the dict built from them
  iterate 10 refine good_bind_eq _ rfl ?_
  generalize hP : Imp.aset (Imp.aset _ "CD2" _) "CP_diff2" _ = P
  obtain rfl : P = swDict st x lo ln (cluRemove cOld x).1 (cluRemove cOld x).2 (addSample st x ln).CD
      (addSample st x ln).CPdiff := by
    rw [← hP]
    simp only [Imp.aset, String.reduceEq, ↓reduceIte, swDict]
  clear hP
  -- the number of clusters and the `SEP` term of a new cluster
  refine good_ite_bind (Q := (· = (((if (lookup st.CD ln).isNone then st.CD.length + 1 else st.CD.length : ℕ) : ℤ),
    (if (lookup st.CD ln).isNone then [l2sq (vsub x st.mu)] else [])))) (fun hh => ?_) (fun hh => ?_) fun t ht => ?_
  · cases hln : lookup st.CD ln with
    | some c => exact absurd (repCD_some hcd hln).1 hh
    | none => exact good_eq _ rfl (by simp only [Option.isNone_none, if_true, hlen, Nat.cast_add, Nat.cast_one,
        List.nil_append, pySum_vsq])
  · cases hln : lookup st.CD ln with
    | none => exact absurd (repCD_none hcd hln).1 (by simpa using hh)
    | some c => exact good_some (by simp only [Option.isNone_some, Bool.false_eq_true, if_false, hlen])
  subst ht
  refine good_criterion hkeys (sepSw st lo ln (cluRemove cOld x).1 (addSample st x ln).CD) (fun e he acc => ?_) rfl rfl
    fun SEP => ?_
  · obtain ⟨d', hd', hn', hv', -⟩ := hent e he
    by_cases hc1 : e.1 = lo
    · simp only [hc1, ↓reduceIte, remDict, cluDictGC, swDict, Imp.aget, Imp.aset, String.reduceEq, asInt_int, asVec_vec,
        asDict_dict, Option.bind_some, sepSw, sepTerm, pySum_vsq, Int.cast_natCast]
    · by_cases hc2 : e.1 = ln
      · simp only [hc2, heq, ↓reduceIte, addDict, cluDict, swDict, Imp.aget, Imp.aset, String.reduceEq, asInt_int,
          asVec_vec, asDict_dict, Option.bind_some, sepSw, sepTerm, pySum_vsq, Int.cast_natCast]
      · simp only [hc1, hc2, ↓reduceIte, hd', hn', hv', swDict, Imp.aget, String.reduceEq, asInt_int, asVec_vec,
          Option.bind_some, sepSw, sepTerm, pySum_vsq, Int.cast_natCast]
  refine good_bind (Q := (·.1 = _)) ?_ fun r hr => good_some hr
  -- `WGSS`: the two `CP_diff` entries read back from the dict just built (two reads, two conversions)
  iterate 4 refine good_bind_eq _ rfl ?_
  refine good_ite (fun hw => good_some ?_) fun hw => good_eq _ rfl ?_
  · rw [if_pos hw]
  · rw [if_neg hw]

theorem switch_label_eq {sCD : List (Nat × Imp.Dict α)} {st : State α} (hcd : RepCD sCD st.CD)
    (x : List α) (lo : Nat) (c0 : Clu α) (hl : lookup st.CD lo = some c0) :
    Good (fun p => RepCand p ⟨lo, st.n, st.mu, ⟨c0.n, c0.v, c0.CP, c0.G⟩, 0, st.crit, none⟩)
      (Gen.ICVI.switch_label ⟨st.dim, st.n, st.mu, sCD, st.WGSS, st.crit⟩ x lo lo) := by
  obtain ⟨-, d, hget, hdn, hdv, hdcp, hdg⟩ := repCD_some hcd hl
  unfold Gen.ICVI.switch_label
  simp only [↓reduceIte, hget, hdn, hdv, hdcp, hdg, Option.pure_def, Option.bind_eq_bind, Option.bind_some, asInt_int,
    asVec_vec, asNum_num]
  refine good_some ?_
  simp only [RepCand, RepClu, Imp.aget, Imp.ahas, String.reduceEq, ↓reduceIte, Option.some.injEq, Val.dict.injEq,
    exists_eq_left', Int.cast_zero, and_self]

/-- **`switch_label` = the model's `switchLabel`** wherever the model returns a record (same label, an existing new
label, a new label), on every state -/
theorem switch_label_spec {s : Gen.ICVI.Self α} {st : State α} (h : RepState s st) (x : List α) (lo ln : Nat)
    (c : Cand α) (hc : switchLabel st x lo ln = some c) :
    ∃ p, Gen.ICVI.switch_label s x lo ln = some p ∧ RepCand p c := by
  obtain ⟨sCD, rfl, hcd, hnd⟩ := h.exists_mk
  cases hl : lookup st.CD lo with
  | none => simp [switchLabel, hl] at hc
  | some cOld =>
    by_cases heq : ln = lo
    · subst heq
      simp only [switchLabel, if_true, hl, Option.some.injEq] at hc
      subst hc
      exact switch_label_eq hcd x ln cOld hl
    · by_cases hn1 : cOld.n ≤ 1
      · simp [switchLabel, heq, hl, hn1] at hc
      · rw [switchLabel_ne x heq hl hn1, Option.some.injEq] at hc
        subst hc
        refine ⟨_, eq_of_good (switch_label_ne hcd hnd x lo ln cOld heq hl hn1), ?_⟩
        rw [chValue_int]
        exact repCand_swDict ..

theorem bind_of_eq {β γ : Type} {X : Option β} {f : β → Option γ} {v : β} (h : X = some v) : (X >>= f) = f v := by
  rw [h]; rfl

theorem bind_none {β γ : Type} {X : Option β} {f : β → Option γ} (h : X = none) : (X >>= f) = none := by
  rw [h]; rfl

/-- where the model says the Python raises (`KeyError` on the old label, "Can't remove a value from a cluster of 1"),
the generated `switch_label` raises -/
theorem switch_label_none {s : Gen.ICVI.Self α} {st : State α} (h : RepState s st) (x : List α) (lo ln : Nat)
    (hc : switchLabel st x lo ln = none) : Gen.ICVI.switch_label s x lo ln = none := by
  obtain ⟨hdim, hn, hmu, hcd, hnd, hw, hcr⟩ := h
  unfold switchLabel at hc
  unfold Gen.ICVI.switch_label
  dsimp only
  cases hl : lookup st.CD lo with
  | none =>
    have hget := (repCD_none hcd hl).2
    by_cases heq : ln = lo
    · rw [if_pos heq]; exact bind_none hget
    · rw [if_neg heq]; exact bind_none hget
  | some cOld =>
    obtain ⟨_, d, hget, hdn, _⟩ := repCD_some hcd hl
    by_cases heq : ln = lo
    · simp [heq, hl] at hc
    · simp only [heq, if_false, hl] at hc
      by_cases hn1 : cOld.n ≤ 1
      · rw [if_neg heq]
        refine (bind_of_eq hget).trans ?_
        refine (bind_of_eq hdn).trans ?_
        refine (bind_of_eq (asInt_int _)).trans ?_
        exact if_pos (by omega)
      · simp [hn1, removeSample, hl] at hc

/-- **`update` = the model's `update`**: committing a candidate dict that represents the record `c` yields the state
that represents `update st c` (one or two entries written, insertion order kept) -/
theorem update_spec {s : Gen.ICVI.Self α} {st : State α} (h : RepState s st) {p : Imp.Dict α} {c : Cand α}
    (hp : RepCand p c) : ∃ s', Gen.ICVI.update s p = some s' ∧ RepState s' (update st c) := by
  obtain ⟨hdim, hn, hmu, hcd, hnd, hw, hcr⟩ := h
  obtain ⟨h1, h2, h3, ⟨d1, h4, hR1⟩, h5, h6, hsec⟩ := hp
  unfold Gen.ICVI.update
  cases hs : c.second with
  | none =>
    rw [hs] at hsec
    simp only [h1, h2, h3, h4, h5, h6, hsec, Option.pure_def, Option.bind_eq_bind, Option.bind_some, asInt_int, asVec_vec,
      asNum_num, asKey_key, asDict_dict, Bool.false_eq_true, ↓reduceIte]
    unfold update
    simp only [hs]
    exact ⟨_, rfl, hdim, rfl, rfl, repCD_set hcd _ hR1, setCD_nodup _ hnd _, by simp [hw], rfl⟩
  | some t =>
    obtain ⟨l2, c2, d2⟩ := t
    rw [hs] at hsec
    obtain ⟨hyes, h7, ⟨dd2, h8, hR2⟩, h9⟩ := hsec
    simp only [h1, h2, h3, h4, h5, h6, h7, h8, h9, hyes, Option.pure_def, Option.bind_eq_bind, Option.bind_some, asInt_int,
      asVec_vec, asNum_num, asKey_key, asDict_dict, ↓reduceIte]
    unfold update
    simp only [hs]
    exact ⟨_, rfl, hdim, rfl, rfl, repCD_set (repCD_set hcd _ hR1) _ hR2, setCD_nodup _ (setCD_nodup _ hnd _) _,
      by simp [hw], rfl⟩

end Switch

section Spec
variable {α : Type} [Field α] [DecidableEq α]

theorem delta_add_spec (avg x : List α) (n : Nat) :
    Gen.ICVI.delta_add_sample_to_average avg x (n : Int) = some (deltaAdd avg x n) := by
  simp [Gen.ICVI.delta_add_sample_to_average, deltaAdd, vdivs_eq]

theorem delta_remove_spec (avg x : List α) (n : Nat) :
    Gen.ICVI.delta_remove_sample_from_average avg x (n : Int) = some (deltaRemove avg x n) := by
  simp [Gen.ICVI.delta_remove_sample_from_average, deltaRemove, vdivs_eq]

theorem init_spec (x : List α) :
    ∃ s, Gen.ICVI.init x = some s ∧ RepState s (init x.length) := by
  refine ⟨_, rfl, ?_⟩
  constructor <;> simp [init, RepCD]

end Spec

/-! ### the C15 theorems, transported to the generated definitions -/

section Transport
variable {α : Type} [Field α] [LinearOrder α] [IsStrictOrderedRing α] {d : Nat}

/-- The histories the API permits, run on the **generated** code: `iCVI_CH(x0)`; then `add_sample(x, l)` + `update`
adds the labelled point `(x, l)`; `switch_label(x, lo, ln)` + `update` relabels one occurrence of `(x, lo)` (permitted
when, for `lo ≠ ln`, its cluster has at least two members).  Every step is a call of the translated Python that
returned (did not raise). -/
inductive GenReach (d : Nat) : Gen.ICVI.Self α → List (List α × Nat) → Prop
  | init (x0 : List α) (s : Gen.ICVI.Self α) : x0.length = d → Gen.ICVI.init x0 = some s → GenReach d s []
  | add {s : Gen.ICVI.Self α} {D : List (List α × Nat)} (x : List α) (l : Nat) (p : Imp.Dict α)
      (s' : Gen.ICVI.Self α) : GenReach d s D → x.length = d → Gen.ICVI.add_sample s x l = some p →
      Gen.ICVI.update s p = some s' → GenReach d s' ((x, l) :: D)
  | switch {s : Gen.ICVI.Self α} {D₁ D₂ : List (List α × Nat)} (x : List α) (lo ln : Nat) (p : Imp.Dict α)
      (s' : Gen.ICVI.Self α) : GenReach d s (D₁ ++ (x, lo) :: D₂) →
      (lo ≠ ln → 2 ≤ (members (D₁ ++ (x, lo) :: D₂) lo).length) →
      Gen.ICVI.switch_label s x lo ln = some p → Gen.ICVI.update s p = some s' →
      GenReach d s' (D₁ ++ (x, ln) :: D₂)

/-- every state the generated code reaches represents a state the model reaches with the same history -/
theorem genReach_rep {s : Gen.ICVI.Self α} {D : List (List α × Nat)} (h : GenReach d s D) :
    ∃ st : State α, RepState s st ∧ Reach d st D := by
  induction h with
  | init x0 s hx hs =>
    obtain ⟨s0, h0, hr⟩ := init_spec x0
    rw [hs] at h0
    cases h0
    rw [hx] at hr
    exact ⟨_, hr, Reach.init⟩
  | add x l p s' _ hx hp hs' ih =>
    obtain ⟨st, hr, hR⟩ := ih
    obtain ⟨p', hp', hc⟩ := add_sample_spec hr x l
    rw [hp] at hp'
    cases hp'
    obtain ⟨s'', hs'', hr'⟩ := update_spec hr hc
    rw [hs'] at hs''
    cases hs''
    exact ⟨_, hr', Reach.add x l hR hx⟩
  | switch x lo ln p s' _ hpre hp hs' ih =>
    obtain ⟨st, hr, hR⟩ := ih
    obtain ⟨hwf, hI⟩ := reach_inv hR
    obtain ⟨c, hc, _⟩ := switch_inv hwf hI hpre
    obtain ⟨p', hp', hrc⟩ := switch_label_spec hr x lo ln c hc
    rw [hp] at hp'
    cases hp'
    obtain ⟨s'', hs'', hr'⟩ := update_spec hr hrc
    rw [hs'] at hs''
    cases hs''
    exact ⟨_, hr', Reach.switch x lo ln c hR hpre hc⟩

/-- **C15 `criterion_eq_batch` for the generated code.**  After any permitted sequence of generated
`add_sample` / `switch_label` / `update` calls, the object's `criterion_value` is the Calinski-Harabasz index of the
current labelled data. -/
theorem gen_criterion_eq_batch {s : Gen.ICVI.Self α} {D : List (List α × Nat)} (h : GenReach d s D) :
    s.criterion_value = chBatch D := by
  obtain ⟨st, hr, hR⟩ := genReach_rep h
  rw [hr.crit]
  exact Art.C15.criterion_eq_batch hR

/-- C15 `add_candidate_eq_batch`: the generated `add_sample` does not raise, and the `criterion_value` of the dict it
returns (before any `update`) is the batch index of the data with the sample added -/
theorem gen_add_candidate_eq_batch {s : Gen.ICVI.Self α} {D : List (List α × Nat)} (h : GenReach d s D)
    {x : List α} (hx : x.length = d) (l : Nat) :
    ∃ p, Gen.ICVI.add_sample s x l = some p ∧
      Imp.aget p "criterion_value" = some (.num (chBatch ((x, l) :: D))) := by
  obtain ⟨st, hr, hR⟩ := genReach_rep h
  obtain ⟨p, hp, hc⟩ := add_sample_spec hr x l
  refine ⟨p, hp, ?_⟩
  rw [← Art.C15.add_candidate_eq_batch hR hx l]
  exact hc.2.2.2.2.2.1

/-- C15 `switch_preserves_inv` / `switch_candidate_eq_batch`: under the API's precondition the generated
`switch_label` and `update` do not raise, the returned `criterion_value` is the batch index of the relabelled data,
and the history stays permitted -/
theorem gen_switch_defined {s : Gen.ICVI.Self α} {D₁ D₂ : List (List α × Nat)} {x : List α} {lo ln : Nat}
    (h : GenReach d s (D₁ ++ (x, lo) :: D₂))
    (hpre : lo ≠ ln → 2 ≤ (members (D₁ ++ (x, lo) :: D₂) lo).length) :
    ∃ p s', Gen.ICVI.switch_label s x lo ln = some p ∧ Gen.ICVI.update s p = some s' ∧
      Imp.aget p "criterion_value" = some (.num (chBatch (D₁ ++ (x, ln) :: D₂))) ∧
      GenReach d s' (D₁ ++ (x, ln) :: D₂) := by
  obtain ⟨st, hr, hR⟩ := genReach_rep h
  obtain ⟨hwf, hI⟩ := reach_inv hR
  obtain ⟨c, hc, _⟩ := switch_inv hwf hI hpre
  obtain ⟨p, hp, hrc⟩ := switch_label_spec hr x lo ln c hc
  obtain ⟨s', hs', _⟩ := update_spec hr hrc
  refine ⟨p, s', hp, hs', ?_, GenReach.switch x lo ln p s' h hpre hp hs'⟩
  rw [← Art.C15.switch_candidate_eq_batch hR hpre hc]
  exact hrc.2.2.2.2.2.1

/-- `iCVIFuzzyART`'s online tracking on the generated code: construct the object, then `add_sample(x_i, c_i)` +
`update` per sample (a left fold of the **generated** functions) -/
def genOnline (x0 : List α) (X : List (List α)) (cs : List Nat) : Option (Gen.ICVI.Self α) := do
  let s ← Gen.ICVI.init x0
  (X.zip cs).foldlM (fun s p => do
    let q ← Gen.ICVI.add_sample s p.1 p.2
    Gen.ICVI.update s q) s

theorem gen_fold_rep (L : List (List α × Nat)) :
    ∀ {s : Gen.ICVI.Self α} {st : State α}, RepState s st →
      ∃ s', L.foldlM (fun s p => do
          let q ← Gen.ICVI.add_sample s p.1 p.2
          Gen.ICVI.update s q) s = some s' ∧
        RepState s' (L.foldl (fun st p => update st (addSample st p.1 p.2)) st) := by
  induction L with
  | nil => intro s st h; exact ⟨s, rfl, h⟩
  | cons a L ih =>
    intro s st h
    obtain ⟨p, hp, hc⟩ := add_sample_spec h a.1 a.2
    obtain ⟨s1, hs1, hr1⟩ := update_spec h hc
    obtain ⟨s', hs', hr'⟩ := ih hr1
    refine ⟨s', ?_, hr'⟩
    rw [List.foldlM_cons, hp]
    simp only [Option.bind_eq_bind, Option.bind_some, hs1]
    exact hs'

/-- **C15 `icvifuzzy_tracks_online` for the generated code.**  Whatever labels the search returned, the fold of the
generated `add_sample` + `update` over the samples does not raise and ends with `criterion_value` = the batch
Calinski-Harabasz index of `(X, labels_)`. -/
theorem gen_tracks_online (x0 : List α) (X : List (List α)) (cs : List Nat) (hx0 : x0.length = d)
    (hX : Rows d X) : ∃ s, genOnline x0 X cs = some s ∧ s.criterion_value = chBatch (X.zip cs) := by
  obtain ⟨s0, h0, hr0⟩ := init_spec x0
  rw [hx0] at hr0
  obtain ⟨s, hs, hr⟩ := gen_fold_rep (X.zip cs) hr0
  refine ⟨s, ?_, ?_⟩
  · simp only [genOnline, h0, Option.bind_eq_bind, Option.bind_some]
    exact hs
  · rw [hr.crit]
    exact Art.C15.icvifuzzy_tracks_online X cs hX

end Transport

/-! ### non-vacuity: the generated code runs -/

section Example

/-- the generated code, executed: two clusters on the line, `{0, 1}` and `{4, 6}` — index `81/5` -/
example : (genOnline (α := ℚ) [0] [[0], [1], [4], [6]] [0, 0, 1, 1]).map (·.criterion_value) = some (81 / 5) := by
  decide +kernel

/-- one generated operation followed by the generated `update` -/
def genAdd (s : Gen.ICVI.Self ℚ) (x : List ℚ) (l : Nat) : Option (Gen.ICVI.Self ℚ) := do
  let q ← Gen.ICVI.add_sample s x l
  Gen.ICVI.update s q
def genSwitch (s : Gen.ICVI.Self ℚ) (x : List ℚ) (lo ln : Nat) : Option (Gen.ICVI.Self ℚ) := do
  let q ← Gen.ICVI.switch_label s x lo ln
  Gen.ICVI.update s q

/-- offline style: everything in cluster 0, then `4` and `6` are switched to a new / an existing cluster 1 -/
def exOffline : Option (Gen.ICVI.Self ℚ) := do
  let s ← Gen.ICVI.init [0]
  let s ← genAdd s [0] 0
  let s ← genAdd s [1] 0
  let s ← genAdd s [4] 0
  let s ← genAdd s [6] 0
  let s ← genSwitch s [4] 0 1
  genSwitch s [6] 0 1

example : exOffline.map (fun s => (s.n_samples, s.criterion_value, s.WGSS, Imp.akeys s.CD)) =
    some (4, 81 / 5, 5 / 2, [0, 1]) := by
  decide +kernel

/-- the explicit `raise` is `none`: the only member of cluster 1 cannot be switched away -/
example : (do
    let s ← Gen.ICVI.init [0]
    let s ← genAdd s [0] 0
    let s ← genAdd s [1] 0
    let s ← genAdd s [4] 1
    genSwitch s [4] 1 0) = none := by
  decide +kernel

end Example

end Art.GenSpec.ICVI
