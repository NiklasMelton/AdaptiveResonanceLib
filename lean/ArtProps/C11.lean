/-
C11 — Partial-channel inference; channel joins round-trip.

Model: `ArtModel/Fusion.lean` — `choiceSkip` / `stepPredSkip` / `predictSkip` (a skipped
channel contributes `1·gamma_k`, `predict` normalises negative indices once),
`predictRegression` (incl. the double normalisation), `joinRow` / `splitRow`,
`prepareRow` / `restoreRow`.

Proved for every ordered field, every channel layout, every trained weight list `W`, every
query and every filler:
  * `skip_independent`, `skip_is_argmax_of_rest`, `skip_index_normalised`;
  * `regression_is_target_centre` (one target channel — the documented use) and
    `regression_multi_is_target_centres` (any list of target channels, positive or negative
    indices, any order);
  * `split_join`, `join_split`, `restore_prepare` (any set of skipped channels).
Until /repo f0de10c the multi-target branch read `centers[k]` with the channel number
instead of the position, and until aea0d0b `restore_data` indexed the list of kept channels
with the channel number (findings C11-b, C11-a); the model follows the repaired code.
The inverse law of a single module's `prepare_data` / `restore_data` is C18's; here it is
the hypothesis `hinv`.
-/
import ArtProofs.Fusion
import ArtProofs.Kernels

namespace Art.C11
open Art Art.Fusion

set_option linter.unusedSectionVars false

section Core
variable {α : Type} [Field α] [LinearOrder α] [IsStrictOrderedRing α]

/-- **Only the supplied channels matter.**  Two queries that agree on every channel that is
not skipped are given the same category — whatever stands in the skipped columns. -/
theorem skip_independent (chans : List (Chan α)) (ks : List Int) (W : List (List α)) (x x' : List α)
    (h : ∀ k, skipSet chans.length ks k = false → slice (widths chans) k x = slice (widths chans) k x') :
    predictSkip chans ks W [x] = predictSkip chans ks W [x'] := by
  show [stepPredSkip chans _ W x] = [stepPredSkip chans _ W x']
  rw [stepPredSkip_indep chans _ W x x' h]

/-- with channels skipped the fused activation is the remaining channels' gamma-weighted sum
plus the constant `Σ_{k skipped} gamma_k` (the same for every category) -/
theorem skip_adds_constant (chans : List (Chan α)) (skip : Nat → Bool) (W : List (List α)) (x w : List α) :
    choiceSkip chans skip W x w = (restChoice chans skip W x w).map (· + skipConst chans skip) :=
  choiceSkip_eq_rest_add chans skip W x w

/-- adding one constant to every activation changes neither `np.argmax` nor its tie rule -/
theorem argmax_add_const (c : α) (T : List (Option α)) : argmaxNp (T.map (Option.map (· + c))) = argmaxNp T :=
  argmaxNp_map_add c T

/-- **The predicted category is the (first) arg-max of the gamma-weighted activations of the
remaining channels.** -/
theorem skip_is_argmax_of_rest (chans : List (Chan α)) (ks : List Int) (W : List (List α)) (x : List α) :
    predictSkip chans ks W [x] =
      [argmaxNp (W.map (restChoice chans (skipSet chans.length ks) W x))] := by
  show [stepPredSkip chans _ W x] = _
  rw [stepPredSkip_eq_rest]

/-- **Negative indices** are normalised: `-(m+1)` denotes channel `n-(m+1)`, and predicting
with either spelling is the same function. -/
theorem skip_index_normalised (chans : List (Chan α)) (m : Nat) (h : m < chans.length) (ks : List Int)
    (W : List (List α)) (xs : List (List α)) :
    normIdx chans.length (-((m : Int) + 1)) = ((chans.length - (m + 1) : Nat) : Int) ∧
    predictSkip chans (-((m : Int) + 1) :: ks) W xs =
      predictSkip chans (((chans.length - (m + 1) : Nat) : Int) :: ks) W xs := by
  refine ⟨normIdx_neg _ m h, ?_⟩
  unfold predictSkip
  rw [skipSet_neg chans.length m h ks]

/-- **Regression, one target channel**: the value returned for a row is exactly the
target-channel centre of the category predicted with that channel skipped. -/
theorem regression_is_target_centre (chans : List (Chan α)) (centre : Nat → List α → List α) (t : Int)
    (W : List (List α)) (x : List α) (ht : 0 ≤ normIdx chans.length t) (c : Nat)
    (hc : predictSkip chans [t] W [x] = [some c]) :
    ∃ w, W[c]? = some w ∧
      predictRegression chans centre [t] W x =
        some [centre (normIdx chans.length t).toNat (slice (wlens chans) (normIdx chans.length t).toNat w)] := by
  exact predictRegression_eq chans centre [t] W x (List.forall_mem_singleton.2 ht) c
    (List.cons.inj (show [stepPredSkip chans (skipSet chans.length [t]) W x] = [some c] from hc)).1

/-- **Regression, any list of target channels** (positive or negative indices, any order, any
number): the `j`-th returned value is the centre of channel `targets[j]` (normalised) of the
category predicted with all targets skipped. -/
theorem regression_multi_is_target_centres (chans : List (Chan α)) (centre : Nat → List α → List α)
    (targets : List Int) (W : List (List α)) (x : List α)
    (hnn : ∀ t ∈ targets, 0 ≤ normIdx chans.length t) (c : Nat)
    (hc : predictSkip chans targets W [x] = [some c]) :
    ∃ w, W[c]? = some w ∧
      predictRegression chans centre targets W x =
        some ((targets.map (normIdx chans.length)).map
          (fun k => centre k.toNat (slice (wlens chans) k.toNat w))) := by
  exact predictRegression_eq chans centre targets W x hnn c
    (List.cons.inj (show [stepPredSkip chans (skipSet chans.length targets) W x] = [some c] from hc)).1

end Core

section Join
variable {β : Type}

/-- **split ∘ join = id** on the supplied channels: rows of the kept channels' widths come
back unchanged (and the joined row has the full width). -/
theorem split_join (filler : β) (skip : Nat → Bool) (ws : List Nat) (data : List (List β))
    (h : Fit (keptWidths skip 0 ws) data) :
    ∃ v, joinRow ws skip filler data = some v ∧ splitRow ws skip v = data ∧ v.length = ws.sum :=
  split_join_from filler skip 0 ws data h

/-- **join ∘ split** returns the row with the skipped blocks overwritten by the filler; on every
supplied channel it agrees with the row. -/
theorem join_split (filler : β) (skip : Nat → Bool) (ws : List Nat) (v : List β) (hv : ws.sum ≤ v.length) :
    joinRow ws skip filler (splitRow ws skip v) = some (maskFrom filler skip 0 ws v) ∧
    ∀ j, skip j = false → slice ws j (maskFrom filler skip 0 ws v) = slice ws j v :=
  ⟨join_split_from filler skip 0 ws v,
   fun j hj => slice_maskFrom filler skip 0 ws v hv j (by rwa [Nat.zero_add])⟩

/-- **restore ∘ prepare = id on the supplied channels**, for ANY set of skipped channels: when
every kept module's `restore_data` inverts its `prepare_data` (`hinv`, C18) and prepared rows
have the channel width, `restore_data(prepare_data(data, skip), skip)` returns the supplied
channels in order (`data` has one entry per channel). -/
theorem restore_prepare (prep rest : Nat → List β → List β) (ws : List Nat) (skip : Nat → Bool)
    (filler : β) (data : List (List β)) (hd : data.length = ws.length)
    (hwid : ∀ i, i < ws.length → skip i = false → (prep i (data.getD i [])).length = ws.getD i 0)
    (hinv : ∀ i, i < ws.length → skip i = false → rest i (prep i (data.getD i [])) = data.getD i []) :
    ∃ v, prepareRow prep ws skip filler data = some v ∧
      restoreRow rest ws skip v = some ((kept ws.length skip).map (fun i => data.getD i [])) := by
  have hmem : ∀ i ∈ kept ws.length skip, i < ws.length ∧ skip i = false := fun i hi => by
    obtain ⟨h1, h2⟩ := List.mem_filter.1 hi
    exact ⟨List.mem_range.1 h1, by rwa [Bool.not_eq_true'] at h2⟩
  -- the prepared rows of the kept channels fit the kept widths, so joining and splitting returns them
  have hfit : Fit (keptWidths skip 0 ws) ((kept ws.length skip).map (fun i => prep i (data.getD i []))) := by
    rw [keptWidths_eq]
    simp only [Nat.zero_add]
    refine List.forall₂_map_left_iff.2 (List.forall₂_map_right_iff.2 (List.forall₂_same.2 fun i hi => ?_))
    exact hwid i (hmem i hi).1 (hmem i hi).2
  obtain ⟨v, hj, hsp, _⟩ := split_join_from filler skip 0 ws _ hfit
  -- every kept channel is supplied
  have hdata : (kept ws.length skip).map (fun i => (data[i]?).map (prep i))
      = ((kept ws.length skip).map (fun i => prep i (data.getD i []))).map some := by
    rw [List.map_map]
    refine List.map_congr_left fun i hi => ?_
    show _ = some (prep i (data.getD i []))
    rw [getD_of_lt data [] (hd ▸ (hmem i hi).1), List.getElem?_eq_getElem (hd ▸ (hmem i hi).1)]
    rfl
  refine ⟨v, ?_, ?_⟩
  · rw [prepareRow, hdata, allSome_map_some]
    exact hj
  · -- position `pos` of the split list holds the prepared row of the `pos`-th kept channel
    rw [restoreRow, splitRow, hsp]
    show allSome ((kept ws.length skip).zipIdx.map (fun ip =>
      (((kept ws.length skip).map (fun i => prep i (data.getD i [])))[ip.2]?).map (rest ip.1))) = _
    rw [zipIdx_map_eq_map _ _ (fun i => some (rest i (prep i (data.getD i []))))
        (fun k i hk => by rw [List.getElem?_map, hk]; rfl),
      ← List.map_congr_left (fun i hi => hinv i (hmem i hi).1 (hmem i hi).2), ← allSome_map_some, List.map_map]
    rfl

end Join

/-! ### Non-vacuity (ℚ, FuzzyART channels alpha = 1/4, beta = 1); the first two are the
inputs of findings C11-b / C11-a -/

private def ch3 : List (Chan Rat) :=
  [⟨fuzzyKernel (1/4) 1 1, 2, 1/2, 2⟩, ⟨fuzzyKernel (1/4) 1 1, 2, 1/4, 2⟩, ⟨fuzzyKernel (1/4) 1 1, 2, 1/4, 2⟩]
private def W3 : List (List Rat) :=
  [[0, 1, 0, 1, 0, 1], [1, 0, 1, 0, 1, 0], [1/4, 3/4, 1/2, 1/2, 3/4, 1/4]]
private def cen : Nat → List Rat → List Rat := fun _ => fuzzyCentre
private def q3 : List Rat := [1/4, 3/4, 1/2, 1/2, 3/4, 1/4]
private def ccR (v : List Rat) : List Rat := v ++ vcompl v

-- targets [1, 0]: channel 1's centre first, then channel 0's; [1, 2], [0, 2], [-1, -2] work
example : predictRegression ch3 cen [1, 0] W3 q3 = some [[1/2], [1/4]] := by decide +kernel
example : predictRegression ch3 cen [1, 2] W3 q3 = some [[1/2], [3/4]] := by decide +kernel
example : predictRegression ch3 cen [0, 2] W3 q3 = some [[1/4], [3/4]] := by decide +kernel
example : predictRegression ch3 cen [-1, -2] W3 q3 = some [[3/4], [1/2]] := by decide +kernel
-- channel 0 skipped (not a suffix): prepare then restore returns the supplied channel
example : prepareRow (fun _ => ccR) [2, 2] (skipSet 2 [0]) (1/2 : Rat) [[], [1/2]] = some [1/2, 1/2, 1/2, 1/2] ∧
    restoreRow (fun _ => fuzzyCentre) [2, 2] (skipSet 2 [0]) ([1/2, 1/2, 1/2, 1/2] : List Rat) = some [[1/2]] := by
  decide +kernel
-- middle channel skipped
example : (prepareRow (fun _ => ccR) [2, 2, 2] (skipSet 3 [1]) (1/2 : Rat) [[1/4], [], [3/4]]).bind
    (restoreRow (fun _ => fuzzyCentre) [2, 2, 2] (skipSet 3 [1])) = some [[1/4], [3/4]] := by decide +kernel
-- skipping the last channel with index -1 or 2, any filler: same category, the third one
example : predictSkip ch3 [-1] W3 [[1/4, 3/4, 1/2, 1/2, 1/2, 1/2]] = [some 2] := by decide +kernel
example : predictSkip ch3 [2] W3 [[1/4, 3/4, 1/2, 1/2, 0, 1]] = [some 2] := by decide +kernel
-- regression on the last channel (the default `target_channels=[-1]`)
example : predictRegression ch3 cen [-1] W3 q3 = some [[3/4]] := by decide +kernel
-- join / split with the middle channel skipped
example : joinRow [2, 2, 2] (skipSet 3 [1]) (1/2 : Rat) [[0, 1], [1/4, 3/4]] = some [0, 1, 1/2, 1/2, 1/4, 3/4] := by
  decide +kernel
example : splitRow [2, 2, 2] (skipSet 3 [-2]) ([0, 1, 1/2, 1/2, 1/4, 3/4] : List Rat) = [[0, 1], [1/4, 3/4]] := by
  decide +kernel

end Art.C11
