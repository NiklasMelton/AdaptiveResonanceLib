/-
ArtProofs.ArgMin — `argmaxFirst` / `argminFirst` on a NaN-free list: the first index of the extremal entry.
The first minimum is the first maximum of the dual order, so both come from `nanargmaxV_spec`.
-/
import Mathlib.Order.OrderDual
import ArtProofs.Order

namespace Art
open OrderDual

variable {α : Type} [LinearOrder α]

theorem argminV_eq_dual (l : List α) :
    (argminV l).map (fun kv => (kv.1, toDual kv.2)) = nanargmaxV (l.map fun x => some (toDual x)) := by
  induction l with
  | nil => rfl
  | cons x xs ih =>
    simp only [argminV, List.map_cons, nanargmaxV, ← ih]
    rcases argminV xs with _ | ⟨k, u⟩
    · rfl
    · exact apply_ite (Option.map _) _ _ _

theorem argminV_eq_none {l : List α} : argminV l = none ↔ l = [] := by
  cases l with
  | nil => simp [argminV]
  | cons x xs =>
    simp only [argminV]
    cases argminV xs with
    | none => simp
    | some kv => obtain ⟨k, u⟩ := kv; simp only; split <;> simp

theorem IsFirstMax.of_map {β : Type} {f : β → α} {l : List β} {k : Nat} {v : α}
    (h : IsFirstMax (l.map fun b => some (f b)) k v) :
    (∃ b, l[k]? = some b ∧ f b = v) ∧ (∀ (j : Nat) (b : β), l[j]? = some b → f b ≤ v) ∧
      (∀ (j : Nat) (b : β), j < k → l[j]? = some b → f b < v) := by
  have hget : ∀ (j : Nat) (b : β), l[j]? = some b → (l.map fun b => some (f b))[j]? = some (some (f b)) := by
    intro j b hj
    rw [List.getElem?_map, hj]
    rfl
  refine ⟨?_, fun j b hj => h.ge_all j _ (hget j b hj), fun j b hjk hj => h.gt_before j _ hjk (hget j b hj)⟩
  have hk := h.at_k
  rw [List.getElem?_map] at hk
  cases hb : l[k]? with
  | none => rw [hb] at hk; cases hk
  | some b => rw [hb] at hk; cases hk; exact ⟨b, rfl, rfl⟩

theorem argmaxFirst_spec {l : List α} {k : Nat} (h : argmaxFirst l = some k) :
    ∃ v, l[k]? = some v ∧ (∀ (j : Nat) (u : α), l[j]? = some u → u ≤ v) ∧
      (∀ (j : Nat) (u : α), j < k → l[j]? = some u → u < v) := by
  obtain ⟨v, hv⟩ := nanargmax_eq_some_iff.mp h
  obtain ⟨⟨b, hb, rfl⟩, hge, hgt⟩ := IsFirstMax.of_map (f := id) hv
  exact ⟨b, hb, hge, hgt⟩

theorem argmaxFirst_lt_length {l : List α} {k : Nat} (h : argmaxFirst l = some k) : k < l.length :=
  let ⟨_, hk, _⟩ := argmaxFirst_spec h
  (List.getElem?_eq_some_iff.mp hk).1

theorem argmaxFirst_isSome {l : List α} (h : l ≠ []) : ∃ k, argmaxFirst l = some k := by
  cases hm : argmaxFirst l with
  | some k => exact ⟨k, rfl⟩
  | none =>
    obtain ⟨x, hx⟩ := List.exists_mem_of_ne_nil l h
    cases nanargmax_eq_none_iff.mp hm (some x) (List.mem_map_of_mem hx)

theorem argminV_spec {l : List α} {k : Nat} {v : α} (h : argminV l = some (k, v)) :
    l[k]? = some v ∧ (∀ (j : Nat) (u : α), l[j]? = some u → v ≤ u) ∧
      (∀ (j : Nat) (u : α), j < k → l[j]? = some u → v < u) := by
  have hd : nanargmaxV (l.map fun x => some (toDual x)) = some (k, toDual v) := by
    rw [← argminV_eq_dual, h]
    rfl
  obtain ⟨⟨b, hb, rfl⟩, hle, hlt⟩ := (nanargmaxV_spec hd).of_map
  exact ⟨hb, hle, hlt⟩

theorem argminFirst_spec {l : List α} {k : Nat} (h : argminFirst l = some k) :
    ∃ v, l[k]? = some v ∧ (∀ (j : Nat) (u : α), l[j]? = some u → v ≤ u) ∧
      (∀ (j : Nat) (u : α), j < k → l[j]? = some u → v < u) := by
  simp only [argminFirst, Option.map_eq_some_iff] at h
  obtain ⟨⟨k', v⟩, hkv, rfl⟩ := h
  exact ⟨v, argminV_spec hkv⟩

theorem argminFirst_lt_length {l : List α} {k : Nat} (h : argminFirst l = some k) : k < l.length :=
  let ⟨_, hk, _⟩ := argminFirst_spec h
  (List.getElem?_eq_some_iff.mp hk).1

theorem argminFirst_isSome {l : List α} (h : l ≠ []) : ∃ k, argminFirst l = some k := by
  cases hv : argminV l with
  | none => exact absurd (argminV_eq_none.mp hv) h
  | some kv => exact ⟨kv.1, by rw [argminFirst, hv]; rfl⟩

end Art
