/-
ArtGenProofs.VATSpec — the definition `Art.Gen.VAT.VAT` that `harness/artv/vtrans.py` regenerates from
`artlib/common/VAT.py` on every run (ArtGen/VAT.lean) equals the hand-written model `Art.VAT.vat`
(ArtModel/VAT.lean) that the C20 theorems are stated about.

* `npArgmin_eq_argminFirst`, `npArgmax_eq_argmaxFirst`: numpy's left-to-right first-extremum scans (ImpVAT) are the
  model's right-to-left recursions, over every linear order;
* `npFancy2_eq_some`, `npFancy2_eq_ixSub`: `M[np.ix_(rows, cols)]` is the model's `ixSub` whenever numpy does not
  raise, and it does not raise on an `n × n` matrix with in-range indices;
* `body_spec`, `while_spec`: one iteration / the whole `while remaining:` loop is `vatLoop`, for every fuel that is at
  least the number of remaining samples (no bound on `n`);
* `VAT_spec`: for every `n ≥ 1`, every `n × n` matrix over a linear order, every fuel `≥ n - 1` and every external
  `squareform`:  `VAT squareform fuel D none = some ((vat D).2, (vat D).1)`;
  `VAT_empty` (n = 0: numpy's argmax raises), `VAT_metric` (the call with a metric = the call on the pre-computed
  matrix, under the one fact about scipy's `squareform` that the code relies on), `VAT_fuel_irrelevant`;
* the C20 theorems transported to the generated definition: `VAT_perm`, `VAT_seed_is_max_endpoint`, `VAT_prim_step`,
  `VAT_prim_step_first_min`, `VAT_matrix_reordered`;
* non-vacuity: the generated code run on the matrices of ArtProps/C20.lean.
-/
import Mathlib.Order.Basic
import Mathlib.Order.Defs.LinearOrder
import ArtGen.VAT
import ArtProofs.VAT
import ArtProofs.Imp
import ArtProps.C20

namespace Art.GenSpec.VAT
open Art Art.VAT Art.ImpVAT Art.Gen.VAT

section scans
variable {α : Type} [LinearOrder α]

theorem npArgmin_eq_argminFirst (l : List α) : npArgmin l = argminFirst l :=
  (npArgmin_eq l).trans (ImpFalcon.npArgmin_eq_argminFirst l)

theorem npArgmax_eq_argmaxFirst (l : List α) : npArgmax l = argmaxFirst l :=
  (npArgmax_eq l).trans (ImpFalcon.npArgmax_eq_argmaxFirst l)

end scans
section plumbing
variable {β γ : Type}

theorem optMap_congr {f g : β → Option γ} : ∀ {l : List β}, (∀ x ∈ l, f x = g x) → optMap f l = optMap g l
  | [], _ => rfl
  | x :: xs, h => by
    have ih := optMap_congr (l := xs) (fun y hy => h y (List.mem_cons_of_mem _ hy))
    simp only [optMap, h x List.mem_cons_self, ih]

/-- a comprehension none of whose elements raises is `filterMap` -/
theorem optMap_of_all_some {f : β → Option γ} : ∀ {l : List β}, (∀ x ∈ l, (f x).isSome) →
    optMap f l = some (l.filterMap f)
  | [], _ => rfl
  | x :: xs, h => by
    obtain ⟨y, hy⟩ := Option.isSome_iff_exists.mp (h x List.mem_cons_self)
    have ih := optMap_of_all_some (l := xs) (fun z hz => h z (List.mem_cons_of_mem _ hz))
    simp only [optMap, hy, ih, List.filterMap_cons_some hy]

/-- whenever the comprehension does not raise, its value is `filterMap` (of any function that agrees with `f`
where `f` does not raise) -/
theorem optMap_eq_some {f g : β → Option γ} : ∀ {l : List β} {r : List γ}, optMap f l = some r →
    (∀ x ∈ l, ∀ y, f x = some y → g x = some y) → l.filterMap g = r
  | [], r, h, _ => Option.some.inj h
  | x :: xs, r, h, hg => by
    rw [optMap] at h
    cases hx : f x with
    | none => rw [hx] at h; cases h
    | some y =>
      cases hxs : optMap f xs with
      | none => rw [hx, hxs] at h; cases h
      | some ys =>
        rw [hx, hxs] at h
        rw [List.filterMap_cons_some (hg x List.mem_cons_self y hx),
          optMap_eq_some hxs (fun z hz => hg z (List.mem_cons_of_mem _ hz))]
        exact Option.some.inj h

/-- `M[np.ix_(rows, cols)]`, whenever numpy does not raise, is the model's `ixSub` (for every list of rows `M`) -/
theorem npFancy2_eq_some {M : List (List β)} {rows cols : List Nat} {R : List (List β)}
    (h : npFancy2 M (npIx rows cols) = some R) : R = ixSub M rows cols := by
  simp only [npFancy2, npIx] at h
  rw [ixSub, optMap_eq_some h]
  intro i _ row hrow
  cases hi : M[i]? with
  | none => rw [hi] at hrow; cases hrow
  | some r =>
    rw [hi, Option.bind_some] at hrow
    exact congrArg some (optMap_eq_some hrow (fun _ _ _ h => h))

variable {n : Nat} {D : List (List β)}

/-- on an `n × n` matrix with in-range indices numpy does not raise -/
theorem npFancy2_eq_ixSub (hsq : Square n D) {rows cols : List Nat} (hr : ∀ i ∈ rows, i < n)
    (hc : ∀ j ∈ cols, j < n) : npFancy2 D (npIx rows cols) = some (ixSub D rows cols) := by
  have hg : ∀ i ∈ rows, (D[i]?).bind (fun r => optMap (fun j => r[j]?) cols)
      = (D[i]?).map (fun r => cols.filterMap (fun j => r[j]?)) := by
    intro i hi
    have hil : i < D.length := hsq.1 ▸ hr i hi
    have hl : D[i].length = n := hsq.2 _ (List.getElem_mem hil)
    have : optMap (fun j => D[i][j]?) cols = some (cols.filterMap (fun j => D[i][j]?)) := by
      apply optMap_of_all_some
      intro j hj
      have : j < D[i].length := hl ▸ hc j hj
      rw [List.getElem?_eq_getElem this]
      rfl
    rw [List.getElem?_eq_getElem hil, Option.bind_some, Option.map_some]
    exact this
  simp only [npFancy2, npIx]
  rw [optMap_congr hg]
  exact optMap_of_all_some (ixSub_row_isSome hsq hr cols)

theorem npShape_rect {m : Nat} {M : List (List β)} (hne : M ≠ []) (h : ∀ r ∈ M, r.length = m) :
    npShape M = (M.length, m) := by
  cases M with
  | nil => exact absurd rfl hne
  | cons r rs => rw [npShape, h r List.mem_cons_self]

end plumbing
section loop
variable {α : Type} [LinearOrder α] {n : Nat} {D : List (List α)}

/-- one iteration of the generated loop body, in the model's vocabulary: with `p` the first minimal position of
the flattened `D[np.ix_(vis, rem)]`, the body appends `rem[p % len(rem)]` and pops that position. -/
theorem body_spec (hsq : Square n D) {vis rem : List Nat} (jx : Nat) (hne : vis ≠ [])
    (hv : ∀ i ∈ vis, i < n) (hr : ∀ j ∈ rem, j < n) {p : Nat}
    (hp : argminFirst (ixSub D vis rem).flatten = some p) (hjx : p % rem.length < rem.length) :
    VAT_while0_body D (jx, vis, rem) =
      some (p % rem.length, vis ++ [rem[p % rem.length]], rem.eraseIdx (p % rem.length)) := by
  have hplt : p < vis.length * rem.length := flatten_ixSub_length hsq hv hr ▸ argminFirst_lt_length hp
  have hsubne : ixSub D vis rem ≠ [] :=
    List.ne_nil_of_length_pos (by rw [ixSub_length hsq hv]; exact List.length_pos_iff.mpr hne)
  have hshape : npShape (ixSub D vis rem) = (vis.length, rem.length) := by
    rw [npShape_rect hsubne (ixSub_row_length hsq hr), ixSub_length hsq hv]
  simp only [VAT_while0_body, npFancy2_eq_ixSub hsq hv hr, npRavel, npArgmin_eq_argminFirst, hp, hshape,
    npUnravel, hplt, ↓reduceIte, List.getElem?_eq_getElem hjx, pyPop, hjx, Option.bind_eq_bind, Option.bind_some,
    Option.pure_def]

set_option linter.unusedSectionVars false in
theorem cond_spec (jx : Nat) (vis rem : List Nat) :
    VAT_while0_cond D (jx, vis, rem) = !rem.isEmpty := rfl

/-- **the generated `while remaining:` loop is `vatLoop`**: started from any visited / remaining lists with in-range
indices (visited non-empty), with any fuel that is at least the number of remaining samples, it ends with
`remaining = []` and `indicies = vatLoop D fuel' vis rem` (for any model fuel `fuel' ≥ len(rem)`). -/
theorem while_spec (hsq : Square n D) : ∀ (fuel fuel' jx : Nat) (vis rem : List Nat),
    rem.length ≤ fuel → rem.length ≤ fuel' → vis ≠ [] → (∀ i ∈ vis, i < n) → (∀ j ∈ rem, j < n) →
    ∃ jx', whileOpt (VAT_while0_cond D) (VAT_while0_body D) fuel (jx, vis, rem)
      = some (jx', vatLoop D fuel' vis rem, []) := by
  -- nothing remains: the condition fails at once
  have done : ∀ (fuel fuel' jx : Nat) (vis : List Nat),
      whileOpt (VAT_while0_cond D) (VAT_while0_body D) fuel (jx, vis, []) = some (jx, vatLoop D fuel' vis [], []) := by
    intro fuel fuel' jx vis
    rw [vatLoop_done]
    cases fuel <;> rfl
  intro fuel
  induction fuel with
  | zero =>
    intro fuel' jx vis rem hf _ _ _ _
    obtain rfl : rem = [] := List.eq_nil_of_length_eq_zero (Nat.le_zero.mp hf)
    exact ⟨jx, done 0 fuel' jx vis⟩
  | succ f ih =>
    intro fuel' jx vis rem hf hf' hne hv hr
    by_cases hrem : rem = []
    · subst hrem
      exact ⟨jx, done (f + 1) fuel' jx vis⟩
    · have hm : 0 < rem.length := List.length_pos_iff.mpr hrem
      obtain ⟨f', rfl⟩ := Nat.exists_eq_succ_of_ne_zero (Nat.ne_of_gt (Nat.lt_of_lt_of_le hm hf'))
      obtain ⟨p, hp, -⟩ := argmin_ixSub hsq hv hr hne hrem
      have hjx : p % rem.length < rem.length := Nat.mod_lt _ hm
      have hcond : VAT_while0_cond D (jx, vis, rem) = true := by
        rw [cond_spec, Bool.not_eq_true', List.isEmpty_eq_false_iff]
        exact hrem
      rw [vatLoop_step hrem hp hjx, whileOpt, if_pos hcond, body_spec hsq jx hne hv hr hp hjx]
      have hlen : (rem.eraseIdx (p % rem.length)).length = rem.length - 1 := List.length_eraseIdx_of_lt hjx
      refine ih f' _ _ _ (hlen ▸ Nat.sub_le_of_le_add hf) (hlen ▸ Nat.sub_le_of_le_add hf')
        (List.append_ne_nil_of_right_ne_nil _ (List.cons_ne_nil _ _)) ?_
        (fun j hj => hr j (List.mem_of_mem_eraseIdx hj))
      intro i hi
      rcases List.mem_append.mp hi with h | h
      · exact hv i h
      · exact List.mem_singleton.mp h ▸ hr _ (List.getElem_mem hjx)

end loop
section top
variable {α : Type} [LinearOrder α] {n : Nat} {D : List (List α)}

/-- **generated = model.**  For every `n ≥ 1`, every `n × n` matrix `D` over a linear order, every loop fuel
`≥ n - 1` and whatever `squareform` is, `VAT(D, distance_metric=None)` as regenerated from the Python source returns
(without raising) the pair `(D[np.ix_(idx, idx)], idx)` of the model `Art.VAT.vat`. -/
theorem VAT_spec (squareform : List α → List (List α)) (hsq : Square n D) (hn : 0 < n) {fuel : Nat}
    (hf : n ≤ fuel + 1) : VAT squareform fuel D none = some ((vat D).2, (vat D).1) := by
  obtain ⟨p, hp, hplt⟩ := argmax_flatten hsq hn
  have hrow : p / n < n := Nat.div_lt_of_lt_mul hplt
  have hshape : npShape D = (n, n) := by
    rw [npShape_rect (List.ne_nil_of_length_pos (hsq.1 ▸ hn)) hsq.2, hsq.1]
  have hlenr : ((List.range n).eraseIdx (p / n)).length = n - 1 := by
    rw [List.length_eraseIdx_of_lt (by rwa [List.length_range]), List.length_range]
  obtain ⟨jx', hloop⟩ := while_spec hsq fuel n (p % n) [p / n] ((List.range n).eraseIdx (p / n))
    (hlenr ▸ Nat.sub_le_of_le_add hf) (hlenr ▸ Nat.sub_le n 1) (List.cons_ne_nil _ _)
    (fun i hi => List.mem_singleton.mp hi ▸ hrow)
    (fun j hj => List.mem_range.mp (List.mem_of_mem_eraseIdx hj))
  rw [← vatOrder_eq hsq hn hp] at hloop
  simp only [VAT, Option.isNone_none, ↓reduceIte, npRavel, npArgmax_eq_argmaxFirst, hp, hshape, npUnravel, hplt,
    pyPop, List.length_range, hrow, List.nil_append, hloop, npFancy2_eq_ixSub hsq (vatOrder_lt hsq) (vatOrder_lt hsq),
    Option.bind_eq_bind, Option.bind_some, Option.pure_def, vat]

/-- `n = 0`: `pairwise_dist.argmax()` raises (`ValueError: attempt to get an argmax of an empty sequence`); the model
returns `([], [])` there (`C20.vat_perm` covers `n = 0` for the model only). -/
theorem VAT_empty (squareform : List α → List (List α)) (fuel : Nat) :
    VAT squareform fuel ([] : List (List α)) none = none :=
  rfl

/-- The call with a metric is the call on the pre-computed matrix `squareform(distance_metric(data))`, provided that
matrix has as many rows as `data` (the one fact about scipy's `squareform ∘ pdist` that the code relies on when it
takes `num_samples` from `data` and indexes `pairwise_dist` with it). -/
theorem VAT_metric (squareform : List α → List (List α)) (fuel : Nat) (X : List (List α))
    (f : List (List α) → List α) (h : (squareform (f X)).length = X.length) :
    VAT squareform fuel X (some f) = VAT squareform fuel (squareform (f X)) none := by
  -- the two calls differ only in where `num_samples` is read from
  simp only [VAT, npShape, h, Option.isNone_some, Option.isNone_none, Bool.false_eq_true, ↓reduceIte,
    Option.bind_eq_bind, Option.pure_def, Option.bind_some]

/-- every fuel `≥ n - 1` gives the same answer -/
theorem VAT_fuel_irrelevant (squareform : List α → List (List α)) (hsq : Square n D) (hn : 0 < n)
    {fuel fuel' : Nat} (hf : n ≤ fuel + 1) (hf' : n ≤ fuel' + 1) :
    VAT squareform fuel D none = VAT squareform fuel' D none := by
  rw [VAT_spec squareform hsq hn hf, VAT_spec squareform hsq hn hf']

/-! ### the C20 theorems, about the generated definition -/

/-- C20 `vat_perm`, transported: the generated `VAT` returns (does not raise), and the returned index vector is a
permutation of `0 … n-1`. -/
theorem VAT_perm (squareform : List α → List (List α)) (hsq : Square n D) (hn : 0 < n) {fuel : Nat}
    (hf : n ≤ fuel + 1) :
    ∃ M idx, VAT squareform fuel D none = some (M, idx) ∧ idx.Perm (List.range n) :=
  ⟨_, _, VAT_spec squareform hsq hn hf, C20.vat_perm hsq⟩

/-- C20 `vat_seed_is_max_endpoint` + `vat_seed_first_max_row`, transported. -/
theorem VAT_seed_is_max_endpoint (squareform : List α → List (List α)) (hsq : Square n D) (hn : 0 < n)
    {fuel : Nat} (hf : n ≤ fuel + 1) :
    ∃ M idx, VAT squareform fuel D none = some (M, idx) ∧
      (∃ i0 j v, idx[0]? = some i0 ∧ ent D i0 j = some v ∧ ∀ i' j' u, ent D i' j' = some u → u ≤ v) ∧
      (∃ i0 j v, idx[0]? = some i0 ∧ ent D i0 j = some v ∧
        ∀ i' j' u, i' < i0 → ent D i' j' = some u → u < v) :=
  ⟨_, _, VAT_spec squareform hsq hn hf, C20.vat_seed_is_max_endpoint hsq hn,
    C20.vat_seed_first_max_row hsq hn⟩

/-- C20 `vat_prim_step`, transported: every later position of the index vector returned by the generated `VAT`
holds an unvisited sample that is closest to the visited set. -/
theorem VAT_prim_step (squareform : List α → List (List α)) (hsq : Square n D) (hn : 0 < n) {fuel : Nat}
    (hf : n ≤ fuel + 1) :
    ∃ M idx, VAT squareform fuel D none = some (M, idx) ∧
      ∀ k, 1 ≤ k → k < n →
        ∃ nxt, idx[k]? = some nxt ∧ nxt ∉ idx.take k ∧ nxt < n ∧
          ∃ i ∈ idx.take k, ∃ v, ent D i nxt = some v ∧
            ∀ i' ∈ idx.take k, ∀ j', j' < n → j' ∉ idx.take k →
              ∀ u, ent D i' j' = some u → v ≤ u :=
  ⟨_, _, VAT_spec squareform hsq hn hf, fun k hk hkn => C20.vat_prim_step hsq k hk hkn⟩

/-- C20 `vat_prim_step_first_min` (numpy's tie rule), transported. -/
theorem VAT_prim_step_first_min (squareform : List α → List (List α)) (hsq : Square n D) (hn : 0 < n)
    {fuel : Nat} (hf : n ≤ fuel + 1) :
    ∃ M idx, VAT squareform fuel D none = some (M, idx) ∧
      ∀ k, 1 ≤ k → k < n →
        ∃ nxt r i v, idx[k]? = some nxt ∧ r < k ∧ idx[r]? = some i ∧ ent D i nxt = some v ∧
          (∀ i' ∈ idx.take k, ∀ j', j' < n → j' ∉ idx.take k → ∀ u, ent D i' j' = some u → v ≤ u) ∧
          (∀ (r' i' : Nat), r' < r → idx[r']? = some i' → ∀ j', j' < n → j' ∉ idx.take k →
            ∀ u, ent D i' j' = some u → v < u) ∧
          (∀ j', j' < nxt → j' ∉ idx.take k → ∀ u, ent D i j' = some u → v < u) :=
  ⟨_, _, VAT_spec squareform hsq hn hf, fun k hk hkn => C20.vat_prim_step_first_min hsq k hk hkn⟩

/-- C20 `vat_matrix_reordered`, transported: the returned matrix is the input re-ordered by the returned index
vector. -/
theorem VAT_matrix_reordered (squareform : List α → List (List α)) (hsq : Square n D) (hn : 0 < n)
    {fuel : Nat} (hf : n ≤ fuel + 1) :
    ∃ M idx, VAT squareform fuel D none = some (M, idx) ∧ Square n M ∧
      ∀ a b, a < n → b < n → ∃ ia ib, idx[a]? = some ia ∧ idx[b]? = some ib ∧ ent M a b = ent D ia ib :=
  ⟨_, _, VAT_spec squareform hsq hn hf, C20.vat_matrix_reordered hsq⟩

end top

/-! ### non-vacuity: the generated code runs (kernel evaluation) -/

/-- the generated `VAT` on the tie-ridden matrix `M` of ArtProps/C20.lean (fuel = n - 1 = 3); same answer as the
model, pair in Python's order -/
example : VAT (fun _ => []) 3 C20.M none
    = some ([[0, 1, 4, 9], [1, 0, 7, 4], [4, 7, 0, 9], [9, 4, 9, 0]], [0, 2, 3, 1]) := by decide +kernel

/-- the non-symmetric `N` (first maximum in row 2, every later step a tie) -/
example : VAT (fun _ => []) 3 C20.N none
    = some ([[0, 3, 7, 7], [3, 0, 3, 3], [3, 3, 0, 3], [3, 3, 3, 0]], [2, 0, 1, 3]) := by decide +kernel

/-- too little fuel is `none`, never a wrong answer -/
example : VAT (fun _ => []) 2 C20.M none = none := by decide +kernel

/-- the metric branch: `data` = four 1-d points, a metric returning a condensed vector, `squareform` an external
function (here: the constant `M`) -/
example : VAT (fun _ => C20.M) 3 [[1], [2], [3], [4]] (some (fun _ => [9, 1, 4, 4, 9, 7]))
    = some ([[0, 1, 4, 9], [1, 0, 7, 4], [4, 7, 0, 9], [9, 4, 9, 0]], [0, 2, 3, 1]) := by decide +kernel

/-- a ragged matrix raises (numpy: `IndexError`); `n = 1` returns at once -/
example : VAT (fun _ => []) 3 [[0, 5], [5]] none = none := by decide +kernel
example : VAT (fun _ => []) 0 [[(7 : Nat)]] none = some ([[7]], [0]) := by decide +kernel

/-- the hypotheses of `VAT_spec` are satisfiable, and its instance on `M` -/
example : VAT (fun _ => []) 3 C20.M none = some ((vat C20.M).2, (vat C20.M).1) :=
  VAT_spec (n := 4) _ (by decide) (by omega) (by omega)

/-- numpy's tie rules, on the primitives: first maximum / first minimum win -/
example : npArgmax [1, 3, 2, 3] = some 1 ∧ npArgmin [2, 1, 3, 1] = some 1 ∧
    npUnravel 7 (3, 4) = some (1, 3) ∧ npUnravel 12 (3, 4) = none ∧
    npFancy2 [[1, 2, 3], [4, 5, 6]] (npIx [1, 0] [2, 0]) = some [[6, 4], [3, 1]] := by decide +kernel

end Art.GenSpec.VAT
