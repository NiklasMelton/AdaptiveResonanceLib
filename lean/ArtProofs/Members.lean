/-
ArtProofs.Members — every category is exactly the fold of its module's
learning rule over the samples labelled with it (in presentation order),
started from the new-category rule applied to its first member.  Kernel-
independent; holds for every mode, epsilon and veto pattern.
-/
import ArtProofs.Fit

namespace Art

set_option linter.unusedSectionVars false

variable {X Wt α μ θ : Type}

/-- the samples labelled `k`, in presentation order -/
def members (xs : List X) (labels : List Nat) (k : Nat) : List X :=
  ((xs.zip labels).filter (fun p => p.2 == k)).map (·.1)

/-- fold of the learning rule over a category's members -/
def foldMembers (K : Kernel X Wt α μ) : List X → Option Wt
  | [] => none
  | m :: ms => some (ms.foldl (fun w x => K.update x w) (K.newW m))

theorem members_snoc (xs : List X) (labels : List Nat) (x : X) (c k : Nat)
    (h : labels.length = xs.length) :
    members (xs ++ [x]) (labels ++ [c]) k = members xs labels k ++ (if c = k then [x] else []) := by
  unfold members
  rw [List.zip_append h.symm]
  simp only [List.zip_cons_cons, List.zip_nil_right, List.filter_append, List.map_append]
  congr 1
  rw [List.filter_cons, List.filter_nil]
  by_cases e : c = k
  · rw [if_pos e, if_pos (beq_iff_eq.mpr e)]
    rfl
  · rw [if_neg e, if_neg (mt beq_iff_eq.mp e)]
    rfl

theorem foldMembers_snoc (K : Kernel X Wt α μ) (ms : List X) (x : X) (w : Wt)
    (h : foldMembers K ms = some w) : foldMembers K (ms ++ [x]) = some (K.update x w) := by
  cases ms with
  | nil => cases h
  | cons m ms =>
    cases h
    exact congrArg some List.foldl_append

variable [LinearOrder α]

/-- The invariant: weights are member folds, labels align with the stream. -/
def MemberInv (K : Kernel X Wt α μ) (xs : List X) (s : ArtState Wt) : Prop :=
  s.labels.length = xs.length ∧ ∀ k, s.W[k]? = foldMembers K (members xs s.labels k)

theorem memberInv_step (K : Kernel X Wt α μ) (cfg : SearchCfg μ θ) (th0 : θ)
    (veto : ArtState Wt → X → Nat → Bool) (xs : List X) (s : ArtState Wt) (x : X)
    (h : MemberInv K xs s) : MemberInv K (xs ++ [x]) (trainStep K cfg th0 veto s x) := by
  obtain ⟨hlen, hW⟩ := h
  rw [trainStep_eq]
  refine ⟨by rw [List.length_append, List.length_append, hlen]; rfl, fun k => ?_⟩
  dsimp only
  rw [members_snoc xs s.labels x _ k hlen]
  rcases stepFit_cases K cfg th0 (veto s x) s x with ⟨c, hc, _, e⟩ | e <;> rw [e] <;> dsimp only
  · -- resonance with `c`: its weight was the fold of its members, `x` is its next member
    by_cases e : c = k
    · subst e
      rw [if_pos rfl, List.getElem?_set_self hc]
      exact (foldMembers_snoc K _ x _ ((hW c).symm.trans (List.getElem?_eq_getElem hc))).symm
    · rw [if_neg e, List.append_nil, List.getElem?_set_ne e]
      exact hW k
  · -- new category `|W|`: it had no member, `x` is its first
    by_cases e : s.W.length = k
    · subst e
      have hnil : members xs s.labels s.W.length = [] := by
        have hnone := (hW s.W.length).symm.trans (List.getElem?_eq_none (Nat.le_refl _))
        cases hm : members xs s.labels s.W.length with
        | nil => rfl
        | cons m ms => rw [hm] at hnone; cases hnone
      rw [if_pos rfl, List.getElem?_concat_length, hnil]
      rfl
    · rw [if_neg e, List.append_nil, ← hW k]
      rcases Nat.lt_or_gt_of_ne e with hgt | hlt
      · rw [List.getElem?_eq_none (by rw [List.length_append]; exact hgt), List.getElem?_eq_none (Nat.le_of_lt hgt)]
      · rw [List.getElem?_append_left hlt]

/-- **Categories summarise exactly their members** (one training pass from an
empty model; any mode, epsilon, reset function): for every index `k`, the stored
weight is `update` folded over the members of `k` from `newW` of the first one
(an equation of options: `foldMembers` of no members is `none`). -/
theorem weights_are_member_folds (K : Kernel X Wt α μ) (cfg : SearchCfg μ θ) (th0 : θ)
    (veto : ArtState Wt → X → Nat → Bool) (xs : List X) :
    MemberInv K xs (partialFit K cfg th0 veto {} xs) := by
  have key : ∀ (pre xs : List X) (s : ArtState Wt), MemberInv K pre s →
      MemberInv K (pre ++ xs) (partialFit K cfg th0 veto s xs) := by
    intro pre xs
    induction xs generalizing pre with
    | nil =>
      intro s h
      rw [List.append_nil]
      exact h
    | cons x xs ih =>
      intro s h
      have := ih (pre ++ [x]) _ (memberInv_step K cfg th0 veto pre s x h)
      rw [List.append_assoc] at this
      exact this
  exact key [] xs {} ⟨rfl, fun _ => rfl⟩

end Art
