/-
ArtGenProofs.ARTMAPSpec — the definitions that `harness/artv/atrans.py` generates from `ARTMAP.py`, from the accessors
and `predict_ab` of `SimpleARTMAP.py`, from `BaseARTMAP.map_a2b` and from `BaseART.n_clusters` (ArtGen/ARTMAP.lean)
compute the SimpleARTMAP / ARTMAP model of ArtModel/ARTMAP.lean (`artmapFit`, `artmapPartialFit`, `smapPredict`,
`smapPredictAB`, `mapA2B`, `mapGet`) — for all estimators, batches, modes, epsilons and numbers of epochs — and the
C09 theorems (map functional and total, `map_a2b(labels_a) = labels_b`, prediction = map of the A-side prediction)
hold for the generated code.

`ARTMAP.partial_fit` (after fix F48) empties the B-side module on the HOST's first batch (`labels_` does not exist yet),
as `fit` does and as the inherited `SimpleARTMAP.partial_fit` does for the A-side: the model of that call is
`artmapPartialFitHost` below (= `artmapPartialFit` of ArtModel/ARTMAP.lean from a state whose B-side was emptied when the
batch is the first one).  `partial_fit_first_batch_indep` / `partial_fit_first_batch_eq_fit` state the point of the fix
(C06: the first batch does not see the past of a pre-used `module_b`; it is one `fit`), `partial_fit_later_batch` that
later batches continue the B-side.
-/
import ArtGen.ARTMAP
import ArtGenProofs.ControlFit
import ArtProps.C09

set_option linter.unusedSectionVars false
set_option linter.style.haveILetI false

namespace Art.GenSpec.ARTMAP

open Art Art.Imp Art.ImpARTMAP Art.GenSpec.Control

/-! ### The numpy helpers of `map_a2b` -/

theorem mem_insertU (a x : Nat) (l : List Nat) : a ∈ insertU x l ↔ a = x ∨ a ∈ l := by
  induction l with
  | nil => exact List.mem_singleton.trans (or_iff_left List.not_mem_nil).symm
  | cons y ys ih =>
    rw [insertU]
    split
    · exact List.mem_cons
    · split
      · next h => exact h ▸ ⟨Or.inr, fun h => h.elim (fun e => e ▸ List.mem_cons_self) id⟩
      · rw [List.mem_cons, ih, List.mem_cons]; exact or_left_comm

theorem mem_npUniqueVals (a : Nat) (v : List Nat) : a ∈ npUniqueVals v ↔ a ∈ v := by
  induction v with
  | nil => rfl
  | cons x xs ih => rw [npUniqueVals, List.foldr_cons, mem_insertU, ← npUniqueVals, ih, List.mem_cons]

theorem mapM_none_of_mem {β γ : Type} (f : β → Option γ) (l : List β) (x : β) (hx : x ∈ l) (hf : f x = none) :
    l.mapM f = none := by
  induction l with
  | nil => cases hx
  | cons a l ih =>
    rw [List.mapM_cons]
    rcases List.mem_cons.mp hx with rfl | h
    · rw [hf]; rfl
    · rw [ih h]; cases f a <;> rfl

/-- **`np.unique(v, return_inverse=True)` followed by fancy indexing**: `np.array([f(x) for x in u])[inv]` is
`[f(x) for x in v]` -/
theorem npUnique_take {β : Type} (f : Nat → β) (v : List Nat) :
    npTake ((npUnique v).1.map f) (npUnique v).2 = some (v.map f) := by
  rw [npTake, npUnique, List.mapM_map, ← mapM_some]
  refine mapM_congr _ _ _ fun x hx => ?_
  have hlt := List.idxOf_lt_length_of_mem ((mem_npUniqueVals x v).mpr hx)
  rw [Function.comp, List.getElem?_map, List.getElem?_eq_getElem hlt, List.getElem_idxOf hlt]
  rfl

/-- Python `v[-n:]` drops all but the last `n` entries when `0 < n ≤ len(v)` -/
theorem pyLastN_drop {β : Type} (v : List β) (n k : Nat) (hn : 0 < n) (hk : v.length = k + n) :
    pyLastN v n = v.drop k := by
  rw [pyLastN, if_neg (Nat.ne_of_gt hn), hk, Nat.add_sub_cancel]

/-! ### `BaseARTMAP.map_a2b` -/

section MapA2B
variable {Wt P : Type}

/-- `map_a2b(c)` on an integer is the dict lookup `self.map[c]` (a KeyError is `none`) -/
theorem map_a2b_int_spec (self : SMapSelf Wt P) (c : Nat) :
    Art.Gen.ARTMAP.BaseARTMAP.map_a2b self (.int c) = (mapGet self.map c).map IntOrArr.int := by
  show ((mapGet self.map c) >>= fun y => pure (IntOrArr.int y)) = _
  cases mapGet self.map c <;> rfl

/-- **`map_a2b(y_a)` on an array — `np.unique`, the lookup of the distinct labels, fancy indexing by the inverse and the
reshape, as translated — is the element-wise lookup**; it raises iff some label is not a key of `self.map` -/
theorem map_a2b_arr_spec (self : SMapSelf Wt P) (ya : List Nat) :
    Art.Gen.ARTMAP.BaseARTMAP.map_a2b self (.arr ya) = (ya.mapM (mapGet self.map)).map IntOrArr.arr := by
  by_cases hall : ∀ x ∈ ya, ∃ y, mapGet self.map x = some y
  · -- every label is a key: look up with a default, which is never used
    have hf : ∀ l : List Nat, (∀ x ∈ l, x ∈ ya) →
        l.mapM (mapGet self.map) = some (l.map fun x => (mapGet self.map x).getD 0) := fun l hl => by
      rw [← mapM_some]
      exact mapM_congr _ _ _ fun x hx => by obtain ⟨y, hy⟩ := hall x (hl x hx); rw [hy]; rfl
    rw [hf ya fun _ hx => hx]
    exact (bind_of_eq_some _ (hf _ fun x hx => (mem_npUniqueVals x ya).mp hx)).trans
      ((bind_of_eq_some _ (npUnique_take _ ya)).trans
        ((bind_of_eq_some _ (if_pos (List.length_map _))).trans rfl))
  · obtain ⟨x, hx, hn⟩ : ∃ x ∈ ya, mapGet self.map x = none := by
      by_contra hc
      exact hall fun x hx => Option.ne_none_iff_exists'.mp fun hn => hc ⟨x, hx, hn⟩
    rw [mapM_none_of_mem _ ya x hx hn]
    exact bind_of_eq_none _ (mapM_none_of_mem _ _ x ((mem_npUniqueVals x ya).mpr hx) hn)

/-- the generated `map_a2b` and the model's `mapA2B` (a list of optional classes): the call succeeds with `r` iff
every model entry is defined and `r` lists them -/
theorem map_a2b_model (self : SMapSelf Wt P) (ya r : List Nat) :
    Art.Gen.ARTMAP.BaseARTMAP.map_a2b self (.arr ya) = some (.arr r) ↔ mapA2B self.map ya = r.map some := by
  rw [map_a2b_arr_spec, mapA2B, ← mapM_eq_some_iff_map]
  cases ya.mapM (mapGet self.map) with
  | none => exact ⟨nofun, nofun⟩
  | some q => exact ⟨fun h => by cases h; rfl, fun h => by cases h; rfl⟩

end MapA2B
/-! ### The accessors -/

section Accessors
variable {WtA PA WtB PB : Type}

/-- `labels_a`, `labels_b`, `labels_ab` of SimpleARTMAP and of ARTMAP read the attributes they are named after:
A = the A-side module's `labels_`; B = `self.labels_` (SimpleARTMAP) resp. the B-side module's `labels_` (ARTMAP) -/
theorem accessors_spec (s : SMapSelf WtA PA) (self : ImpARTMAP.Self WtA PA WtB PB) :
    Art.Gen.ARTMAP.SimpleARTMAP.labels_a s = some s.a.labels ∧
    Art.Gen.ARTMAP.SimpleARTMAP.labels_b s = some s.labelsB ∧
    Art.Gen.ARTMAP.SimpleARTMAP.labels_ab s = some (s.a.labels, s.labelsB) ∧
    Art.Gen.ARTMAP.labels_a self = some self.smap.a.labels ∧
    Art.Gen.ARTMAP.labels_b self = some self.module_b.labels ∧
    Art.Gen.ARTMAP.labels_ab self = some (self.smap.a.labels, self.module_b.labels) :=
  ⟨rfl, rfl, rfl, rfl, rfl, rfl⟩

/-- `n_clusters` (BaseART, SimpleARTMAP) and `n_clusters_a` are the number of A-side weights, `0` before the first
training call created `W` -/
theorem n_clusters_spec (b : Imp.Self WtA PA) (s : SMapSelf WtA PA) :
    Art.Gen.ARTMAP.BaseART.n_clusters b = some (if b.hasW then b.W.length else 0) ∧
    Art.Gen.ARTMAP.SimpleARTMAP.n_clusters s = some (if s.a.hasW then s.a.W.length else 0) ∧
    Art.Gen.ARTMAP.SimpleARTMAP.n_clusters_a s = some (if s.a.hasW then s.a.W.length else 0) := by
  have h : ∀ b : Imp.Self WtA PA, Art.Gen.ARTMAP.BaseART.n_clusters b = some (if b.hasW then b.W.length else 0) :=
    fun b => by unfold Art.Gen.ARTMAP.BaseART.n_clusters; cases b.hasW <;> rfl
  exact ⟨h b, h s.a, h s.a⟩

theorem mem_dictValues (m : List (Option Nat)) (y : Nat) : y ∈ dictValues m ↔ ∃ c, mapGet m c = some y := by
  rw [dictValues, List.mem_filterMap]
  constructor
  · rintro ⟨o, ho, rfl⟩
    obtain ⟨c, hc, hget⟩ := List.getElem_of_mem ho
    exact ⟨c, mapGet_eq_some.mpr ((List.getElem?_eq_getElem hc).trans (congrArg some hget))⟩
  · rintro ⟨c, hc⟩
    exact ⟨some y, List.mem_of_getElem? (mapGet_eq_some.mp hc), rfl⟩

/-- `n_clusters_b` counts the distinct classes in the image of the map (`dictValues`: exactly the classes some
A-category is mapped to, `mem_dictValues`) -/
theorem n_clusters_b_spec (s : SMapSelf WtA PA) :
    Art.Gen.ARTMAP.SimpleARTMAP.n_clusters_b s = some (dictValues s.map).eraseDups.length ∧
    ∀ y, y ∈ dictValues s.map ↔ ∃ c, mapGet s.map c = some y :=
  ⟨(bind_of_eq_some _ (mapM_some (fun c : Nat => c) _)).trans (by rw [List.map_id']; rfl), mem_dictValues s.map⟩

end Accessors
/-! ### Prediction -/

/-- a SimpleARTMAP object as a state of the model -/
def viewS {Wt P : Type} (s : SMapSelf Wt P) : SMapState Wt :=
  { a := ⟨s.a.W, s.a.cnt, s.a.n, s.a.labels⟩, map := s.map, labelsB := s.labelsB }

section Predict
variable {X Wt WtB PB Ctr β : Type} [Field β] [LinearOrder β] [IsStrictOrderedRing β]

/-- the A-side category the model predicts for `x` (0 where `step_pred` has no category) -/
def predA (K : Kernel X Wt β β) (s : SMapSelf Wt β) (x : X) : Nat := (stepPred K s.a.W x).getD 0
/-- its class -/
def predB (K : Kernel X Wt β β) (s : SMapSelf Wt β) (x : X) : Nat := (mapGet s.map (predA K s x)).getD 0

theorem predict_ab_loop [Inhabited Wt] (K : Kernel X Wt β β) (inf : β) (self : SMapSelf Wt β)
    (l : List (X × Nat)) (ya yb : List Nat) :
    letI : Inhabited β := ⟨0⟩
    forEach (Art.Gen.ARTMAP.SimpleARTMAP.predict_ab_loop1_body (scalarExt K inf)) l
        (self.a, self.map, self.labelsB, self.hasLabels, ya, yb) =
      .next (self.a, self.map, self.labelsB, self.hasLabels,
        l.foldl (fun y p => y.set p.2 (predA K self p.1)) ya, l.foldl (fun y p => y.set p.2 (predB K self p.1)) yb) := by
  letI : Inhabited β := ⟨0⟩
  induction l generalizing ya yb with
  | nil => rfl
  | cons p l ih =>
    have hb : Art.Gen.ARTMAP.SimpleARTMAP.predict_ab_loop1_body (scalarExt K inf)
        (self.a, self.map, self.labelsB, self.hasLabels, ya, yb) p =
        .next (self.a, self.map, self.labelsB, self.hasLabels, ya.set p.2 (predA K self p.1),
          yb.set p.2 (predB K self p.1)) := by
      unfold Art.Gen.ARTMAP.SimpleARTMAP.predict_ab_loop1_body
      dsimp only
      rw [smap_step_pred_spec K inf self p.1]
      rfl
    rw [forEach, hb]
    exact ih _ _

/-- **`SimpleARTMAP.predict_ab` is row-wise (A-side arg-max, `map[arg-max]`) and returns the estimator unchanged** -/
theorem smap_predict_ab_spec [Inhabited Wt] (K : Kernel X Wt β β) (inf : β) (self : SMapSelf Wt β) (Xs : List X) :
    letI : Inhabited β := ⟨0⟩
    Art.Gen.ARTMAP.SimpleARTMAP.predict_ab (scalarExt K inf) self Xs =
      (self, (Xs.map (predA K self), Xs.map (predB K self))) := by
  letI : Inhabited β := ⟨0⟩
  unfold Art.Gen.ARTMAP.SimpleARTMAP.predict_ab
  dsimp only
  rw [predict_ab_loop K inf self]
  have hA := foldl_set_zipIdx (predA K self) Xs 0 [] rfl (List.replicate Xs.length 0) List.length_replicate
  have hB := foldl_set_zipIdx (predB K self) Xs 0 [] rfl (List.replicate Xs.length 0) List.length_replicate
  rw [List.nil_append, List.nil_append] at hA hB
  dsimp only
  rw [hA, hB]

theorem pred_spec (K : Kernel X Wt β β) (s : SMapSelf Wt β) (hinv : MapInv (viewS s)) (hne : s.a.W ≠ []) (x : X) :
    stepPred K s.a.W x = some (predA K s x) ∧ mapGet s.map (predA K s x) = some (predB K s x) := by
  obtain ⟨c, hc⟩ := Option.isSome_iff_exists.mp (stepPred_isSome K s.a.W x hne)
  obtain ⟨y, hy⟩ := hinv.total c (stepPred_lt K s.a.W x c hc)
  have hA : predA K s x = c := by rw [predA, hc]; rfl
  have hB : predB K s x = y := by rw [predB, hA, show mapGet s.map c = some y from hy]; rfl
  rw [hA, hB]
  exact ⟨hc, hy⟩

theorem smapStepPred_eq (K : Kernel X Wt β β) (self : SMapSelf Wt β) (hinv : MapInv (viewS self))
    (hne : self.a.W ≠ []) (x : X) :
    smapStepPred K (viewS self) x = some (predA K self x, predB K self x) := by
  obtain ⟨hA, hB⟩ := pred_spec K self hinv hne x
  rw [smapStepPred, show (viewS self).a.W = self.a.W from rfl, hA]
  exact congrArg (Option.map _) hB

/-- **the generated `predict_ab` against the model's `smapPredictAB`** (a list of optional pairs): on a trained state
every model entry is defined and the two generated vectors list them -/
theorem smap_predict_ab_model [Inhabited Wt] (K : Kernel X Wt β β) (inf : β) (self : SMapSelf Wt β) (Xs : List X)
    (hinv : MapInv (viewS self)) (hne : self.a.W ≠ []) :
    letI : Inhabited β := ⟨0⟩
    smapPredictAB K (viewS self) Xs =
      (List.zip (Art.Gen.ARTMAP.SimpleARTMAP.predict_ab (scalarExt K inf) self Xs).2.1
                (Art.Gen.ARTMAP.SimpleARTMAP.predict_ab (scalarExt K inf) self Xs).2.2).map some := by
  letI : Inhabited β := ⟨0⟩
  rw [smap_predict_ab_spec, smapPredictAB, List.zip_map', List.map_map]
  exact List.map_congr_left fun x _ => smapStepPred_eq K self hinv hne x

/-- **`ARTMAP.predict` (= the inherited `SimpleARTMAP.predict`) is row-wise `map[arg-max]`; the estimator is unchanged** -/
theorem predict_spec [Inhabited Wt] (K : Kernel X Wt β β) (inf : β) (self : ImpARTMAP.Self Wt β WtB PB) (Xs : List X) :
    letI : Inhabited β := ⟨0⟩
    Art.Gen.ARTMAP.predict (scalarExt K inf) self Xs = some (self, Xs.map (predB K self.smap)) := by
  letI : Inhabited β := ⟨0⟩
  unfold Art.Gen.ARTMAP.predict
  rw [smap_predict_spec K inf self.smap Xs]
  rfl

/-- the generated `predict` against the model's `smapPredict` -/
theorem predict_model [Inhabited Wt] (K : Kernel X Wt β β) (inf : β) (self : ImpARTMAP.Self Wt β WtB PB) (Xs : List X)
    (hinv : MapInv (viewS self.smap)) (hne : self.smap.a.W ≠ []) :
    letI : Inhabited β := ⟨0⟩
    (Art.Gen.ARTMAP.predict (scalarExt K inf) self Xs).map (fun r => r.2.map some) =
      some (smapPredict K (viewS self.smap) Xs) := by
  letI : Inhabited β := ⟨0⟩
  rw [predict_spec, Option.map_some, smapPredict, List.map_map]
  exact congrArg some (List.map_congr_left fun x _ => by
    rw [smapStepPred_eq K self.smap hinv hne x]; rfl)

/-- `ARTMAP.predict_ab` (= the inherited, translated `SimpleARTMAP.predict_ab`) -/
theorem predict_ab_spec [Inhabited Wt] (K : Kernel X Wt β β) (inf : β) (self : ImpARTMAP.Self Wt β WtB PB) (Xs : List X) :
    letI : Inhabited β := ⟨0⟩
    Art.Gen.ARTMAP.predict_ab (scalarExt K inf) self Xs =
      some (self, (Xs.map (predA K self.smap), Xs.map (predB K self.smap))) := by
  letI : Inhabited β := ⟨0⟩
  unfold Art.Gen.ARTMAP.predict_ab
  rw [smap_predict_ab_spec K inf self.smap Xs]
  rfl

/-- **`ARTMAP.predict_regression` returns, row by row, the B-side centre of the predicted class** (it raises when a
predicted class has no centre); the estimator is unchanged -/
theorem predict_regression_spec [Inhabited Wt] (K : Kernel X Wt β β) (inf : β) (OB : ModuleOps WtB PB Ctr)
    (self : ImpARTMAP.Self Wt β WtB PB) (Xs : List X) (ctrs : List Ctr)
    (hc : OB.get_cluster_centers self.module_b = some ctrs) :
    letI : Inhabited β := ⟨0⟩
    Art.Gen.ARTMAP.predict_regression (scalarExt K inf) OB self Xs =
      (Xs.mapM (fun x => ctrs[predB K self.smap x]?)).map (fun r => (self, r)) := by
  letI : Inhabited β := ⟨0⟩
  refine (bind_of_eq_some _ (predict_spec K inf self Xs)).trans ((bind_of_eq_some _ hc).trans ?_)
  dsimp only
  rw [List.mapM_map, Function.comp_def]
  cases Xs.mapM (fun x => ctrs[predB K self.smap x]?) <;> rfl

end Predict
/-! ### Training: abstraction of the objects to the model's states -/

/-- a nested estimator as a state of the model (`W` does not exist before the first training call) -/
def absB {Wt P : Type} (b : Imp.Self Wt P) : ArtState Wt :=
  if b.hasW then ⟨b.W, b.cnt, b.n, b.labels⟩ else ⟨[], b.cnt, b.n, []⟩

/-- a SimpleARTMAP object as a state of the model (`labels_` does not exist before the first training call, and the
first `partial_fit` then empties the A-side) -/
def absS {Wt P : Type} (s : SMapSelf Wt P) : SMapState Wt :=
  if s.hasLabels then { a := ⟨s.a.W, s.a.cnt, s.a.n, s.a.labels⟩, map := s.map, labelsB := s.labelsB }
  else { a := ⟨[], [], 0, []⟩, map := s.map, labelsB := [] }

/-- an ARTMAP object as a state of the model -/
def absState {WtA PA WtB PB : Type} (self : ImpARTMAP.Self WtA PA WtB PB) : ArtmapState WtA WtB :=
  ⟨absB self.module_b, absS self.smap⟩

/-- a model state as an ARTMAP object with hyper-parameters `pA`, `pB` -/
def conc {WtA PA WtB PB : Type} (pA : PA) (pB : PB) (hwA : Bool) (st : ArtmapState WtA WtB) : ImpARTMAP.Self WtA PA WtB PB :=
  { module_b := ⟨st.b.W, st.b.cnt, st.b.n, pB, st.b.labels, true⟩
    smap := ⟨⟨st.s.a.W, st.s.a.cnt, st.s.a.n, pA, st.s.a.labels, hwA⟩, st.s.map, st.s.labelsB, true⟩ }

section Generic
variable {X Wt α μ θ : Type} [LinearOrder α]

theorem fitEpochs_labels_length (K : Kernel X Wt α μ) (cfg : SearchCfg μ θ) (th0 : θ)
    (veto : ArtState Wt → X → Nat → Bool) (epochs : Nat) (xs : List X) :
    (fitEpochs K cfg th0 veto epochs xs).labels.length = xs.length := by
  -- an epoch overwrites labels in place
  let P := fun s : ArtState Wt => s.labels.length = xs.length
  refine foldl_inv P _ _ _ (fun s _ _ hs => foldl_inv P (epochStep K cfg th0 veto) _ _ (fun s' p _ hs' => ?_) hs)
    List.length_replicate
  show (epochStep K cfg th0 veto s' p).labels.length = xs.length
  rw [← show s'.labels.length = xs.length from hs', ← (stepFit_frame K cfg th0 (veto s' p.1) s' p.1).2.1]
  exact List.length_set

theorem smapFitEpochs_one (K : Kernel X Wt α μ) (cfg : SearchCfg μ θ) (th0 : θ) (s : SMapState Wt) (xys : List (X × Nat)) :
    smapFitEpochs K cfg th0 1 xys = smapFit K cfg th0 s xys := rfl

/-- after `k + 1` epochs the stored targets are those of the stream (the last epoch re-records them) -/
theorem smapFitEpochs_labelsB (K : Kernel X Wt α μ) (cfg : SearchCfg μ θ) (th0 : θ) (k : Nat) (xys : List (X × Nat)) :
    (smapFitEpochs K cfg th0 (k + 1) xys).labelsB = xys.map (·.2) := by
  rw [smapFitEpochs, List.range_succ, List.foldl_append, List.foldl_cons, List.foldl_nil, smapPartialFit_labelsB]
  rfl

theorem smapState_with_labelsB {Wt : Type} (s : SMapState Wt) {L : List Nat} (h : s.labelsB = L) :
    { s with labelsB := L } = s := by
  subst h; rfl

theorem artmapFit_eq_epochs {XA XB WtA WtB : Type} [Inhabited WtB] (KA : Kernel XA WtA α μ) (KB : Kernel XB WtB α μ)
    (cfgA cfgB : SearchCfg μ θ) (thA thB : θ) (st0 : ArtmapState WtA WtB) (Xs : List XA) (Ys : List XB)
    (hxy : Xs.length = Ys.length) :
    (let b := fitEpochs KB cfgB thB noVeto 1 Ys
     let s := smapFitEpochs KA cfgA thA 1 (Xs.zip b.labels)
     (⟨b, { s with labelsB := b.labels }⟩ : ArtmapState WtA WtB)) = artmapFit KA KB cfgA cfgB thA thB st0 Xs Ys := by
  dsimp only
  rw [show fitEpochs KB cfgB thB noVeto 1 Ys = fit KB cfgB thB noVeto {} Ys from
    fitEpochs_one KB cfgB thB (fun _ _ => false) {} Ys, smapFitEpochs_one KA cfgA thA {},
    smapState_with_labelsB _ ((smapFit_labelsB ..).trans (List.map_snd_zip _))]
  · rfl
  · exact Nat.le_of_eq ((partialFit_labels_length ..).trans ((Nat.zero_add _).trans hxy.symm))

end Generic

/-! ### `ARTMAP.fit` and `ARTMAP.partial_fit` -/

section Train
variable {XA XB WtA WtB β : Type} [Field β] [LinearOrder β] [IsStrictOrderedRing β] [Inhabited WtA] [Inhabited WtB]

/-- **`ARTMAP.fit(X, y, max_iter = k + 1)`**, translated statement by statement, with the nested `module_b.fit` and the
inherited `SimpleARTMAP.fit` as generated from their own sources: the B-side is the model's `fitEpochs` on the targets
(no reset function), the A-side the model's `smapFitEpochs` on `zip X (B-side labels)`; `labels_` is the B-side label
vector; the hyper-parameters of both modules are handed back unchanged. -/
theorem fit_spec (KA : Kernel XA WtA β β) (KB : Kernel XB WtB β β) (infA infB eps : β) (mt : MT)
    (self : ImpARTMAP.Self WtA β WtB β) (Xs : List XA) (Ys : List XB) (hxy : Xs.length = Ys.length) (k : Nat) (v : Bool) :
    letI : Inhabited β := ⟨0⟩
    Art.Gen.ARTMAP.fit (scalarExt KA infA) (scalarExt KB infB) self Xs Ys (k + 1) mt eps v =
      (let b := fitEpochs KB (scalarCfg mt false (· + eps) (· - eps) infB) self.module_b.params noVeto (k + 1) Ys
       let s := smapFitEpochs KA (scalarCfg mt false (· + eps) (· - eps) infA) self.smap.a.params (k + 1) (Xs.zip b.labels)
       some (conc self.smap.a.params self.module_b.params true ⟨b, { s with labelsB := b.labels }⟩, ())) := by
  letI : Inhabited β := ⟨0⟩
  have hB := scalar_fit KB infB eps mt true (fun _ _ => false) (fun _ _ _ => rfl) self.module_b Ys (k + 1) false
  simp only [Bool.not_false] at hB
  unfold Art.Gen.ARTMAP.fit
  dsimp only
  rw [hB]
  dsimp only
  rw [smap_fit_spec KA infA eps mt self.smap Xs _ (hxy.trans (fitEpochs_labels_length KB _ _ _ (k + 1) Ys).symm) k v]
  rfl

/-- **`ARTMAP.fit` with the default `max_iter = 1` is the model's `artmapFit`** (the definition the C09 theorems use) -/
theorem fit_model (KA : Kernel XA WtA β β) (KB : Kernel XB WtB β β) (infA infB eps : β) (mt : MT)
    (self : ImpARTMAP.Self WtA β WtB β) (Xs : List XA) (Ys : List XB) (hxy : Xs.length = Ys.length) (v : Bool)
    (st0 : ArtmapState WtA WtB) :
    letI : Inhabited β := ⟨0⟩
    Art.Gen.ARTMAP.fit (scalarExt KA infA) (scalarExt KB infB) self Xs Ys 1 mt eps v =
      some (conc self.smap.a.params self.module_b.params true
              (artmapFit KA KB (scalarCfg mt false (· + eps) (· - eps) infA) (scalarCfg mt false (· + eps) (· - eps) infB)
                self.smap.a.params self.module_b.params st0 Xs Ys), ()) := by
  letI : Inhabited β := ⟨0⟩
  rw [← artmapFit_eq_epochs KA KB _ _ _ _ st0 Xs Ys hxy]
  exact fit_spec KA KB infA infB eps mt self Xs Ys hxy 0 v
/-! #### `partial_fit`: the reset of the B-side on the host's first batch, then the training calls -/

/-- what the conditional at the head of `ARTMAP.partial_fit` does to the object: on the host's first batch (`labels_`
does not exist yet) the B-side module gets an empty `W` (which now exists), empty counters and an empty label vector;
its hyper-parameters stay.  On later batches nothing happens. -/
def firstBatchReset {WtA PA WtB PB : Type} (self : ImpARTMAP.Self WtA PA WtB PB) : ImpARTMAP.Self WtA PA WtB PB :=
  if self.smap.hasLabels then self
  else { self with module_b := ⟨[], [], 0, self.module_b.params, [], true⟩ }

/-- the statements of `ARTMAP.partial_fit` after the conditional (the B-side sees the new targets, the A-side is
supervised by the B-labels of this batch) — an intermediate of the proofs only; `partial_fit_split` ties it to the
generated definition -/
def partialFitTail {XtA WtA PA CA XtB WtB PB CB α : Type} [LT α] [DecidableRel (α := α) (· < ·)]
    [Inhabited WtA] [Inhabited CA] [Inhabited WtB] [Inhabited CB]
    (EA : Ext XtA WtA PA CA α) (EB : Ext XtB WtB PB CB α) (self : ImpARTMAP.Self WtA PA WtB PB)
    (X : List XtA) (y : List XtB) (mt : MT) (eps : α) : Option (ImpARTMAP.Self WtA PA WtB PB × Unit) :=
  let b := (Art.Gen.BaseART.partial_fit EB self.module_b y true (fun _ _ _ _ _ => true) mt eps).1
  let s := (Art.Gen.SimpleARTMAP.partial_fit EA self.smap X (pyLastN b.labels X.length) mt eps).1
  some (⟨b, s⟩, ())

/-- **the generated `ARTMAP.partial_fit` = the reset of the B-side on the host's first batch, then the two training
calls** — for any kernels (`EA`, `EB` abstract), any object, any batch -/
theorem partial_fit_split {XtA WtA PA CA XtB WtB PB CB α : Type} [LT α] [DecidableRel (α := α) (· < ·)]
    [Inhabited WtA] [Inhabited CA] [Inhabited WtB] [Inhabited CB]
    (EA : Ext XtA WtA PA CA α) (EB : Ext XtB WtB PB CB α) (self : ImpARTMAP.Self WtA PA WtB PB)
    (X : List XtA) (y : List XtB) (mt : MT) (eps : α) :
    Art.Gen.ARTMAP.partial_fit EA EB self X y mt eps = partialFitTail EA EB (firstBatchReset self) X y mt eps := by
  unfold Art.Gen.ARTMAP.partial_fit partialFitTail firstBatchReset
  cases h : self.smap.hasLabels <;> rfl

/-- **the point of fix F48 (C06), for any kernels: on the host's first batch the result of `partial_fit` does not depend
on what the B-side module holds** — two hosts that differ only in `module_b.W`, `weight_sample_counter_`,
`sample_counter_`, `labels_` and in whether `module_b.W` exists at all give the same object -/
theorem partial_fit_first_batch_indep {XtA WtA PA CA XtB WtB PB CB α : Type} [LT α] [DecidableRel (α := α) (· < ·)]
    [Inhabited WtA] [Inhabited CA] [Inhabited WtB] [Inhabited CB]
    (EA : Ext XtA WtA PA CA α) (EB : Ext XtB WtB PB CB α) (self₁ self₂ : ImpARTMAP.Self WtA PA WtB PB)
    (X : List XtA) (y : List XtB) (mt : MT) (eps : α)
    (hfirst : self₁.smap.hasLabels = false) (hs : self₁.smap = self₂.smap)
    (hp : self₁.module_b.params = self₂.module_b.params) :
    Art.Gen.ARTMAP.partial_fit EA EB self₁ X y mt eps = Art.Gen.ARTMAP.partial_fit EA EB self₂ X y mt eps := by
  rw [partial_fit_split, partial_fit_split]
  congr 1
  have h2 : self₂.smap.hasLabels = false := hs ▸ hfirst
  simp only [firstBatchReset, h2, hs, hp]
  rfl

/-- the model of the repaired `ARTMAP.partial_fit`: `artmapPartialFit` (ArtModel/ARTMAP.lean), from a state whose
B-side is the empty module when the batch is the host's first one -/
def artmapPartialFitHost {XA XB WtA WtB α μ θ : Type} [LT α] [DecidableRel (α := α) (· < ·)]
    (KA : Kernel XA WtA α μ) (KB : Kernel XB WtB α μ) (cfgA cfgB : SearchCfg μ θ) (thA thB : θ)
    (first : Bool) (st : ArtmapState WtA WtB) (xs : List XA) (ys : List XB) : ArtmapState WtA WtB :=
  artmapPartialFit KA KB cfgA cfgB thA thB (if first then { st with b := {} } else st) xs ys

theorem absState_firstBatchReset {WtA PA WtB PB : Type} (self : ImpARTMAP.Self WtA PA WtB PB) :
    absState (firstBatchReset self) =
      (if !self.smap.hasLabels then { absState self with b := {} } else absState self) := by
  unfold firstBatchReset
  cases self.smap.hasLabels <;> rfl

theorem partialFitTail_model (KA : Kernel XA WtA β β) (KB : Kernel XB WtB β β) (infA infB eps : β) (mt : MT)
    (self : ImpARTMAP.Self WtA β WtB β) (Xs : List XA) (Ys : List XB) (hxy : Xs.length = Ys.length) (hpos : 0 < Xs.length)
    (hinv : self.smap.hasLabels = true → self.smap.a.labels.length = self.smap.labelsB.length) :
    letI : Inhabited β := ⟨0⟩
    partialFitTail (scalarExt KA infA) (scalarExt KB infB) self Xs Ys mt eps =
      some (conc self.smap.a.params self.module_b.params (if self.smap.hasLabels then self.smap.a.hasW else true)
              (artmapPartialFit KA KB (scalarCfg mt false (· + eps) (· - eps) infA) (scalarCfg mt false (· + eps) (· - eps) infB)
                self.smap.a.params self.module_b.params (absState self) Xs Ys), ()) := by
  letI : Inhabited β := ⟨0⟩
  have hB := scalar_partial_fit KB infB eps mt true (fun _ _ => false) (fun _ _ _ => rfl) self.module_b Ys
  simp only [Bool.not_false] at hB
  unfold partialFitTail
  dsimp only
  rw [hB]
  dsimp only
  -- the slice `labels_b[-n:]` is the B labels of this batch
  rw [pyLastN_drop _ _ _ hpos ((partialFit_labels_length ..).trans (congrArg _ hxy.symm)),
    smap_partial_fit_spec KA infA eps mt self.smap Xs _ (hxy.trans (partialFit_newLabels_length ..).symm) hinv]
  rfl

/-- **`ARTMAP.partial_fit` is the model's `artmapPartialFit`, started from an empty B-side on the host's first batch**
(`artmapPartialFitHost`) on the abstraction of the object: the B-side sees the new targets, the A-side is supervised by
the B-labels of this batch — the slice `labels_b[-n:]` is the model's `drop (old length)` for a non-empty batch. -/
theorem partial_fit_model (KA : Kernel XA WtA β β) (KB : Kernel XB WtB β β) (infA infB eps : β) (mt : MT)
    (self : ImpARTMAP.Self WtA β WtB β) (Xs : List XA) (Ys : List XB) (hxy : Xs.length = Ys.length) (hpos : 0 < Xs.length)
    (hinv : self.smap.hasLabels = true → self.smap.a.labels.length = self.smap.labelsB.length) :
    letI : Inhabited β := ⟨0⟩
    Art.Gen.ARTMAP.partial_fit (scalarExt KA infA) (scalarExt KB infB) self Xs Ys mt eps =
      some (conc self.smap.a.params self.module_b.params (if self.smap.hasLabels then self.smap.a.hasW else true)
              (artmapPartialFitHost KA KB (scalarCfg mt false (· + eps) (· - eps) infA) (scalarCfg mt false (· + eps) (· - eps) infB)
                self.smap.a.params self.module_b.params (!self.smap.hasLabels) (absState self) Xs Ys), ()) := by
  letI : Inhabited β := ⟨0⟩
  have hs : (firstBatchReset self).smap = self.smap := by unfold firstBatchReset; split <;> rfl
  have hp : (firstBatchReset self).module_b.params = self.module_b.params := by unfold firstBatchReset; split <;> rfl
  rw [partial_fit_split, partialFitTail_model KA KB infA infB eps mt (firstBatchReset self) Xs Ys hxy hpos (by rw [hs]; exact hinv),
    absState_firstBatchReset, hs, hp]
  rfl

/-- **later batches continue the B-side (no reset)**: once the host has `labels_`, `partial_fit` is the model's
`artmapPartialFit` from the object's own B-side state — weights, counters and labels of `module_b` carry over -/
theorem partial_fit_later_batch (KA : Kernel XA WtA β β) (KB : Kernel XB WtB β β) (infA infB eps : β) (mt : MT)
    (self : ImpARTMAP.Self WtA β WtB β) (Xs : List XA) (Ys : List XB) (hxy : Xs.length = Ys.length) (hpos : 0 < Xs.length)
    (hlater : self.smap.hasLabels = true) (hinv : self.smap.a.labels.length = self.smap.labelsB.length) :
    letI : Inhabited β := ⟨0⟩
    Art.Gen.ARTMAP.partial_fit (scalarExt KA infA) (scalarExt KB infB) self Xs Ys mt eps =
      some (conc self.smap.a.params self.module_b.params self.smap.a.hasW
              (artmapPartialFit KA KB (scalarCfg mt false (· + eps) (· - eps) infA) (scalarCfg mt false (· + eps) (· - eps) infB)
                self.smap.a.params self.module_b.params (absState self) Xs Ys), ()) := by
  letI : Inhabited β := ⟨0⟩
  rw [partial_fit_model KA KB infA infB eps mt self Xs Ys hxy hpos (fun _ => hinv), hlater]
  rfl

/-- **C06 for the host's first batch: `partial_fit` on a host that has not been trained (`labels_` does not exist, the
map is the empty dict of the constructor) is `fit` with one epoch** — whatever `module_a` and `module_b` hold from an
earlier life (both are emptied), for every `verbose` -/
theorem partial_fit_first_batch_eq_fit (KA : Kernel XA WtA β β) (KB : Kernel XB WtB β β) (infA infB eps : β) (mt : MT)
    (self : ImpARTMAP.Self WtA β WtB β) (Xs : List XA) (Ys : List XB) (hxy : Xs.length = Ys.length) (hpos : 0 < Xs.length)
    (hfirst : self.smap.hasLabels = false) (hmap : self.smap.map = []) (v : Bool) :
    letI : Inhabited β := ⟨0⟩
    Art.Gen.ARTMAP.partial_fit (scalarExt KA infA) (scalarExt KB infB) self Xs Ys mt eps =
      Art.Gen.ARTMAP.fit (scalarExt KA infA) (scalarExt KB infB) self Xs Ys 1 mt eps v := by
  letI : Inhabited β := ⟨0⟩
  have hS : absS self.smap = {} := by
    rw [absS, if_neg (hfirst ▸ Bool.false_ne_true), hmap]
  rw [partial_fit_model KA KB infA infB eps mt self Xs Ys hxy hpos
      (fun h => absurd (hfirst.symm.trans h) Bool.false_ne_true),
    fit_model KA KB infA infB eps mt self Xs Ys hxy v {}, hfirst, absState, hS]
  -- both sides are the model's `artmapPartialFit` from the empty state
  rfl

end Train

/-! ### The C09 theorems, for the generated code -/

section C09
variable {XA XB WtA WtB β : Type} [Field β] [LinearOrder β] [IsStrictOrderedRing β] [Inhabited WtA] [Inhabited WtB]

theorem absS_map {Wt P : Type} (s : SMapSelf Wt P) : (absS s).map = s.map := by
  unfold absS; split <;> rfl

/-- on an object whose map satisfies the invariant, the generated `map_a2b` sends the stored A-side labels to the
stored targets -/
theorem map_a2b_of_inv {Wt P : Type} (s : SMapSelf Wt P) (h : MapInv (viewS s)) :
    Art.Gen.ARTMAP.BaseARTMAP.map_a2b s (.arr s.a.labels) = some (.arr s.labelsB) :=
  (map_a2b_model s s.a.labels s.labelsB).mpr (mapInv_mapA2B h)

theorem viewS_conc {WtA' PA' WtB' PB' : Type} (pA : PA') (pB : PB') (hw : Bool) (b : ArtState WtB') (s : SMapState WtA')
    (L : List Nat) (h : s.labelsB = L) :
    viewS (conc pA pB hw ⟨b, { s with labelsB := L }⟩ : ImpARTMAP.Self WtA' PA' WtB' PB').smap = s :=
  smapState_with_labelsB s h

/-- **C09 `map_inv_fit_epochs` for the generated `ARTMAP.fit`, any `max_iter = k + 1`**: the call succeeds; afterwards
the map has exactly one, defined entry per A-side category and sends every stored A-side label to its target, the
targets of the A-side are the B-side labels, one per row. -/
theorem gen_fit_map_inv (KA : Kernel XA WtA β β) (KB : Kernel XB WtB β β) (infA infB eps : β) (mt : MT)
    (self : ImpARTMAP.Self WtA β WtB β) (Xs : List XA) (Ys : List XB) (hxy : Xs.length = Ys.length) (k : Nat) (v : Bool) :
    letI : Inhabited β := ⟨0⟩
    ∃ self', Art.Gen.ARTMAP.fit (scalarExt KA infA) (scalarExt KB infB) self Xs Ys (k + 1) mt eps v = some (self', ()) ∧
      MapInv (viewS self'.smap) ∧ self'.smap.labelsB = self'.module_b.labels ∧ self'.module_b.labels.length = Ys.length := by
  letI : Inhabited β := ⟨0⟩
  rw [fit_spec KA KB infA infB eps mt self Xs Ys hxy k v]
  refine ⟨_, rfl, ?_, rfl, fitEpochs_labels_length KB _ _ _ (k + 1) Ys⟩
  rw [viewS_conc _ _ _ _ _ _ ((smapFitEpochs_labelsB ..).trans
    (List.map_snd_zip (Nat.le_of_eq ((fitEpochs_labels_length ..).trans hxy.symm))))]
  exact C09.map_inv_fit_epochs KA _ _ (k + 1) _

/-- **C09 `map_a2b_reproduces_targets` for the generated `ARTMAP.fit`**: mapping the A-side labels (`labels_a`) with the
generated `map_a2b` gives the B-side labels (`labels_b`), for any `max_iter`. -/
theorem gen_fit_map_a2b_labels (KA : Kernel XA WtA β β) (KB : Kernel XB WtB β β) (infA infB eps : β) (mt : MT)
    (self : ImpARTMAP.Self WtA β WtB β) (Xs : List XA) (Ys : List XB) (hxy : Xs.length = Ys.length) (k : Nat) (v : Bool) :
    letI : Inhabited β := ⟨0⟩
    ∃ self' la lb, Art.Gen.ARTMAP.fit (scalarExt KA infA) (scalarExt KB infB) self Xs Ys (k + 1) mt eps v = some (self', ()) ∧
      Art.Gen.ARTMAP.labels_a self' = some la ∧ Art.Gen.ARTMAP.labels_b self' = some lb ∧ lb.length = Ys.length ∧
      Art.Gen.ARTMAP.BaseARTMAP.map_a2b self'.smap (.arr la) = some (.arr lb) := by
  letI : Inhabited β := ⟨0⟩
  obtain ⟨self', hf, hI, hL, hlen⟩ := gen_fit_map_inv KA KB infA infB eps mt self Xs Ys hxy k v
  exact ⟨self', self'.smap.a.labels, self'.module_b.labels, hf, rfl, rfl, hlen, hL ▸ map_a2b_of_inv self'.smap hI⟩

/-- what `smap_partial_fit_spec` asks of an object whose map satisfies the invariant -/
theorem labels_length_of_inv {Wt P : Type} (s : SMapSelf Wt P) (hI : MapInv (absS s)) (hh : s.hasLabels = true) :
    s.a.labels.length = s.labelsB.length := by
  have := hI.agree.length_eq
  rwa [absS, if_pos hh] at this

/-- **C09 `map_inv_partial_fit` for the generated `ARTMAP.partial_fit`**: from any object whose map satisfies the
invariant the call succeeds, the invariant holds afterwards, and no entry of the map was overwritten (each A-side
category keeps one class for the whole history). -/
theorem gen_partial_fit_map_inv (KA : Kernel XA WtA β β) (KB : Kernel XB WtB β β) (infA infB eps : β) (mt : MT)
    (self : ImpARTMAP.Self WtA β WtB β) (Xs : List XA) (Ys : List XB) (hxy : Xs.length = Ys.length) (hpos : 0 < Xs.length)
    (hI : MapInv (absS self.smap)) :
    letI : Inhabited β := ⟨0⟩
    ∃ self', Art.Gen.ARTMAP.partial_fit (scalarExt KA infA) (scalarExt KB infB) self Xs Ys mt eps = some (self', ()) ∧
      MapInv (viewS self'.smap) ∧
      (∀ c y, mapGet self.smap.map c = some y → mapGet self'.smap.map c = some y) := by
  letI : Inhabited β := ⟨0⟩
  rw [partial_fit_model KA KB infA infB eps mt self Xs Ys hxy hpos (labels_length_of_inv self.smap hI)]
  -- the A-side of the model's call continues from `absS self.smap`, whether or not the B-side was emptied
  unfold artmapPartialFitHost
  generalize hst : (if (!self.smap.hasLabels) = true then { absState self with b := {} } else absState self) = st0
  have hS : st0.s = absS self.smap := by rw [← hst]; split <;> rfl
  refine ⟨_, rfl, ?_, fun c y hc => ?_⟩
  · show MapInv (smapPartialFit KA _ _ st0.s _)
    rw [hS]
    exact (C09.map_inv_partial_fit KA _ _ _ _ hI).1
  · show mapGet (smapPartialFit KA _ _ st0.s _).map c = some y
    rw [hS]
    exact (C09.map_inv_partial_fit KA _ _ _ _ hI).2 c y (by rw [absS_map]; exact hc)

/-- … and `map_a2b(labels_a) = labels_b` is kept by `partial_fit`: if the stored targets of the A-side were the B-side
labels before the call, they are afterwards, and the generated `map_a2b` sends the A-side labels to them. -/
theorem gen_partial_fit_map_a2b_labels (KA : Kernel XA WtA β β) (KB : Kernel XB WtB β β) (infA infB eps : β) (mt : MT)
    (self : ImpARTMAP.Self WtA β WtB β) (Xs : List XA) (Ys : List XB) (hxy : Xs.length = Ys.length) (hpos : 0 < Xs.length)
    (hI : MapInv (absS self.smap)) (hA : self.smap.hasLabels = true) (hB : self.module_b.hasW = true)
    (hL : self.smap.labelsB = self.module_b.labels) :
    letI : Inhabited β := ⟨0⟩
    ∃ self', Art.Gen.ARTMAP.partial_fit (scalarExt KA infA) (scalarExt KB infB) self Xs Ys mt eps = some (self', ()) ∧
      self'.smap.labelsB = self'.module_b.labels ∧
      self'.module_b.labels.length = self.module_b.labels.length + Ys.length ∧
      Art.Gen.ARTMAP.BaseARTMAP.map_a2b self'.smap (.arr self'.smap.a.labels) = some (.arr self'.module_b.labels) := by
  letI : Inhabited β := ⟨0⟩
  obtain ⟨self', hf, hI', -⟩ := gen_partial_fit_map_inv KA KB infA infB eps mt self Xs Ys hxy hpos hI
  have hm := partial_fit_later_batch KA KB infA infB eps mt self Xs Ys hxy hpos hA (labels_length_of_inv _ hI hA)
  have hself := (Prod.mk.inj (Option.some.inj (hm.symm.trans hf))).1
  have hb0 : (absB self.module_b).labels = self.module_b.labels := by rw [absB, if_pos hB]
  have hLB : self'.smap.labelsB = self'.module_b.labels := by
    rw [← hself]
    exact artmapPartialFit_labelsB KA KB _ _ _ _ (absState self) Xs Ys
      (by rw [absState, absS, if_pos hA, hb0]; exact hL) hxy
  refine ⟨self', hf, hLB, ?_, hLB ▸ map_a2b_of_inv _ hI'⟩
  rw [← hself]
  exact (partialFit_labels_length ..).trans (by rw [absState, hb0])

/-- **C09 `predict_eq_map_of_predict_a` for the generated code**: `predict(X)` is `map_a2b` of the A-side prediction
(`predict_ab(X)[0]`), and `predict_ab(X)[1]` is `predict(X)`; neither call changes the estimator. -/
theorem gen_predict_eq_map_of_predict_a (K : Kernel XA WtA β β) (inf : β) {WtB' PB' : Type}
    (self : ImpARTMAP.Self WtA β WtB' PB') (Xs : List XA) (hinv : MapInv (viewS self.smap)) (hne : self.smap.a.W ≠ []) :
    letI : Inhabited β := ⟨0⟩
    ∃ ya yb, Art.Gen.ARTMAP.predict_ab (scalarExt K inf) self Xs = some (self, (ya, yb)) ∧
      Art.Gen.ARTMAP.predict (scalarExt K inf) self Xs = some (self, yb) ∧
      Art.Gen.ARTMAP.BaseARTMAP.map_a2b self.smap (.arr ya) = some (.arr yb) := by
  letI : Inhabited β := ⟨0⟩
  refine ⟨_, _, predict_ab_spec K inf self Xs, predict_spec K inf self Xs, ?_⟩
  rw [map_a2b_model, mapA2B, List.map_map, List.map_map]
  exact List.map_congr_left fun x _ => (pred_spec K self.smap hinv hne x).2

end C09

/-! ### Non-vacuity: the generated code run on a Fuzzy ART pair over ℚ

A-side vigilance 1/4, B-side 9/10, MT+, epsilon 1/1000.  The third row is close to the first but has another target:
category 0 is vetoed, match tracking raises the vigilance, a third category is committed.  The second batch repeats
the first row with the *other* target: a fourth category (contradictory labels never overwrite the map).
The same calls on the real `ARTMAP(FuzzyART, FuzzyART)` give the same map, labels and predictions. -/

private def exEA : Ext (List ℚ) (List ℚ) ℚ ℚ ℚ := scalarExt (fuzzyKernel (1/100 : ℚ) 1 2) 1000
private def exEB : Ext (List ℚ) (List ℚ) ℚ ℚ ℚ := scalarExt (fuzzyKernel (1/100 : ℚ) 1 1) 1000
private def ex0 : ImpARTMAP.Self (List ℚ) ℚ (List ℚ) ℚ :=
  { module_b := ⟨[], [], 0, 9/10, [], false⟩, smap := ⟨⟨[], [], 0, 1/4, [], false⟩, [], [], false⟩ }
private def exX : List (List ℚ) := [[1/4, 1/4, 3/4, 3/4], [3/4, 3/4, 1/4, 1/4], [1/4, 1/2, 3/4, 1/2]]
private def exY : List (List ℚ) := [[0, 1], [1, 0], [1, 0]]
private def exOB : ModuleOps (List ℚ) ℚ (List ℚ) := ⟨fun b => some b.W⟩
/-- the object after `fit(exX, exY)` and after the further `partial_fit([exX[0]], [[1, 0]])` -/
private def ex2 : ImpARTMAP.Self (List ℚ) ℚ (List ℚ) ℚ :=
  { module_b := ⟨[[0, 1], [1, 0]], [1, 3], 4, 9/10, [0, 1, 1, 1], true⟩
    smap := ⟨⟨[[1/4, 1/4, 3/4, 3/4], [3/4, 3/4, 1/4, 1/4], [1/4, 1/2, 3/4, 1/2], [1/4, 1/4, 3/4, 3/4]], [1, 1, 1, 1], 4, 1/4,
              [0, 1, 2, 3], true⟩, [some 0, some 1, some 1, some 1], [0, 1, 1, 1], true⟩ }

example :
    letI : Inhabited ℚ := ⟨0⟩
    (Art.Gen.ARTMAP.fit exEA exEB ex0 exX exY 1 MT.plus (1/1000) false).map
        (fun r => (r.1.smap.map, r.1.smap.a.labels, r.1.module_b.labels, r.1.smap.labelsB)) =
      some ([some 0, some 1, some 1], [0, 1, 2], [0, 1, 1], [0, 1, 1]) := by
  decide +kernel

example :
    letI : Inhabited ℚ := ⟨0⟩
    ((Art.Gen.ARTMAP.fit exEA exEB ex0 exX exY 1 MT.plus (1/1000) false).bind
        (fun r => Art.Gen.ARTMAP.partial_fit exEA exEB r.1 [[1/4, 1/4, 3/4, 3/4]] [[1, 0]] MT.plus (1/1000))).map
        (fun r => (r.1.smap.map, r.1.smap.a.labels, r.1.module_b.labels, r.1.smap.labelsB)) =
      some (ex2.smap.map, ex2.smap.a.labels, ex2.module_b.labels, ex2.smap.labelsB) := by
  decide +kernel

/-- F48: a host that has never been trained, constructed around the USED B-side module of `ex2` (two categories, four
labels, counters [1, 3]) and a used A-side module -/
private def ex0used : ImpARTMAP.Self (List ℚ) ℚ (List ℚ) ℚ :=
  { module_b := ex2.module_b, smap := ⟨ex2.smap.a, [], [], false⟩ }

/-- its first `partial_fit` gives what `fit` gives on a fresh pair (first example): three B-labels, not seven; the B-side
counters count this batch only -/
example :
    letI : Inhabited ℚ := ⟨0⟩
    (Art.Gen.ARTMAP.partial_fit exEA exEB ex0used exX exY MT.plus (1/1000)).map
        (fun r => (r.1.smap.map, r.1.smap.a.labels, r.1.module_b.labels, r.1.smap.labelsB, r.1.module_b.cnt, r.1.module_b.n)) =
      some ([some 0, some 1, some 1], [0, 1, 2], [0, 1, 1], [0, 1, 1], [1, 2], 3) := by
  decide +kernel

/-- the hypotheses of `partial_fit_first_batch_indep` are satisfiable: the used B-side module against the untrained one -/
example :
    letI : Inhabited ℚ := ⟨0⟩
    Art.Gen.ARTMAP.partial_fit exEA exEB ex0used exX exY MT.plus (1/1000) =
      Art.Gen.ARTMAP.partial_fit exEA exEB { ex0used with module_b := ex0.module_b } exX exY MT.plus (1/1000) :=
  letI : Inhabited ℚ := ⟨0⟩
  partial_fit_first_batch_indep exEA exEB ex0used { ex0used with module_b := ex0.module_b } exX exY MT.plus (1/1000) rfl rfl rfl

example : letI : Inhabited ℚ := ⟨0⟩
    (Art.Gen.ARTMAP.predict exEA ex2 exX).map (·.2) = some [0, 1, 1] := by decide +kernel
example : letI : Inhabited ℚ := ⟨0⟩
    (Art.Gen.ARTMAP.predict_ab exEA ex2 exX).map (·.2) = some ([0, 1, 2], [0, 1, 1]) := by decide +kernel
example : letI : Inhabited ℚ := ⟨0⟩
    (Art.Gen.ARTMAP.predict_regression exEA exOB ex2 exX).map (·.2) = some [[0, 1], [1, 0], [1, 0]] := by decide +kernel
example : Art.Gen.ARTMAP.BaseARTMAP.map_a2b ex2.smap (.arr [2, 0, 1, 0]) = some (.arr [1, 0, 1, 0]) := by decide +kernel
example : Art.Gen.ARTMAP.BaseARTMAP.map_a2b ex2.smap (.arr [2, 0, 7, 0]) = none := by decide +kernel
example : Art.Gen.ARTMAP.BaseARTMAP.map_a2b ex2.smap (.int 1) = some (.int 1) := by decide +kernel
example : Art.Gen.ARTMAP.SimpleARTMAP.n_clusters_b ex2.smap = some 2 := by decide +kernel
example : Art.Gen.ARTMAP.labels_ab ex2 = some ([0, 1, 2, 3], [0, 1, 1, 1]) := by decide +kernel
/-- the hypotheses of the transport theorems are satisfiable: this trained object satisfies the map invariant -/
example : MapInv (viewS ex2.smap) where
  map_len := by decide
  total := by
    intro c hc
    have : c < 4 := hc
    have : c = 0 ∨ c = 1 ∨ c = 2 ∨ c = 3 := by omega
    rcases this with rfl | rfl | rfl | rfl <;> exact ⟨_, rfl⟩
  agree := .cons (by decide) (.cons (by decide) (.cons (by decide) (.cons (by decide) .nil)))

end Art.GenSpec.ARTMAP
