/-
ArtGenProofs.DeepSpec — DeepARTMAP (`artlib/hierarchical/DeepARTMAP.py`) and SMART (`artlib/hierarchical/SMART.py`),
as translated from the Python source by `harness/artv/htrans.py` (ArtGen/Deep.lean), compute the definitions of
`ArtModel/Deep.lean` that the C12 property theorems are stated about — for any number of layers, all data, all labels,
all levels.  The layers (SimpleARTMAP / ARTMAP objects) are abstract (`LayerOps`); what is assumed of them is the
structure `ReadTie` (attributes and read-only methods are those of the SimpleARTMAP model state `st l`) and, for
training, `Tie` (constructors, `fit`, `partial_fit` are `smapFit` / `smapPartialFit` / `artmapFit` /
`artmapPartialFit` with the `Level` of the module the layer was built from; `max_iter = 1`).  `exTie` shows the
assumptions satisfiable and the section `Example` runs the generated code.  The generated `do` blocks are read
statement by statement: `bind_of_eq_some` (ArtProofs/Map.lean) consumes a statement whose value is known, and a
straight-line stretch of reads and stores on explicit lists evaluates by `rfl`.

  pyIndex_natCast … pyRepeat_singleton   the Python helpers of ImpDeep on natural arguments (pySliceFrom_neg: v[-n:] = lastN)
  npConcat1_cols / npConcat1_cols_some   np.concatenate(axis=1) of (n,1) columns: entry (i, l) = column l at i
  n_modules_spec / n_layers_spec         = len(modules) / len(layers)
  labels_deep_spec / labels_deep_rows / labels_deep_some
                                         labels_deep_ = the columns of labelsDeep, transposed; succeeds under DeepInv
  map_deep_spec                          map_deep = mapDeep for -n_layers ≤ level, fuel > n_layers
  predict_spec / predict_list_spec       predict = deepPredict with the last layer's kernel (a list of matrices: the last)
  validate_data_sup / validate_data_unsup   validate_data passes iff ValidBatch / when there are as many matrices as modules, all with as many rows as the first
  foldlM_chainOps, fit_loop / pfit_loop  the index loops over layers = the structural recursion chainOps
  fit_sup_spec / partial_fit_sup_spec    fit / partial_fit with labels = deepFitSup / deepPartialFitSup
  fit_unsup_spec / partial_fit_unsup_spec   … without labels = deepFitUnsup / deepPartialFitUnsup
  smart_fit_spec / smart_partial_fit_spec   SMART.fit / partial_fit = smartFit / smartPartialFit
  gen_deep_nested / gen_map_deep_consistent / gen_predict_nested / gen_fit_sup_inv   C12 transported to the generated code
Hypotheses that restrict the domain: at least one module (the constructor asserts it; with none the code raises
where the model returns no layers); `map_deep` for `-n_layers ≤ level` (below that Python's negative indexing may
still find a layer where the model returns `none`); `partial_fit` on existing layers needs layers built from these
modules in the same mode.
-/
import ArtGen.Deep
import ArtProps.C12

set_option linter.unusedSectionVars false

namespace Art.GenSpec.Deep
open Art Art.ImpDeep Art.Gen.DeepARTMAP

/-! ### the Python helpers of ImpDeep -/
section Helpers
variable {β γ : Type}

/-- a non-negative Python index is `l[n]?` -/
theorem pyIndex_natCast (l : List β) (n : Nat) : pyIndex l (n : Int) = l[n]? := by
  rw [pyIndex, if_pos (Int.natCast_nonneg n), Int.toNat_natCast]

/-- `xs[-1]` is the last element -/
theorem pyIndex_neg_one (l : List β) : pyIndex l (-1) = l.getLast? := by
  rcases l with _ | ⟨a, t⟩
  · rfl
  · rw [pyIndex, if_neg (by decide), List.length_cons, Int.natCast_succ, Int.add_comm, Int.add_neg_cancel_right,
      if_pos (Int.natCast_nonneg _), Int.toNat_natCast, List.getLast?_eq_getElem?]
    rfl

theorem pySet_natCast (l : List β) (n : Nat) (v : β) (h : n < l.length) :
    pySet l (n : Int) v = some (l.set n v) := by
  rw [pySet, if_pos (Int.natCast_nonneg n), Int.toNat_natCast, if_pos h]

theorem pyRange_self (a : Int) : pyRange a a = [] := by
  rw [pyRange, Int.sub_self]; rfl

theorem pyRange_cons (a b : Int) (h : a < b) : pyRange a b = a :: pyRange (a + 1) b := by
  obtain ⟨k, hk⟩ := Int.eq_succ_of_zero_lt (Int.sub_pos.mpr h)
  rw [pyRange, pyRange, ← Int.sub_sub, hk, Int.add_sub_cancel, ← Int.natCast_succ, Int.toNat_natCast,
    Int.toNat_natCast, List.range_succ_eq_map, List.map_cons, List.map_map]
  exact congrArg₂ _ (Int.add_zero a) (List.map_congr_left fun k _ => by
    rw [Function.comp, Int.natCast_succ, Int.add_assoc, Int.add_comm 1])

theorem pyRange_natCast (m n : Nat) : pyRange (m : Int) ((m + n : Nat) : Int) = (List.range' m n).map (↑) := by
  induction n generalizing m with
  | zero => exact pyRange_self _
  | succ n ih =>
    rw [pyRange_cons _ _ (Int.ofNat_lt.mpr (Nat.lt_add_of_pos_right (Nat.succ_pos n))), List.range'_succ,
      List.map_cons, ← ih (m + 1), Nat.add_right_comm, Nat.add_assoc m n 1]
    rfl

/-- `v[-n:]` for a natural `n` is the model's `lastN` -/
theorem pySliceFrom_neg (l : List β) (n : Nat) : pySliceFrom l (-(n : Int)) = lastN n l := by
  rcases Nat.eq_zero_or_pos n with rfl | hn
  · rfl
  · rw [pySliceFrom, lastN, if_neg (Int.not_le.mpr (Int.neg_neg_of_pos (Int.natCast_pos.mpr hn))),
      if_neg (Nat.ne_of_gt hn), Int.add_comm, ← Int.sub_eq_add_neg, Int.toNat_sub]

/-- `xs[:-1]` drops the last element -/
theorem pySliceTo_neg_one (l : List β) : pySliceTo l (-1) = l.dropLast := by
  rw [pySliceTo, if_neg (by decide), List.dropLast_eq_take, Int.add_comm, ← Int.sub_eq_add_neg]
  exact congrArg (l.take ·) (Int.toNat_sub l.length 1)

/-- `[x] * n` -/
theorem pyRepeat_singleton (x : β) (n : Nat) : pyRepeat [x] (n : Int) = List.replicate n x := by
  rw [pyRepeat, Int.toNat_natCast]
  induction n with
  | zero => rfl
  | succ n ih => rw [List.replicate_succ, List.flatten_cons, ih]; rfl

theorem zipSame_eq_some_iff {δ : Type} (f : β → γ → δ) (as : List β) (bs : List γ) (cs : List δ) :
    zipSame f as bs = some cs ↔ as.length = bs.length ∧ cs = List.zipWith f as bs := by
  induction as generalizing bs cs with
  | nil => cases bs <;> simp [zipSame, eq_comm]
  | cons a as ih =>
    cases bs with
    | nil => simp [zipSame]
    | cons b bs =>
      rw [zipSame, Option.map_eq_some_iff]
      simp only [ih, List.length_cons, Nat.add_right_cancel_iff, List.zipWith_cons_cons]
      constructor
      · rintro ⟨cs', ⟨hl, rfl⟩, rfl⟩; exact ⟨hl, rfl⟩
      · rintro ⟨hl, rfl⟩; exact ⟨_, ⟨hl, rfl⟩, rfl⟩

theorem npConcat1_cons_cons (A B : List (List β)) (rest : List (List (List β))) :
    npConcat1 (A :: B :: rest) = (npConcat1 (B :: rest)).bind (zipSame (· ++ ·) A) := by
  rw [npConcat1]
  · cases npConcat1 (B :: rest) <;> rfl
  · exact nofun

/-- **`np.concatenate(…, axis=1)` of column vectors**: when the call succeeds, entry `l` of row `i` is entry `i` of
column `l` (and all columns have as many entries as there are rows). -/
theorem npConcat1_cols (cols : List (List β)) (rows : List (List β))
    (h : npConcat1 (cols.map npCol) = some rows) (i : Nat) (r : List β) (hr : rows[i]? = some r) (l : Nat) :
    r[l]? = (cols[l]?).bind (·[i]?) := by
  induction cols generalizing rows r l with
  | nil => cases h
  | cons c cs ih =>
    obtain ⟨x, b, hx, hb, rfl⟩ : ∃ x b, c[i]? = some x ∧ (∀ l, b[l]? = (cs[l]?).bind (·[i]?)) ∧ r = x :: b := by
      rcases cs with _ | ⟨c', cs'⟩
      · cases h
        obtain ⟨x, hx, rfl⟩ := List.getElem?_map.symm.trans hr |> Option.map_eq_some_iff.mp
        exact ⟨x, [], hx, fun _ => by rw [List.getElem?_nil, List.getElem?_nil]; rfl, rfl⟩
      · rw [List.map_cons, List.map_cons, npConcat1_cons_cons] at h
        obtain ⟨B, hB, h⟩ := Option.bind_eq_some_iff.mp h
        obtain ⟨-, rfl⟩ := (zipSame_eq_some_iff _ _ _ _).mp h
        obtain ⟨a, b, ha, hb, rfl⟩ := List.getElem?_zipWith_eq_some.mp hr
        obtain ⟨x, hx, rfl⟩ := List.getElem?_map.symm.trans ha |> Option.map_eq_some_iff.mp
        exact ⟨x, b, hx, ih B hB b hb, rfl⟩
    rcases l with _ | l
    · exact hx.symm
    · exact hb l

/-- columns of equal length can be concatenated -/
theorem npConcat1_cols_some (cols : List (List β)) (n : Nat) (hne : cols ≠ []) (hl : ∀ c ∈ cols, c.length = n) :
    ∃ rows, npConcat1 (cols.map npCol) = some rows ∧ rows.length = n := by
  induction cols with
  | nil => exact absurd rfl hne
  | cons c cs ih =>
    obtain ⟨hc, hl'⟩ := List.forall_mem_cons.mp hl
    have hcl : (npCol c).length = n := (List.length_map _).trans hc
    rcases cs with _ | ⟨c', cs'⟩
    · exact ⟨npCol c, rfl, hcl⟩
    · obtain ⟨B, hB, hBl⟩ := ih (List.cons_ne_nil _ _) hl'
      refine ⟨List.zipWith (· ++ ·) (npCol c) B, ?_, by rw [List.length_zipWith, hcl, hBl, Nat.min_self]⟩
      rw [List.map_cons, List.map_cons, npConcat1_cons_cons, ← List.map_cons, hB]
      exact (zipSame_eq_some_iff _ _ _ _).mpr ⟨hcl.trans hBl.symm, rfl⟩

theorem getElem?_map_of_eq (f : β → γ) {l : List β} {i : Nat} {a : β} (h : l[i]? = some a) :
    (l.map f)[i]? = some (f a) := by
  rw [List.getElem?_map, h]; rfl

theorem getLast?_map_of_eq (f : β → γ) {l : List β} {a : β} (h : l.getLast? = some a) :
    (l.map f).getLast? = some (f a) := by
  rw [List.getLast?_map, h]; rfl

theorem getElem?_append_cons {pre : List β} {n : Nat} (h : pre.length = n) (x : β) (t : List β) :
    (pre ++ x :: t)[n]? = some x := by
  rw [← h, List.getElem?_append_right (Nat.le_refl _), Nat.sub_self]; rfl

theorem set_append_cons {pre : List β} {n : Nat} (h : pre.length = n) (x v : β) (t : List β) :
    (pre ++ x :: t).set n v = pre ++ v :: t := by
  rw [← h, List.set_append_right _ _ (Nat.le_refl _), Nat.sub_self]; rfl

theorem drop_succ_of_drop (l : List β) (m : Nat) (x : β) (xs : List β) (h : l.drop m = x :: xs) :
    l[m]? = some x ∧ l.drop (m + 1) = xs := by
  have hx : (l.drop m)[0]? = some x := by rw [h]; rfl
  have hxs : (l.drop m).drop 1 = xs := by rw [h]; rfl
  rw [List.getElem?_drop] at hx
  rw [List.drop_drop] at hxs
  exact ⟨hx, hxs⟩

end Helpers

/-! ### reading a hierarchy: `n_modules`, `n_layers`, `labels_deep_`, `map_deep`, `predict` -/
section Read
variable {M L R ε Wt α μ θ : Type} [LinearOrder α]

/-- what ties the attributes and read-only methods of an abstract layer to the SimpleARTMAP model:
`st` reads the model state off the layer object, `K` the kernel of its A-side module -/
structure ReadTie (ops : LayerOps M L R ε) (K : L → Kernel R Wt α μ) (st : L → SMapState Wt) : Prop where
  labels_ : ∀ l, ops.labels_ l = (st l).labelsB
  labels_a : ∀ l, ops.labels_a l = (st l).a.labels
  map_a2b : ∀ l ya, ops.map_a2b l ya = mapA2B? (st l).map ya
  predict_ab : ∀ l xs, ops.predict_ab l xs =
    (xs.mapM (smapStepPred (K l) (st l))).map (fun ab => (ab.map (·.1), ab.map (·.2)))

variable {ops : LayerOps M L R ε} {K : L → Kernel R Wt α μ} {st : L → SMapState Wt}

theorem n_modules_spec (modules : List M) : n_modules modules = some (modules.length : Int) := rfl
theorem n_layers_spec (layers : List L) : n_layers layers = some (layers.length : Int) := rfl

/-- **`labels_deep_`** = the columns of the model's `labelsDeep`, reshaped to `(n, 1)` and concatenated along axis 1
(no layers: `self.layers[-1]` raises) -/
theorem labels_deep_spec (T : ReadTie ops K st) (layers : List L) :
    labels_deep_ ops layers =
      if layers = [] then none else npConcat1 ((labelsDeep (layers.map st)).map npCol) := by
  cases h : layers.getLast? with
  | none => rw [List.getLast?_eq_none_iff.mp h]; rfl
  | some last =>
    have hne : layers ≠ [] := fun e => by rw [e] at h; cases h
    rw [if_neg hne, labelsDeep_eq _ (st last) (getLast?_map_of_eq st h), List.map_append, List.map_map,
      List.map_map]
    refine (bind_of_eq_some _ (mapM_some _ _)).trans
      ((bind_of_eq_some _ ((pyIndex_neg_one _).trans h)).trans ?_)
    rw [T.labels_a, funext T.labels_]
    rfl

/-- **rows of `labels_deep_`**: when the call succeeds, entry `l` of row `i` is entry `i` of column `l` of the
model's `labelsDeep` -/
theorem labels_deep_rows (T : ReadTie ops K st) (layers : List L) (rows : List (List Nat))
    (h : labels_deep_ ops layers = some rows) (i : Nat) (r : List Nat) (hr : rows[i]? = some r) (l : Nat) :
    r[l]? = ((labelsDeep (layers.map st))[l]?).bind (·[i]?) := by
  rw [labels_deep_spec T] at h
  split at h
  · cases h
  · exact npConcat1_cols _ rows h i r hr l

/-- in a hierarchy in good standing all columns of `labelsDeep` have the same length -/
theorem labelsDeep_lengths {ss : List (SMapState Wt)} (h : DeepInv ss) (top : SMapState Wt)
    (htop : ss[0]? = some top) : ∀ c ∈ labelsDeep ss, c.length = top.labelsB.length := by
  suffices H : ∀ (l : Nat) (c : List Nat), (labelsDeep ss)[l]? = some c → c.length = top.labelsB.length by
    intro c hc
    obtain ⟨l, hl⟩ := List.getElem?_of_mem hc
    exact H l c hl
  intro l
  induction l with
  | zero =>
    intro c hc
    cases (labelsDeep_getElem?_labelsB ss 0 top htop).symm.trans hc
    rfl
  | succ l ih =>
    intro c hc
    have hcc := List.getElem?_eq_getElem (Nat.lt_of_succ_lt (List.getElem?_eq_some_iff.mp hc).1)
    rw [(Art.C12.deep_nested h l _ c hcc hc).1]
    exact ih _ hcc

/-- in a hierarchy in good standing `labels_deep_` succeeds and has one row per sample -/
theorem labels_deep_some (T : ReadTie ops K st) (layers : List L) (h : DeepInv (layers.map st))
    (top : L) (htop : layers[0]? = some top) :
    ∃ rows, labels_deep_ ops layers = some rows ∧ rows.length = (st top).labelsB.length := by
  have hne : layers ≠ [] := fun e => by rw [e] at htop; cases htop
  have htop' := getElem?_map_of_eq st htop
  rw [labels_deep_spec T, if_neg hne]
  refine npConcat1_cols_some _ _ (fun e => ?_) (labelsDeep_lengths h (st top) htop')
  have := labelsDeep_length (layers.map st) (fun e => hne (List.map_eq_nil_iff.mp e))
  rw [e] at this
  cases this

/-! #### `map_deep` -/

theorem mapDeepNat_out_of_range (ss : List (SMapState Wt)) (k : Nat) (hk : ss.length ≤ k) (ya : List Nat) :
    mapDeepNat ss k ya = none := by
  cases k <;> rw [mapDeepNat, List.getElem?_eq_none hk] <;> rfl

theorem map_deep_succ (layers : List L) (fuel k : Nat) (ya : List Nat) :
    map_deep ops layers (fuel + 1) (k : Int) ya =
      (layers[k]?).bind fun l => (ops.map_a2b l ya).bind fun yb =>
        if 0 < k then map_deep ops layers fuel ((k - 1 : Nat) : Int) yb else some yb := by
  rw [map_deep, ← pyIndex_natCast]
  rcases k with _ | k
  · rfl
  · have h1 : decide (((k + 1 : Nat) : Int) < 0) = false := decide_eq_false (Int.not_lt.mpr (Int.natCast_nonneg _))
    have h2 : decide (((k + 1 : Nat) : Int) > 0) = true := decide_eq_true (Int.natCast_pos.mpr (Nat.succ_pos k))
    have h3 : ((k + 1 : Nat) : Int) - 1 = (k : Int) := by rw [Int.natCast_succ, Int.add_sub_cancel]
    simp only [h1, h2, h3, Bool.false_eq_true, ↓reduceIte, pure_bind, Nat.succ_pos, Nat.add_sub_cancel]
    rfl

/-- a non-negative level: the recursion of the generated `map_deep` is the model's `mapDeepNat` -/
theorem map_deep_nat (T : ReadTie ops K st) (layers : List L) (k : Nat) :
    ∀ (fuel : Nat) (ya : List Nat), k < fuel →
      map_deep ops layers fuel (k : Int) ya = mapDeepNat (layers.map st) k ya := by
  induction k with
  | zero =>
    intro fuel ya hf
    obtain ⟨f, rfl⟩ := Nat.exists_eq_succ_of_ne_zero (Nat.ne_of_gt hf)
    rw [map_deep_succ, mapDeepNat, List.getElem?_map]
    cases layers[0]? with
    | none => rfl
    | some l => exact (congrArg (·.bind some) (T.map_a2b l ya)).trans (Option.bind_fun_some _)
  | succ k ih =>
    intro fuel ya hf
    obtain ⟨f, rfl⟩ := Nat.exists_eq_succ_of_ne_zero (Nat.ne_of_gt (Nat.zero_lt_of_lt hf))
    rw [map_deep_succ, mapDeepNat, List.getElem?_map]
    cases layers[k + 1]? with
    | none => rfl
    | some l =>
      rw [Option.bind_some, Option.map_some, Option.bind_some, T.map_a2b]
      exact congrArg _ (funext fun yb => (if_pos (Nat.succ_pos k)).trans (ih f yb (Nat.lt_of_succ_lt_succ hf)))

theorem map_deep_out_of_range (layers : List L) (k : Nat) (hk : layers.length ≤ k) (fuel : Nat) (ya : List Nat) :
    map_deep ops layers fuel (k : Int) ya = none := by
  cases fuel with
  | zero => rfl
  | succ f => rw [map_deep_succ, List.getElem?_eq_none hk]; rfl

/-- a negative level is first shifted by `len(self.layers)` -/
theorem map_deep_neg (layers : List L) (level : Int) (hneg : level < 0) (fuel : Nat) (ya : List Nat)
    (h0 : 0 ≤ level + (layers.length : Int)) :
    map_deep ops layers fuel level ya = map_deep ops layers fuel (level + (layers.length : Int)) ya := by
  cases fuel with
  | zero => rfl
  | succ f =>
    rw [map_deep, map_deep]
    simp only [decide_eq_true hneg, decide_eq_false (Int.not_lt.mpr h0), Bool.false_eq_true, ↓reduceIte]

/-- **`map_deep`** = the model's `mapDeep`, for every level in the documented domain `-n_layers ≤ level`
(too large a level raises in both) and every fuel above the number of layers -/
theorem map_deep_spec (T : ReadTie ops K st) (layers : List L) (fuel : Nat) (level : Int) (ya : List Nat)
    (hlo : -(layers.length : Int) ≤ level) (hf : layers.length < fuel) :
    map_deep ops layers fuel level ya = mapDeep (layers.map st) level ya := by
  have hk := (Art.C12.normLevel_cast layers.length level hlo).symm
  generalize Art.C12.normLevel layers.length level = k at hk
  rw [mapDeep_of_nat (layers.map st) level k (by rwa [List.length_map]) ya]
  have core : map_deep ops layers fuel (k : Int) ya = mapDeepNat (layers.map st) k ya := by
    by_cases hkl : k < layers.length
    · exact map_deep_nat T layers k fuel ya (Nat.lt_trans hkl hf)
    · rw [map_deep_out_of_range layers k (Nat.le_of_not_lt hkl),
        mapDeepNat_out_of_range _ k (by rw [List.length_map]; exact Nat.le_of_not_lt hkl)]
  split at hk
  · rw [map_deep_neg layers level ‹_› fuel ya (by omega), hk]; exact core
  · rw [hk]; exact core

/-! #### `predict` -/

/-- the loop `for layer in layers[:-1][::-1]: pred.append(layer.map_a2b(pred[-1]))` is the model's `mapUp` -/
theorem predict_loop (T : ReadTie ops K st) (ls : List L) (p0 : List (List Nat)) (y : List Nat) :
    ls.reverse.foldlM (fun pred layer =>
        (pyIndex pred (-1)).bind fun a => (ops.map_a2b layer a).bind fun b => some (pred ++ [b])) (p0 ++ [y])
      = (mapUp (ls.map st) y).map (fun cols => p0 ++ cols.reverse) := by
  rw [List.foldlM_reverse]
  induction ls with
  | nil => rfl
  | cons l ls ih =>
    rw [List.foldrM_cons, ih, List.map_cons, mapUp]
    cases hm : mapUp (ls.map st) y with
    | none => rfl
    | some cols =>
      obtain ⟨hd, tl, rfl⟩ := List.exists_cons_of_ne_nil (mapUp_ne_nil _ _ _ hm)
      have hlast : pyIndex (p0 ++ (hd :: tl).reverse) (-1) = some hd := by
        rw [pyIndex_neg_one, List.reverse_cons, ← List.append_assoc, List.getLast?_concat]
      simp only [Option.map_some, Option.bind_some, List.head?_cons, Option.bind_eq_bind, hlast, T.map_a2b]
      cases mapA2B? (st l).map hd with
      | none => rfl
      | some q =>
        exact congrArg some (by simp only [List.reverse_cons, List.append_assoc])

/-- **`predict(X)`** on one data matrix = the model's `deepPredict` with the kernel of the last layer's module
(no layers: `self.layers[-1]` raises) -/
theorem predict_spec (T : ReadTie ops K st) (layers : List L) (xs : List R) :
    Gen.DeepARTMAP.predict ops layers (Sum.inl xs) =
      (layers.getLast?).bind (fun last => deepPredict (K last) (layers.map st) xs) := by
  refine (bind_of_eq_some _ rfl).trans ?_
  cases h : layers.getLast? with
  | none => exact bind_of_eq_none _ ((pyIndex_neg_one _).trans h)
  | some last =>
    have hl := getLast?_map_of_eq st h
    refine (bind_of_eq_some _ ((pyIndex_neg_one _).trans h)).trans ?_
    rw [Option.bind_some, deepPredict, hl, T.predict_ab, pySliceTo_neg_one]
    dsimp only
    cases xs.mapM (smapStepPred (K last) (st last)) with
    | none => rfl
    | some ab =>
      have hloop := predict_loop T layers.dropLast [ab.map (·.1)] (ab.map (·.2))
      rw [List.map_dropLast] at hloop
      rw [Option.bind_some]
      cases hm : mapUp (layers.map st).dropLast (ab.map (·.2)) with
      | none =>
        rw [hm] at hloop
        exact (bind_of_eq_some _ rfl).trans (bind_of_eq_none _ hloop)
      | some cols =>
        rw [hm] at hloop
        refine (bind_of_eq_some _ rfl).trans ((bind_of_eq_some _ hloop).trans (congrArg some ?_))
        rw [List.reverse_append, List.reverse_reverse]; rfl

/-- **`predict(X)`** on a list of data matrices uses the last one -/
theorem predict_list_spec (T : ReadTie ops K st) (layers : List L) (Xs : List (List R)) :
    Gen.DeepARTMAP.predict ops layers (Sum.inr Xs) = (Xs.getLast?).bind (fun xs => Gen.DeepARTMAP.predict ops layers (Sum.inl xs)) := by
  cases h : Xs.getLast? with
  | none => exact bind_of_eq_none _ (bind_of_eq_none _ ((pyIndex_neg_one _).trans h))
  | some xs => exact bind_of_eq_some _ (bind_of_eq_some _ ((pyIndex_neg_one _).trans h))

end Read

/-! ### training: the loops over layers, independent of the model -/
section Loops
variable {M L R ε : Type}

/-- the chain of layers as a structural recursion: layer `i` is trained by `f` on its data matrix and the labels
`la` reads off the trained layer `i - 1` -/
def chainOps (f : L → List R → List Nat → L) (la : L → List Nat) : List L → List (List R) → List Nat → List L
  | l :: ls, x :: xs, y => f l x y :: chainOps f la ls xs (la (f l x y))
  | _, _, _ => []

theorem chainOps_length (f : L → List R → List Nat → L) (la : L → List Nat) (ls : List L) (xs : List (List R))
    (y : List Nat) (h : ls.length ≤ xs.length) : (chainOps f la ls xs y).length = ls.length := by
  induction ls generalizing xs y with
  | nil => rfl
  | cons l ls ih =>
    rcases xs with _ | ⟨x, xs⟩
    · cases h
    · exact congrArg (· + 1) (ih xs _ (Nat.le_of_succ_le_succ h))

theorem mapM_pyIndex_range' (f : M → L) (l : List M) (n a : Nat) (h : a + n = l.length) :
    (List.range' a n).mapM (fun i : Nat => (pyIndex l (i : Int)).bind fun m => some (f m)) =
      some ((l.drop a).map f) := by
  induction n generalizing a with
  | zero => rw [List.drop_of_length_le (l := l) (i := a) (Nat.le_of_eq h.symm)]; rfl
  | succ n ih =>
    have ha : a < l.length := by omega
    rw [List.range'_succ, List.mapM_cons, pyIndex_natCast, List.getElem?_eq_getElem ha, ih (a + 1) (by omega),
      List.drop_eq_getElem_cons ha]
    rfl

/-- `[C(self.modules[i]) for i in range(a, self.n_modules)]` -/
theorem mapM_modules (f : M → L) (modules : List M) (a : Nat) (ha : a ≤ modules.length) :
    List.mapM (fun i => (pyIndex modules i).bind fun m => some (f m))
      (pyRange (a : Int) (modules.length : Int)) = some ((modules.drop a).map f) := by
  have hn := Nat.add_sub_cancel' ha
  rw [show (modules.length : Int) = ((a + (modules.length - a) : Nat) : Int) by rw [hn], pyRange_natCast,
    List.mapM_map]
  exact mapM_pyIndex_range' f modules _ a hn

/-- `σ` is the state of the loop (the layers, possibly with more): at index `i` the layers `ls` are held as
`view i ls`. -/
theorem foldlM_chainOps {σ : Type} (g : L → List R → List Nat → L) (la : L → List Nat) (Xall : List (List R))
    (k : Nat) (step : σ → Nat → Option σ) (view : Nat → List L → σ)
    (hstep : ∀ (pre : List L) (p l : L) (ls : List L) (x : List R), Xall[pre.length + 1 + k]? = some x →
      step (view (pre.length + 1) (pre ++ p :: l :: ls)) (pre.length + 1) =
        some (view (pre.length + 1 + 1) (pre ++ p :: g l x (la p) :: ls)))
    (ls pre : List L) (p : L) (xs : List (List R)) (hlen : ls.length ≤ xs.length)
    (hdrop : Xall.drop (pre.length + 1 + k) = xs) :
    List.foldlM step (view (pre.length + 1) (pre ++ p :: ls)) (List.range' (pre.length + 1) ls.length) =
      some (view (pre.length + 1 + ls.length) (pre ++ p :: chainOps g la ls xs (la p))) := by
  induction ls generalizing pre p xs with
  | nil => rfl
  | cons l ls ih =>
    rcases xs with _ | ⟨x, xs⟩
    · cases hlen
    obtain ⟨hx, hdrop'⟩ := drop_succ_of_drop _ _ _ _ hdrop
    have hpre : (pre ++ [p]).length = pre.length + 1 := List.length_append
    have := ih (pre ++ [p]) (g l x (la p)) xs (Nat.le_of_succ_le_succ hlen)
      (by rw [hpre, ← hdrop', Nat.add_right_comm _ k 1])
    rw [hpre, List.append_assoc, List.append_assoc] at this
    rw [List.length_cons, List.range'_succ, List.foldlM_cons, hstep pre p l ls x hx, ← Nat.add_assoc,
      Nat.add_right_comm _ ls.length 1]
    exact this

theorem pyIndex_layers (pre : List L) (p l : L) (ls : List L) :
    pyIndex (pre ++ p :: l :: ls) (((pre.length + 1 : Nat) : Int) - 1) = some p ∧
    pyIndex (pre ++ p :: l :: ls) ((pre.length + 1 : Nat) : Int) = some l ∧
    ∀ v, pySet (pre ++ p :: l :: ls) ((pre.length + 1 : Nat) : Int) v = some (pre ++ p :: v :: ls) := by
  have hpre : (pre ++ [p]).length = pre.length + 1 := List.length_append
  refine ⟨?_, ?_, fun v => ?_⟩
  · rw [Int.natCast_succ, Int.add_sub_cancel, pyIndex_natCast, getElem?_append_cons rfl]
  · rw [pyIndex_natCast, List.append_cons, getElem?_append_cons hpre]
  · rw [pySet_natCast _ _ _ (by rw [List.length_append, List.length_cons, List.length_cons]; omega),
      List.append_cons, set_append_cons hpre, List.append_assoc]
    rfl

/-- **the `fit` loop** `for art_i in range(1, n_layers): layers[art_i] = layers[art_i].fit(X[art_i + x_off],
layers[art_i - 1].labels_a, …)`, started after `pre ++ [p]` have been trained: it is the structural chain -/
theorem fit_loop (ops : LayerOps M L R ε) (mi : Int) (mt : String) (eps : ε) (Xall : List (List R)) (off : Int)
    (k : Nat) (hoff : off = (k : Int)) :
    ∀ (ls pre : List L) (p : L) (xs : List (List R)) (a b : Int),
      a = (pre.length : Int) + 1 → b = a + (ls.length : Int) → ls.length ≤ xs.length →
      Xall.drop (pre.length + 1 + k) = xs →
      List.foldlM (fun layers art_i =>
          (pyIndex layers (art_i - 1)).bind fun a =>
            (pyIndex layers art_i).bind fun a_1 =>
              (pyIndex Xall (art_i + off)).bind fun a_2 =>
                (pySet layers art_i (ops.fit a_1 a_2 (ops.labels_a a) mi mt eps)).bind fun a => some a)
        (pre ++ p :: ls) (pyRange a b)
      = some (pre ++ p :: chainOps (fun l x y => ops.fit l x y mi mt eps) ops.labels_a ls xs (ops.labels_a p)) := by
  intro ls pre p xs a b ha hb hlen hdrop
  obtain rfl : a = ((pre.length + 1 : Nat) : Int) := ha
  obtain rfl : b = ((pre.length + 1 + ls.length : Nat) : Int) := hb
  subst hoff
  rw [pyRange_natCast, List.foldlM_map]
  refine foldlM_chainOps (fun l x y => ops.fit l x y mi mt eps) ops.labels_a Xall k _ (fun _ ls => ls)
    (fun pre p l ls x hx => ?_) ls pre p xs hlen hdrop
  obtain ⟨h1, h2, h3⟩ := pyIndex_layers pre p l ls
  rw [h1, h2, ← Int.natCast_add, pyIndex_natCast, hx]
  dsimp only [Option.bind_some]
  rw [h3]
  rfl

/-- **the `partial_fit` loop** `for art_i in range(1, n_layers): layers[art_i] = layers[art_i].partial_fit(X[x_i],
layers[art_i - 1].labels_a[-n_samples:], …); x_i += 1` -/
theorem pfit_loop (ops : LayerOps M L R ε) (mt : String) (eps : ε) (Xall : List (List R)) (n : Int) (k : Nat) :
    ∀ (ls pre : List L) (p : L) (xs : List (List R)) (a b xi : Int),
      a = (pre.length : Int) + 1 → b = a + (ls.length : Int) → xi = a + (k : Int) → ls.length ≤ xs.length →
      Xall.drop (pre.length + 1 + k) = xs →
      ∃ xj, List.foldlM (fun (x : List L × Int) art_i =>
          (pyIndex x.1 (art_i - 1)).bind fun a =>
            (pyIndex x.1 art_i).bind fun a_1 =>
              (pyIndex Xall x.2).bind fun a_2 =>
                (pySet x.1 art_i (ops.partial_fit a_1 a_2 (pySliceFrom (ops.labels_a a) n) mt eps)).bind
                  fun a => some (a, x.2 + 1))
        (pre ++ p :: ls, xi) (pyRange a b)
      = some (pre ++ p :: chainOps (fun l x y => ops.partial_fit l x y mt eps)
            (fun l => pySliceFrom (ops.labels_a l) n) ls xs (pySliceFrom (ops.labels_a p) n), xj) := by
  intro ls pre p xs a b xi ha hb hxi hlen hdrop
  obtain rfl : a = ((pre.length + 1 : Nat) : Int) := ha
  obtain rfl : b = ((pre.length + 1 + ls.length : Nat) : Int) := hb
  obtain rfl : xi = ((pre.length + 1 + k : Nat) : Int) := hxi
  rw [pyRange_natCast, List.foldlM_map]
  -- the loop state carries the index `x_i` of the next data matrix, `k` ahead of the loop index
  refine ⟨_, foldlM_chainOps (fun l x y => ops.partial_fit l x y mt eps) (fun l => pySliceFrom (ops.labels_a l) n)
    Xall k _ (fun i ls => (ls, ((i + k : Nat) : Int))) (fun pre p l ls x hx => ?_) ls pre p xs hlen hdrop⟩
  obtain ⟨h1, h2, h3⟩ := pyIndex_layers pre p l ls
  dsimp only
  rw [h1, h2, pyIndex_natCast, hx]
  dsimp only [Option.bind_some]
  rw [h3]
  exact congrArg (fun j : Nat => some (_, (j : Int))) (Nat.add_right_comm _ k 1)
end Loops

/-! ### training: `validate_data`, `fit`, `partial_fit`, SMART -/
section Train
variable {M L R ε Wt α μ θ : Type} [LinearOrder α]

/-- what ties the abstract modules and layers to the SimpleARTMAP / ARTMAP model, for the `match_tracking` and
`epsilon` of a call and `max_iter = 1` (the model is single-epoch): `lev` reads the `Level` (kernel, search
configuration, vigilance) off a module, `lv` / `lvB` the levels of a layer's A-side / B-side module, `st` the
SimpleARTMAP state of a layer and `stB` the state of an ARTMAP layer's B-side module.  A newly constructed layer
behaves as the empty model state (`SimpleARTMAP.fit` and the first `partial_fit` empty the wrapped module; for an
ARTMAP this says that `modules[0]` is untrained when the first unsupervised `partial_fit` wraps it). -/
structure Tie (ops : LayerOps M L R ε) (lev : M → Level R Wt α μ θ) (mt : String) (eps : ε)
    (lv lvB : L → Level R Wt α μ θ) (st : L → SMapState Wt) (stB : L → ArtState Wt) : Prop where
  read : ReadTie ops (fun l => (lv l).K) st
  mk_simple_lv : ∀ m, lv (ops.mk_simple m) = lev m
  mk_simple_st : ∀ m, st (ops.mk_simple m) = {}
  mk_artmap_lv : ∀ a b, lv (ops.mk_artmap a b) = lev a ∧ lvB (ops.mk_artmap a b) = lev b
  mk_artmap_st : ∀ a b, st (ops.mk_artmap a b) = {} ∧ stB (ops.mk_artmap a b) = {}
  fit_lv : ∀ l X y, lv (ops.fit l X y 1 mt eps) = lv l
  fit_st : ∀ l X y, st (ops.fit l X y 1 mt eps) = smapFit (lv l).K (lv l).cfg (lv l).th (st l) (X.zip y)
  pfit_lv : ∀ l X y, lv (ops.partial_fit l X y mt eps) = lv l
  pfit_st : ∀ l X y, st (ops.partial_fit l X y mt eps) =
    smapPartialFit (lv l).K (lv l).cfg (lv l).th (st l) (X.zip y)
  fit_ab_lv : ∀ l X Y, lv (ops.fit_ab l X Y 1 mt eps) = lv l ∧ lvB (ops.fit_ab l X Y 1 mt eps) = lvB l
  fit_ab_st : ∀ l X Y, (⟨stB (ops.fit_ab l X Y 1 mt eps), st (ops.fit_ab l X Y 1 mt eps)⟩ : ArtmapState Wt Wt) =
    artmapFit (lv l).K (lvB l).K (lv l).cfg (lvB l).cfg (lv l).th (lvB l).th ⟨stB l, st l⟩ X Y
  pfit_ab_lv : ∀ l X Y, lv (ops.partial_fit_ab l X Y mt eps) = lv l ∧ lvB (ops.partial_fit_ab l X Y mt eps) = lvB l
  pfit_ab_st : ∀ l X Y,
    (⟨stB (ops.partial_fit_ab l X Y mt eps), st (ops.partial_fit_ab l X Y mt eps)⟩ : ArtmapState Wt Wt) =
    artmapPartialFit (lv l).K (lvB l).K (lv l).cfg (lvB l).cfg (lv l).th (lvB l).th ⟨stB l, st l⟩ X Y

variable {ops : LayerOps M L R ε} {lev : M → Level R Wt α μ θ} {mt : String} {eps : ε}
  {lv lvB : L → Level R Wt α μ θ} {st : L → SMapState Wt} {stB : L → ArtState Wt}

theorem pyAssert_pyAssert : ∀ c₁ c₂ : Bool,
    (pyAssert c₁ >>= fun _ => pyAssert c₂ >>= fun _ => (pure () : Option Unit)) = some () ↔ c₁ = true ∧ c₂ = true := by
  decide

/-- **`validate_data(X, y)`** with labels passes exactly when the model's `ValidBatch` holds -/
theorem validate_data_sup (modules : List M) (X : List (List R)) (y : List Nat) :
    validate_data modules X (some y) = some () ↔ ValidBatch modules.length X y := by
  refine (pyAssert_pyAssert (decide ((X.length : Int) = modules.length))
    (X.all fun x => decide ((x.length : Int) = y.length))).trans ?_
  rw [decide_eq_true_iff, Int.natCast_inj, List.all_eq_true]
  exact and_congr_right fun _ => forall₂_congr fun x _ => by rw [decide_eq_true_iff, Int.natCast_inj]

/-- **`validate_data(X, None)`** passes when the data matrices are as many as the modules and have equal row counts -/
theorem validate_data_unsup (modules : List M) (X0 : List R) (Xs : List (List R))
    (hl : (X0 :: Xs).length = modules.length) (hx : ∀ xs ∈ Xs, xs.length = X0.length) :
    validate_data modules (X0 :: Xs) none = some () := by
  refine (pyAssert_pyAssert (decide (((X0 :: Xs).length : Int) = modules.length))
    ((X0 :: Xs).all fun x => decide ((x.length : Int) = X0.length))).mpr
    ⟨decide_eq_true (congrArg _ hl), List.all_eq_true.mpr fun x hx' => decide_eq_true (congrArg _ ?_)⟩
  rcases List.mem_cons.mp hx' with rfl | hx'
  · rfl
  · exact hx x hx'

theorem chainOps_map_eq {γ : Type} (f : L → List R → List Nat → L) (la : L → List Nat) (proj : L → γ)
    (hf : ∀ l x y, proj (f l x y) = proj l) (ls : List L) (xs : List (List R)) (y : List Nat)
    (h : ls.length ≤ xs.length) : (chainOps f la ls xs y).map proj = ls.map proj := by
  induction ls generalizing xs y with
  | nil => rfl
  | cons l ls ih =>
    rcases xs with _ | ⟨x, xs⟩
    · cases h
    · rw [chainOps, List.map_cons, List.map_cons, hf, ih xs _ (Nat.le_of_succ_le_succ h)]

/-- the chain of abstract layers trained by `fit` is the model's `chainFit` -/
theorem chainOps_fit (T : Tie ops lev mt eps lv lvB st stB) (ls : List L) (xs : List (List R)) (y : List Nat) :
    (chainOps (fun l x y => ops.fit l x y 1 mt eps) ops.labels_a ls xs y).map st = chainFit (ls.map lv) xs y := by
  induction ls generalizing xs y with
  | nil => rfl
  | cons l ls ih =>
    rcases xs with _ | ⟨x, xs⟩
    · rfl
    · rw [chainOps, List.map_cons, List.map_cons, chainFit, ih, T.read.labels_a, T.fit_st]; rfl

/-- the chain of abstract layers trained by `partial_fit` is the model's `chainPartialFit` -/
theorem chainOps_pfit (T : Tie ops lev mt eps lv lvB st stB) (n : Nat) (ls : List L) (xs : List (List R))
    (y : List Nat) :
    (chainOps (fun l x y => ops.partial_fit l x y mt eps) (fun l => pySliceFrom (ops.labels_a l) (-(n : Int)))
        ls xs y).map st = chainPartialFit n (ls.map lv) (ls.map st) xs y := by
  induction ls generalizing xs y with
  | nil => rfl
  | cons l ls ih =>
    rcases xs with _ | ⟨x, xs⟩
    · rfl
    · rw [chainOps, List.map_cons, List.map_cons, List.map_cons, chainPartialFit, ih, T.read.labels_a,
        pySliceFrom_neg, T.pfit_st]

theorem map_mk_simple_lv (T : Tie ops lev mt eps lv lvB st stB) (ms : List M) :
    (ms.map ops.mk_simple).map lv = ms.map lev := by
  rw [List.map_map]; exact List.map_congr_left fun m _ => T.mk_simple_lv m

theorem map_mk_simple_st (T : Tie ops lev mt eps lv lvB st stB) (ms : List M) :
    (ms.map ops.mk_simple).map st = List.replicate ms.length {} := by
  rw [List.map_map, List.eq_replicate_iff, List.length_map]
  exact ⟨rfl, fun s hs => by obtain ⟨m, -, rfl⟩ := List.mem_map.mp hs; exact T.mk_simple_st m⟩

/-- the assertion `self.n_modules >= 2` of the unsupervised branch -/
theorem two_le_length_cons_cons (m0 m1 : M) (ms : List M) : ((m0 :: m1 :: ms).length : Int) ≥ 2 :=
  Int.le_add_of_nonneg_left (Int.natCast_nonneg ms.length)

theorem length_cons_natCast (v : L) (ls : List L) : ((v :: ls).length : Int) = (1 : Int) + (ls.length : Int) := by
  rw [List.length_cons, Int.natCast_succ, Int.add_comm]

/-- **`DeepARTMAP.fit(X, y)`** with labels = the model's `deepFitSup` on the modules' levels: the call succeeds,
sets `is_supervised = True`, and every layer carries the model's state (and still the level of its module) -/
theorem fit_sup_spec (T : Tie ops lev mt eps lv lvB st stB) (modules : List M) (hne : modules ≠ [])
    (layers0 : List L) (is0 : Option Bool) (X : List (List R)) (y : List Nat)
    (hv : ValidBatch modules.length X y) :
    ∃ ls, Gen.DeepARTMAP.fit ops modules layers0 is0 X (some y) 1 mt eps = some (ls, some true) ∧
      ls.map st = deepFitSup (modules.map lev) X y ∧ ls.map lv = modules.map lev := by
  obtain ⟨m, ms, rfl⟩ := List.exists_cons_of_ne_nil hne
  obtain ⟨x, xs, rfl⟩ := List.exists_cons_of_length_pos (hv.1.symm ▸ Nat.succ_pos ms.length : 0 < X.length)
  have hlen : (ms.map ops.mk_simple).length ≤ xs.length := by
    rw [List.length_map]; exact Nat.le_of_eq (Nat.succ.inj hv.1).symm
  refine ⟨chainOps (fun l x y => ops.fit l x y 1 mt eps) ops.labels_a ((m :: ms).map ops.mk_simple) (x :: xs) y,
    ?_, ?_, ?_⟩
  · -- `validate_data`; the fresh layers, the first of them trained; the loop over the others
    refine (bind_of_eq_some _ ((validate_data_sup _ _ _).mpr hv)).trans ((bind_of_eq_some
      (a := (some true, ops.fit (ops.mk_simple m) x y 1 mt eps :: ms.map ops.mk_simple)) _ ?_).trans ?_)
    · exact (bind_of_eq_some _ rfl).trans ((bind_of_eq_some _ (mapM_modules ops.mk_simple (m :: ms) 0 (Nat.zero_le _))).trans rfl)
    · exact (bind_of_eq_some _ rfl).trans ((bind_of_eq_some _ (fit_loop ops 1 mt eps (x :: xs) 0 0 rfl
        (ms.map ops.mk_simple) [] _ xs 1 _ rfl (length_cons_natCast _ _) hlen rfl)).trans rfl)
  · rw [chainOps_fit T, map_mk_simple_lv T]; rfl
  · rw [chainOps_map_eq _ _ lv T.fit_lv ((m :: ms).map ops.mk_simple) (x :: xs) y (Nat.succ_le_succ hlen),
      map_mk_simple_lv T]

/-- `partial_fit` on an estimator without layers first builds fresh SimpleARTMAP layers -/
theorem partial_fit_fresh_sup (modules : List M) (hne : modules ≠ []) (is0 : Option Bool) (X : List (List R))
    (y : List Nat) :
    Gen.DeepARTMAP.partial_fit ops modules [] is0 X (some y) mt eps =
      Gen.DeepARTMAP.partial_fit ops modules (modules.map ops.mk_simple) (some true) X (some y) mt eps := by
  obtain ⟨m, ms, rfl⟩ := List.exists_cons_of_ne_nil hne
  -- the two calls differ in the conditional that creates the layers: it yields the same on both sides
  refine congrArg (validate_data (m :: ms) X (some y) >>= fun _ => · >>= _) (congrArg (· >>= _) ?_)
  exact (bind_of_eq_some _ rfl).trans
    ((bind_of_eq_some _ (mapM_modules ops.mk_simple (m :: ms) 0 (Nat.zero_le _))).trans rfl)

/-- `partial_fit(X, y)` with labels on existing supervised layers whose levels are the modules' -/
theorem partial_fit_sup_core (T : Tie ops lev mt eps lv lvB st stB) (modules : List M) (layers : List L)
    (hlv : layers.map lv = modules.map lev) (hne : modules ≠ []) (X : List (List R)) (y : List Nat)
    (hv : ValidBatch modules.length X y) :
    ∃ ls, Gen.DeepARTMAP.partial_fit ops modules layers (some true) X (some y) mt eps = some (ls, some true) ∧
      ls.map st = chainPartialFit (batchSize X) (modules.map lev) (layers.map st) X y ∧
      ls.map lv = modules.map lev := by
  have hll : layers.length = modules.length := length_eq_of_map_eq hlv
  obtain ⟨l0, ls, rfl⟩ := List.exists_cons_of_length_pos (hll ▸ List.length_pos_of_ne_nil hne : 0 < layers.length)
  obtain ⟨x, xs, rfl⟩ := List.exists_cons_of_length_pos
    (hv.1.symm ▸ List.length_pos_of_ne_nil hne : 0 < X.length)
  have hlen : ls.length ≤ xs.length := Nat.le_of_eq (Nat.succ.inj (hll.trans hv.1.symm))
  obtain ⟨xj, hxj⟩ := pfit_loop ops mt eps (x :: xs) (-(x.length : Int)) 0 ls [] (ops.partial_fit l0 x y mt eps) xs 1 _ 1
    rfl (length_cons_natCast _ _) rfl hlen rfl
  refine ⟨chainOps (fun l x y => ops.partial_fit l x y mt eps)
    (fun l => pySliceFrom (ops.labels_a l) (-(x.length : Int))) (l0 :: ls) (x :: xs) y, ?_, ?_, ?_⟩
  · -- `validate_data`; the first layer trained; `n_samples`; the loop over the others
    exact (bind_of_eq_some _ ((validate_data_sup _ _ _).mpr hv)).trans ((bind_of_eq_some
      (a := (some true, ops.partial_fit l0 x y mt eps :: ls, 1)) _ rfl).trans ((bind_of_eq_some _ rfl).trans
        ((bind_of_eq_some _ rfl).trans ((bind_of_eq_some _ hxj).trans rfl))))
  · rw [chainOps_pfit T, hlv]; rfl
  · rw [chainOps_map_eq _ _ lv T.pfit_lv (l0 :: ls) (x :: xs) y (Nat.succ_le_succ hlen), hlv]

/-- **`DeepARTMAP.partial_fit(X, y)`** with labels = the model's `deepPartialFitSup`: on an estimator without
layers, or on supervised layers built from these modules -/
theorem partial_fit_sup_spec (T : Tie ops lev mt eps lv lvB st stB) (modules : List M) (hne : modules ≠ [])
    (layers : List L) (is0 : Option Bool)
    (hst : layers = [] ∨ (layers.map lv = modules.map lev ∧ is0 = some true))
    (X : List (List R)) (y : List Nat) (hv : ValidBatch modules.length X y) :
    ∃ ls, Gen.DeepARTMAP.partial_fit ops modules layers is0 X (some y) mt eps = some (ls, some true) ∧
      ls.map st = deepPartialFitSup (modules.map lev) (layers.map st) X y ∧ ls.map lv = modules.map lev := by
  rcases hst with rfl | ⟨hlv, rfl⟩
  · rw [partial_fit_fresh_sup modules hne]
    obtain ⟨ls, h1, h2, h3⟩ := partial_fit_sup_core T modules (modules.map ops.mk_simple)
      (map_mk_simple_lv T modules) hne X y hv
    exact ⟨ls, h1, by rw [h2, map_mk_simple_st T, ← List.length_map (as := modules) lev]; rfl, h3⟩
  · -- existing layers are trained as they are
    rcases layers with _ | ⟨l0, ls0⟩
    · exact absurd (List.map_eq_nil_iff.mp hlv.symm) hne
    · exact partial_fit_sup_core T modules (l0 :: ls0) hlv hne X y hv

/-! #### unsupervised: an ARTMAP layer on `modules[1]` / `modules[0]`, then the chain on `modules[2:]` -/

/-- **`DeepARTMAP.fit(X)`** without labels = the model's `deepFitUnsup` on the modules' levels: the call succeeds,
sets `is_supervised = False`; layer 0 (the ARTMAP) carries the model's `top`, the other layers the model's `rest` -/
theorem fit_unsup_spec (T : Tie ops lev mt eps lv lvB st stB) (m0 m1 : M) (ms : List M)
    (layers0 : List L) (is0 : Option Bool) (x0 x1 : List R) (xs : List (List R))
    (hlen : xs.length = ms.length) (hx : ∀ z ∈ x1 :: xs, z.length = x0.length) :
    ∃ top ls, Gen.DeepARTMAP.fit ops (m0 :: m1 :: ms) layers0 is0 (x0 :: x1 :: xs) none 1 mt eps
        = some (top :: ls, some false) ∧
      deepFitUnsup ((m0 :: m1 :: ms).map lev) (x0 :: x1 :: xs) = some ⟨⟨stB top, st top⟩, ls.map st⟩ ∧
      lv top = lev m1 ∧ lvB top = lev m0 ∧ ls.map lv = ms.map lev := by
  have hlen' : (ms.map ops.mk_simple).length ≤ xs.length := by rw [List.length_map, hlen]
  have htop := T.fit_ab_st (ops.mk_artmap m1 m0) x1 x0
  rw [(T.mk_artmap_lv m1 m0).1, (T.mk_artmap_lv m1 m0).2, (T.mk_artmap_st m1 m0).1, (T.mk_artmap_st m1 m0).2]
    at htop
  refine ⟨ops.fit_ab (ops.mk_artmap m1 m0) x1 x0 1 mt eps,
    chainOps (fun l x y => ops.fit l x y 1 mt eps) ops.labels_a (ms.map ops.mk_simple) xs
      (ops.labels_a (ops.fit_ab (ops.mk_artmap m1 m0) x1 x0 1 mt eps)), ?_, ?_, ?_, ?_, ?_⟩
  · -- `validate_data`; the ARTMAP layer and the fresh layers, the ARTMAP trained; the loop over the others
    refine (bind_of_eq_some _ (validate_data_unsup (m0 :: m1 :: ms) x0 (x1 :: xs) (congrArg (· + 2) hlen) hx)).trans ((bind_of_eq_some
      (a := (some false, ops.fit_ab (ops.mk_artmap m1 m0) x1 x0 1 mt eps :: ms.map ops.mk_simple)) _ ?_).trans ?_)
    · exact (bind_of_eq_some _ rfl).trans ((bind_of_eq_some _ (congrArg pyAssert (decide_eq_true (two_le_length_cons_cons m0 m1 ms)))).trans
        ((bind_of_eq_some _ rfl).trans ((bind_of_eq_some _ rfl).trans ((bind_of_eq_some _ rfl).trans
          ((bind_of_eq_some _ (mapM_modules ops.mk_simple (m0 :: m1 :: ms) 2 (Nat.le_add_left _ _))).trans rfl)))))
    · exact (bind_of_eq_some _ rfl).trans ((bind_of_eq_some _ (fit_loop ops 1 mt eps (x0 :: x1 :: xs) 1 1 rfl
        (ms.map ops.mk_simple) [] _ xs 1 _ rfl (length_cons_natCast _ _) hlen' rfl)).trans rfl)
  · rw [chainOps_fit T, T.read.labels_a, map_mk_simple_lv T, show st _ = _ from congrArg ArtmapState.s htop,
      show stB _ = _ from congrArg ArtmapState.b htop]
    rfl
  · rw [(T.fit_ab_lv _ _ _).1, (T.mk_artmap_lv m1 m0).1]
  · rw [(T.fit_ab_lv _ _ _).2, (T.mk_artmap_lv m1 m0).2]
  · rw [chainOps_map_eq _ _ lv T.fit_lv _ xs _ hlen', map_mk_simple_lv T]

/-- unsupervised `partial_fit` on an estimator without layers first builds the ARTMAP and fresh SimpleARTMAP layers -/
theorem partial_fit_fresh_unsup (m0 m1 : M) (ms : List M) (is0 : Option Bool) (X : List (List R)) :
    Gen.DeepARTMAP.partial_fit ops (m0 :: m1 :: ms) [] is0 X none mt eps =
      Gen.DeepARTMAP.partial_fit ops (m0 :: m1 :: ms) (ops.mk_artmap m1 m0 :: ms.map ops.mk_simple) (some false) X none
        mt eps := by
  -- the two calls differ in the conditional that creates the layers: it yields the same on both sides
  refine congrArg (validate_data (m0 :: m1 :: ms) X none >>= fun _ => · >>= _) (congrArg (· >>= _) ?_)
  exact (bind_of_eq_some _ rfl).trans ((bind_of_eq_some _ (congrArg pyAssert (decide_eq_true (two_le_length_cons_cons m0 m1 ms)))).trans
    ((bind_of_eq_some _ rfl).trans ((bind_of_eq_some _ rfl).trans ((bind_of_eq_some _ rfl).trans
      ((bind_of_eq_some _ (mapM_modules ops.mk_simple (m0 :: m1 :: ms) 2 (Nat.le_add_left _ _))).trans rfl)))))

/-- `partial_fit(X)` without labels on existing unsupervised layers whose levels are the modules' -/
theorem partial_fit_unsup_core (T : Tie ops lev mt eps lv lvB st stB) (m0 m1 : M) (ms : List M)
    (top : L) (ls : List L) (hlv : lv top = lev m1) (hlvB : lvB top = lev m0) (hls : ls.map lv = ms.map lev)
    (x0 x1 : List R) (xs : List (List R)) (hlen : xs.length = ms.length)
    (hx : ∀ z ∈ x1 :: xs, z.length = x0.length) :
    ∃ top' ls', Gen.DeepARTMAP.partial_fit ops (m0 :: m1 :: ms) (top :: ls) (some false) (x0 :: x1 :: xs) none mt eps
        = some (top' :: ls', some false) ∧
      deepPartialFitUnsup ((m0 :: m1 :: ms).map lev) (some ⟨⟨stB top, st top⟩, ls.map st⟩) (x0 :: x1 :: xs)
        = some ⟨⟨stB top', st top'⟩, ls'.map st⟩ ∧
      lv top' = lev m1 ∧ lvB top' = lev m0 ∧ ls'.map lv = ms.map lev := by
  have hll : ls.length ≤ xs.length := (length_eq_of_map_eq hls).trans hlen.symm |>.le
  have htop := T.pfit_ab_st top x1 x0
  rw [hlv, hlvB] at htop
  obtain ⟨xj, hxj⟩ := pfit_loop ops mt eps (x0 :: x1 :: xs) (-(x0.length : Int)) 1 ls []
    (ops.partial_fit_ab top x1 x0 mt eps) xs 1 _ 2 rfl (length_cons_natCast _ _) rfl hll rfl
  refine ⟨ops.partial_fit_ab top x1 x0 mt eps,
    chainOps (fun l x y => ops.partial_fit l x y mt eps) (fun l => pySliceFrom (ops.labels_a l) (-(x0.length : Int)))
      ls xs (pySliceFrom (ops.labels_a (ops.partial_fit_ab top x1 x0 mt eps)) (-(x0.length : Int))),
    ?_, ?_, ?_, ?_, ?_⟩
  · -- `validate_data`; the ARTMAP layer trained; `n_samples`; the loop over the others
    exact (bind_of_eq_some _ (validate_data_unsup (m0 :: m1 :: ms) x0 (x1 :: xs) (congrArg (· + 2) hlen) hx)).trans
      ((bind_of_eq_some (a := (some false, ops.partial_fit_ab top x1 x0 mt eps :: ls, 2)) _ rfl).trans
        ((bind_of_eq_some _ rfl).trans ((bind_of_eq_some _ rfl).trans ((bind_of_eq_some _ hxj).trans rfl))))
  · rw [chainOps_pfit T, T.read.labels_a, pySliceFrom_neg, hls, show st _ = _ from congrArg ArtmapState.s htop,
      show stB _ = _ from congrArg ArtmapState.b htop]
    rfl
  · rw [(T.pfit_ab_lv _ _ _).1, hlv]
  · rw [(T.pfit_ab_lv _ _ _).2, hlvB]
  · rw [chainOps_map_eq _ _ lv T.pfit_lv _ xs _ hll, hls]

/-- **`DeepARTMAP.partial_fit(X)`** without labels = the model's `deepPartialFitUnsup`: on an estimator without
layers (`st = none`), or on unsupervised layers built from these modules -/
theorem partial_fit_unsup_spec (T : Tie ops lev mt eps lv lvB st stB) (m0 m1 : M) (ms : List M)
    (layers : List L) (is0 : Option Bool) (d : Option (DeepUnsup Wt))
    (hst : (layers = [] ∧ d = none) ∨
      (∃ top ls, layers = top :: ls ∧ is0 = some false ∧ d = some ⟨⟨stB top, st top⟩, ls.map st⟩ ∧
        lv top = lev m1 ∧ lvB top = lev m0 ∧ ls.map lv = ms.map lev))
    (x0 x1 : List R) (xs : List (List R)) (hlen : xs.length = ms.length)
    (hx : ∀ z ∈ x1 :: xs, z.length = x0.length) :
    ∃ top' ls', Gen.DeepARTMAP.partial_fit ops (m0 :: m1 :: ms) layers is0 (x0 :: x1 :: xs) none mt eps
        = some (top' :: ls', some false) ∧
      deepPartialFitUnsup ((m0 :: m1 :: ms).map lev) d (x0 :: x1 :: xs) = some ⟨⟨stB top', st top'⟩, ls'.map st⟩ ∧
      lv top' = lev m1 ∧ lvB top' = lev m0 ∧ ls'.map lv = ms.map lev := by
  rcases hst with ⟨rfl, rfl⟩ | ⟨top, ls, rfl, rfl, rfl, hlv, hlvB, hls⟩
  · -- the fresh layers are the model's fresh state
    rw [partial_fit_fresh_unsup]
    obtain ⟨top', ls', h1, h2, h3⟩ := partial_fit_unsup_core T m0 m1 ms (ops.mk_artmap m1 m0)
      (ms.map ops.mk_simple) (T.mk_artmap_lv m1 m0).1 (T.mk_artmap_lv m1 m0).2 (map_mk_simple_lv T ms) x0 x1 xs hlen hx
    rw [(T.mk_artmap_st m1 m0).1, (T.mk_artmap_st m1 m0).2, map_mk_simple_st T] at h2
    exact ⟨top', ls', h1, by rw [← h2, ← List.length_map (as := ms) lev]; rfl, h3⟩
  · exact partial_fit_unsup_core T m0 m1 ms top ls hlv hlvB hls x0 x1 xs hlen hx

/-! #### SMART: the same data matrix for every module -/

/-- modules that are the SMART levels of `rhos` are as many as the vigilance values -/
theorem length_of_smartLevels {ms : List M} {K : Kernel R Wt α μ} {cfg : SearchCfg μ θ} {rhos : List θ}
    (hlev : ms.map lev = smartLevels K cfg rhos) : rhos.length = ms.length :=
  (length_eq_of_map_eq hlev).symm

/-- **`SMART.fit(X)`** = the model's `smartFit`, for modules that differ only in their vigilance -/
theorem smart_fit_spec (T : Tie ops lev mt eps lv lvB st stB) (m0 m1 : M) (ms : List M)
    (layers0 : List L) (is0 : Option Bool) (xs : List R) (y0 : Option (List Nat))
    (K : Kernel R Wt α μ) (cfg : SearchCfg μ θ) (rhos : List θ)
    (hlev : (m0 :: m1 :: ms).map lev = smartLevels K cfg rhos) :
    ∃ top ls, SMART_fit ops (m0 :: m1 :: ms) layers0 is0 xs y0 1 mt eps = some (top :: ls, some false) ∧
      smartFit K cfg rhos xs = some ⟨⟨stB top, st top⟩, ls.map st⟩ := by
  have hr : rhos.length = ms.length + 2 := length_of_smartLevels hlev
  obtain ⟨top, ls, h1, h2, -⟩ := fit_unsup_spec T m0 m1 ms layers0 is0 xs xs (List.replicate ms.length xs)
    List.length_replicate (unsupValid_replicate xs _)
  refine ⟨top, ls, (bind_of_eq_some _ rfl).trans ?_, by rw [smartFit, ← hlev, hr]; exact h2⟩
  rw [pyRepeat_singleton]
  exact h1

/-- **`SMART.partial_fit(X)`** = the model's `smartPartialFit` -/
theorem smart_partial_fit_spec (T : Tie ops lev mt eps lv lvB st stB) (m0 m1 : M) (ms : List M)
    (layers : List L) (is0 : Option Bool) (d : Option (DeepUnsup Wt))
    (hst : (layers = [] ∧ d = none) ∨
      (∃ top ls, layers = top :: ls ∧ is0 = some false ∧ d = some ⟨⟨stB top, st top⟩, ls.map st⟩ ∧
        lv top = lev m1 ∧ lvB top = lev m0 ∧ ls.map lv = ms.map lev))
    (xs : List R) (y0 : Option (List Nat))
    (K : Kernel R Wt α μ) (cfg : SearchCfg μ θ) (rhos : List θ)
    (hlev : (m0 :: m1 :: ms).map lev = smartLevels K cfg rhos) :
    ∃ top' ls', SMART_partial_fit ops (m0 :: m1 :: ms) layers is0 xs y0 mt eps = some (top' :: ls', some false) ∧
      smartPartialFit K cfg rhos d xs = some ⟨⟨stB top', st top'⟩, ls'.map st⟩ ∧
      lv top' = lev m1 ∧ lvB top' = lev m0 ∧ ls'.map lv = ms.map lev := by
  have hr : rhos.length = ms.length + 2 := length_of_smartLevels hlev
  obtain ⟨top', ls', h1, h2, h3⟩ := partial_fit_unsup_spec T m0 m1 ms layers is0 d hst xs xs
    (List.replicate ms.length xs) List.length_replicate (unsupValid_replicate xs _)
  refine ⟨top', ls', (bind_of_eq_some _ rfl).trans ?_, by rw [smartPartialFit, ← hlev, hr]; exact h2, h3⟩
  rw [pyRepeat_singleton]
  exact h1

end Train

/-! ### the C12 property theorems, transported to the generated code -/
section Transport
variable {M L R ε Wt α μ θ : Type} [LinearOrder α]
variable {ops : LayerOps M L R ε} {K : L → Kernel R Wt α μ} {st : L → SMapState Wt}

/-- **the generated `labels_deep_` describes a tree** (transport of `C12.deep_nested`): in a hierarchy in good
standing the call succeeds with one row per sample, and two samples (rows `i`, `j`) that share the label of the finer
level `l + 1` share the label of the coarser level `l`, for every layer `l`. -/
theorem gen_deep_nested (T : ReadTie ops K st) (layers : List L) (h : DeepInv (layers.map st))
    (top : L) (htop : layers[0]? = some top) :
    ∃ rows, labels_deep_ ops layers = some rows ∧ rows.length = (ops.labels_ top).length ∧
      ∀ (l : Nat), l < layers.length → ∀ (i j : Nat) (ri rj : List Nat), rows[i]? = some ri → rows[j]? = some rj →
        ri[l + 1]? = rj[l + 1]? → ri[l]? = rj[l]? := by
  obtain ⟨rows, hrows, hlen⟩ := labels_deep_some T layers h top htop
  refine ⟨rows, hrows, by rw [hlen, T.labels_], fun l hl i j ri rj hi hj => ?_⟩
  have hcl : (labelsDeep (layers.map st)).length = layers.length + 1 := by
    rw [labelsDeep_length _ (List.ne_nil_of_length_pos (by rw [List.length_map]; exact Nat.zero_lt_of_lt hl)),
      List.length_map]
  have hcc := List.getElem?_eq_getElem (hcl.symm ▸ Nat.lt_succ_of_lt hl : l < (labelsDeep (layers.map st)).length)
  have hcf := List.getElem?_eq_getElem (hcl.symm ▸ Nat.succ_lt_succ hl : l + 1 < (labelsDeep (layers.map st)).length)
  rw [labels_deep_rows T layers rows hrows i ri hi, labels_deep_rows T layers rows hrows j rj hj,
    labels_deep_rows T layers rows hrows i ri hi, labels_deep_rows T layers rows hrows j rj hj, hcc, hcf]
  exact (Art.C12.deep_nested h l _ _ hcc hcf).2 i j

/-- **the generated `map_deep` is consistent** (transport of `C12.map_deep_consistent`): for every level in
`-n_layers ≤ level < n_layers` and enough fuel, `map_deep(level, ·)` carries the `labels_a` of the layer at that
level to the `labels_` of layer 0 — the top-level labels of the same samples. -/
theorem gen_map_deep_consistent (T : ReadTie ops K st) (layers : List L) (h : DeepInv (layers.map st))
    (fuel : Nat) (hf : layers.length < fuel) (level : Int)
    (hlo : -(layers.length : Int) ≤ level) (hhi : level < layers.length)
    (l top : L) (hl : layers[Art.C12.normLevel layers.length level]? = some l) (htop : layers[0]? = some top) :
    map_deep ops layers fuel level (ops.labels_a l) = some (ops.labels_ top) := by
  have hl' : (layers.map st)[Art.C12.normLevel (layers.map st).length level]? = some (st l) := by
    rw [List.length_map]; exact getElem?_map_of_eq st hl
  have htop' := getElem?_map_of_eq st htop
  rw [map_deep_spec T layers fuel level _ hlo hf, T.labels_a, T.labels_]
  exact Art.C12.map_deep_consistent h level (by rwa [List.length_map]) (by rwa [List.length_map]) _ _
    (labelsDeep_getElem?_labelsA h _ _ hl') (labelsDeep_getElem?_labelsB _ 0 _ htop')

/-- **the generated `predict` returns nested label vectors** (transport of `C12.predict_nested`): one vector per
level, one label per query, and two queries that share the predicted label at level `l + 1` share it at level `l`. -/
theorem gen_predict_nested (T : ReadTie ops K st) (layers : List L) (h : DeepInv (layers.map st))
    (last : L) (hlast : layers.getLast? = some last) (hne : (st last).a.W ≠ []) (xs : List R) :
    ∃ cols, Gen.DeepARTMAP.predict ops layers (Sum.inl xs) = some cols ∧ cols.length = layers.length + 1 ∧
      (∀ p ∈ cols, p.length = xs.length) ∧
      ∀ (l : Nat), l < layers.length → ∃ pf pc, cols[l + 1]? = some pf ∧ cols[l]? = some pc ∧
        ∀ i j : Nat, pf[i]? = pf[j]? → pc[i]? = pc[j]? := by
  have hl := getLast?_map_of_eq st hlast
  obtain ⟨cols, h1, h2, h3, h4, -⟩ := Art.C12.predict_nested (K last) h (st last) hl hne xs
  refine ⟨cols, by rw [predict_spec T, hlast]; exact h1, by rw [h2, List.length_map], h3, fun l hlt => ?_⟩
  obtain ⟨pf, pc, a, b, -, d⟩ := h4 l (st layers[l]) (getElem?_map_of_eq st (List.getElem?_eq_getElem hlt))
  exact ⟨pf, pc, a, b, d⟩

variable {lev : M → Level R Wt α μ θ} {mt : String} {eps : ε}
  {lv lvB : L → Level R Wt α μ θ} {stB : L → ArtState Wt}

/-- **the generated supervised `fit` leaves the hierarchy in good standing** (transport of `deepFitSup_inv`, the
`fit` case of `C12.deep_layer_inv`): all of the above applies to the layers it returns. -/
theorem gen_fit_sup_inv (T : Tie ops lev mt eps lv lvB st stB) (modules : List M) (hne : modules ≠ [])
    (layers0 : List L) (is0 : Option Bool) (X : List (List R)) (y : List Nat)
    (hv : ValidBatch modules.length X y) :
    ∃ ls, Gen.DeepARTMAP.fit ops modules layers0 is0 X (some y) 1 mt eps = some (ls, some true) ∧
      DeepInv (ls.map st) ∧ ls.length = modules.length := by
  obtain ⟨ls, h1, h2, h3⟩ := fit_sup_spec T modules hne layers0 is0 X y hv
  exact ⟨ls, h1, h2 ▸ deepFitSup_inv _ X y hv.2, length_eq_of_map_eq h3⟩

end Transport

/-! ### the hypotheses are satisfiable, and the generated code runs: a layer object is the model state itself, with
the levels of its modules attached.  Three levels, a 1-D "nearest centre" kernel on ℤ (match value −distance),
vigilance ladder −4 < −1 < 0, as in the non-vacuity section of `ArtProps/C12.lean`. -/
section Example

abbrev ExLv := Level Int Int Int Int Int

structure ExLayer where
  lv : ExLv
  lvB : ExLv
  s : ArtmapState Int Int

def exOps : LayerOps ExLv ExLayer Int Unit :=
  { mk_simple := fun m => ⟨m, m, {}⟩
    mk_artmap := fun a b => ⟨a, b, {}⟩
    fit := fun l X y _ _ _ => { l with s := { l.s with s := smapFit l.lv.K l.lv.cfg l.lv.th l.s.s (X.zip y) } }
    fit_ab := fun l X Y _ _ _ =>
      { l with s := artmapFit l.lv.K l.lvB.K l.lv.cfg l.lvB.cfg l.lv.th l.lvB.th l.s X Y }
    partial_fit := fun l X y _ _ =>
      { l with s := { l.s with s := smapPartialFit l.lv.K l.lv.cfg l.lv.th l.s.s (X.zip y) } }
    partial_fit_ab := fun l X Y _ _ =>
      { l with s := artmapPartialFit l.lv.K l.lvB.K l.lv.cfg l.lvB.cfg l.lv.th l.lvB.th l.s X Y }
    labels_ := fun l => l.s.s.labelsB
    labels_a := fun l => l.s.s.a.labels
    map_a2b := fun l ya => mapA2B? l.s.s.map ya
    predict_ab := fun l xs =>
      (xs.mapM (smapStepPred l.lv.K l.s.s)).map (fun ab => (ab.map (·.1), ab.map (·.2))) }

theorem exTie : Tie exOps id "MT+" () (·.lv) (·.lvB) (·.s.s) (·.s.b) :=
  { read := ⟨fun _ => rfl, fun _ => rfl, fun _ _ => rfl, fun _ _ => rfl⟩
    mk_simple_lv := fun _ => rfl
    mk_simple_st := fun _ => rfl
    mk_artmap_lv := fun _ _ => ⟨rfl, rfl⟩
    mk_artmap_st := fun _ _ => ⟨rfl, rfl⟩
    fit_lv := fun _ _ _ => rfl
    fit_st := fun _ _ _ => rfl
    pfit_lv := fun _ _ _ => rfl
    pfit_st := fun _ _ _ => rfl
    fit_ab_lv := fun _ _ _ => ⟨rfl, rfl⟩
    fit_ab_st := fun _ _ _ => rfl
    pfit_ab_lv := fun _ _ _ => ⟨rfl, rfl⟩
    pfit_ab_st := fun _ _ _ => rfl }

def exK : Kernel Int Int Int Int :=
  { choice := fun _ x w => some (-(x - w).natAbs), matchv := fun x w => -(x - w).natAbs,
    update := fun _ w => w, newW := fun x => x }
def exCfg : SearchCfg Int Int := scalarCfg .plus false (· + 1) (· - 1) 1000
def exMods : List ExLv := [⟨exK, exCfg, -4⟩, ⟨exK, exCfg, -1⟩, ⟨exK, exCfg, 0⟩]
def exX : List Int := [0, 1, 3, 10, 11]

/-- the generated supervised `fit`, run on an estimator without layers -/
def exSup : List ExLayer :=
  ((Gen.DeepARTMAP.fit exOps exMods [] none [exX, exX, exX] (some [0, 0, 1, 1, 1]) 1 "MT+" ()).map (·.1)).getD []

example : (Gen.DeepARTMAP.fit exOps exMods [] none [exX, exX, exX] (some [0, 0, 1, 1, 1]) 1 "MT+" ()).map (·.2)
    = some (some true) := by decide +kernel
-- the rows of labels_deep_: classes, then three finer and finer clusterings
example : labels_deep_ exOps exSup =
    some [[0, 0, 0, 0], [0, 0, 0, 1], [1, 1, 1, 2], [1, 2, 2, 3], [1, 2, 2, 4]] := by decide +kernel
example : n_layers exSup = some 3 := by decide +kernel
example : map_deep exOps exSup 4 (-1) [0, 1, 2, 3, 4] = some [0, 0, 1, 1, 1] := by decide +kernel
example : map_deep exOps exSup 4 2 [3] = some [1] := by decide +kernel
example : map_deep exOps exSup 4 3 [3] = none := by decide +kernel
example : Gen.DeepARTMAP.predict exOps exSup (Sum.inl [2, 12]) = some [[0, 1], [0, 2], [0, 2], [1, 4]] := by
  decide +kernel
example : Gen.DeepARTMAP.predict exOps exSup (Sum.inr [[5], [2, 12]]) = some [[0, 1], [0, 2], [0, 2], [1, 4]] := by
  decide +kernel
-- a data matrix too few / labels of another length: validate_data raises
example : Gen.DeepARTMAP.fit exOps exMods [] none [exX, exX] (some [0, 0, 1, 1, 1]) 1 "MT+" () = none := by
  decide +kernel
example : Gen.DeepARTMAP.fit exOps exMods [] none [exX, exX, exX] (some [0, 0, 1, 1]) 1 "MT+" () = none := by
  decide +kernel
-- two partial_fit batches (2 + 3 samples) give the layers of fit
def exTwo : Option (List ExLayer × Option Bool) :=
  (Gen.DeepARTMAP.partial_fit exOps exMods [] none [[0, 1], [0, 1], [0, 1]] (some [0, 0]) "MT+" ()).bind
    (fun r => Gen.DeepARTMAP.partial_fit exOps exMods r.1 r.2 [[3, 10, 11], [3, 10, 11], [3, 10, 11]]
      (some [1, 1, 1]) "MT+" ())
example : exTwo.map (fun r => r.1.map (fun l => l.s.s.a.W)) = some (exSup.map (fun l => l.s.s.a.W)) := by
  decide +kernel
example : exTwo.map (fun r => r.1.map (fun l => l.s.s.a.labels)) = some (exSup.map (fun l => l.s.s.a.labels)) := by
  decide +kernel
example : exTwo.map (fun r => r.1.map (fun l => l.s.s.map)) = some (exSup.map (fun l => l.s.s.map)) := by
  decide +kernel
example : exTwo.map (·.2) = some (some true) := by decide +kernel
-- labels after unsupervised layers exist: partial_fit asserts
example : (Gen.DeepARTMAP.partial_fit exOps exMods exSup (some false) [exX, exX, exX] (some [0, 0, 1, 1, 1]) "MT+" ())
    = none := by decide +kernel
-- SMART / unsupervised on the same data: 3 modules = 2 layers, 3 columns
example : ((SMART_fit exOps exMods [] none exX none 1 "MT+" ()).bind (fun r => labels_deep_ exOps r.1)) =
    some [[0, 0, 0], [0, 0, 1], [0, 1, 2], [1, 2, 3], [1, 2, 4]] := by decide +kernel
example : ((SMART_partial_fit exOps exMods [] none exX none "MT+" ()).bind (fun r => labels_deep_ exOps r.1)) =
    some [[0, 0, 0], [0, 0, 1], [0, 1, 2], [1, 2, 3], [1, 2, 4]] := by decide +kernel
-- one module only: unsupervised fit asserts n_modules >= 2
example : SMART_fit exOps [⟨exK, exCfg, -4⟩] [] none exX none 1 "MT+" () = none := by decide +kernel

end Example

end Art.GenSpec.Deep
