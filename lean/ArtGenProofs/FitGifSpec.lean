/-
ArtGenProofs.FitGifSpec — `BaseART.fit_gif`, the animated twin of `BaseART.fit`, as translated from the Python source
by `harness/artv/gftrans.py` (ArtGen/FitGif.lean: drawing statements removed by explicit rules, `labels_` over `Int`
and started from `-1`, the three hooks abstract).

  1. For EVERY hooks `H` (every receiver that overrides `pre_step_fit` / `post_step_fit` / `post_fit`): the loop bodies
     generated from `fit_gif` are the loop bodies generated from `fit`, and both calls are that loop, started from the
     `-1`-filled / `0`-filled label vector and finished by `post_fit` (`fit_gif_eq_fitFrom`, `fit_eq_fitFrom`).
  2. For BaseART's own hooks (translated from their bodies: the identity, `base_hooks_id`): `fit` as generated here is
     `Art.Gen.BaseART.fit` of ArtGen/Control.lean with the labels read as integers (`fit_eq_control_fit`), and `fit_gif`
     with `max_iter >= 1` returns exactly the same (`fit_gif_eq_fit`): the first epoch overwrites every entry of
     `labels_`, so the result does not depend on the initial fill (`labels_overwritten`, by induction over the rows:
     `epoch_sim`).  With `max_iter = 0` the two differ in `labels_` only: `-1`s against `0`s (`fit_gif_zero_epochs`).
     No kernel contract is needed for any of this: it holds for all externals `E`, data sets, reset functions, modes,
     epsilons.
  3. Under the kernel contract of ControlFit.lean, `fit_gif` therefore is the model's `fitEpochs` (`fit_gif_spec`), with
     the corollaries of C05 (`fit_gif_one_consistent`: counters = label histogram …), C07 (`fit_gif_restores_params`)
     and C06 (`fit_gif_history_independent`, which needs no contract and holds for every hooks).
The view through which `step_fit` is called leaves `labels_` out; `step_fit_labels_frame` proves, for the generated
`Art.Gen.BaseART.step_fit` and without any contract, that it neither reads nor writes them.
-/
import ArtGen.FitGif
import ArtGenProofs.ControlFit
import ArtProofs.Fit

namespace Art.GenSpec.FitGif

open Art Art.Imp Art.ImpFitGif

/-! ### `BaseART.step_fit` neither reads nor writes `labels_` -/

section Frame
variable {X Wt P C α : Type} [LT α] [DecidableRel (α := α) (· < ·)] [Inhabited Wt] [Inhabited C]

/-- replace the label vector of a returned estimator -/
def withLabels (l : List Nat) (r : Self Wt P × Nat) : Self Wt P × Nat := ({ r.1 with labels := l }, r.2)

/-- **The generated `BaseART.step_fit` neither reads nor writes `labels_`**: running it on an estimator whose label
vector has been replaced by `l` gives the same weights, counters, `params`, flag and returned label, and hands `l`
back.  No contract: for all externals, fuels, states, samples, reset functions, modes, epsilons. -/
theorem step_fit_labels_frame (E : Ext X Wt P C α) (fuel : Nat) (s : Self Wt P) (l : List Nat) (x : X) (is_none : Bool)
    (reset : X → Wt → Nat → P → C → Bool) (mt : MT) (eps : α) :
    Art.Gen.BaseART.step_fit E fuel { s with labels := l } x is_none reset mt eps =
      withLabels l (Art.Gen.BaseART.step_fit E fuel s x is_none reset mt eps) := by
  -- the loop body returns the estimator it was given the labels of, and reads nothing of them
  have hb : ∀ Tc, Art.Gen.BaseART.step_fit_loop1_body E (s.n + 1) l s.hasW x mt eps s.params (E.operator mt) Tc is_none reset =
      fun st => mapRet (withLabels l)
        (Art.Gen.BaseART.step_fit_loop1_body E (s.n + 1) s.labels s.hasW x mt eps s.params (E.operator mt) Tc is_none reset st) := by
    intro Tc
    funext st
    unfold Art.Gen.BaseART.step_fit_loop1_body
    dsimp only
    rw [apply_ite (mapRet (withLabels l))]
    rfl
  unfold Art.Gen.BaseART.step_fit
  dsimp only
  rw [apply_ite (withLabels l)]
  refine if_congr Iff.rfl rfl ?_
  rw [hb, whileFuel_mapRet (withLabels l) _ _ _ (fun _ => rfl)]
  cases whileFuel _ _ fuel _ <;> rfl
end Frame

/-! ### 1. For every hooks: `fit_gif` is the loop of `fit`, started from `-1`s -/

section Skeleton
variable {X Wt P C α : Type} [LT α] [DecidableRel (α := α) (· < ·)] [Inhabited Wt] [Inhabited C]

/-- **The row loop body generated from `fit_gif` is the one generated from `fit`** — hook, `step_fit` with all its
arguments, label store, hook, in this order — for every hooks, externals and arguments. -/
theorem fit_gif_loop1_body_eq (E : Ext X Wt P C α) (H : Hooks X Wt P) (Xs : List X) (mt : MT) (eps : α) (is_none : Bool)
    (reset : X → Wt → Nat → P → C → Bool) :
    Art.Gen.FitGif.fit_gif_loop1_body E H Xs mt eps is_none reset = Art.Gen.FitGif.fit_loop1_body E H Xs mt eps is_none reset :=
  rfl

/-- **The epoch loop body generated from `fit_gif` is the one generated from `fit`.** -/
theorem fit_gif_loop2_body_eq (E : Ext X Wt P C α) (H : Hooks X Wt P) (Xs : List X) (mt : MT) (eps : α) (v : Bool)
    (is_none : Bool) (reset : X → Wt → Nat → P → C → Bool) :
    Art.Gen.FitGif.fit_gif_loop2_body E H Xs mt eps v is_none reset = Art.Gen.FitGif.fit_loop2_body E H Xs mt eps v is_none reset :=
  rfl

/-- the training call of `fit`, started from the label vector `lab0`: forget weights and counters, run the generated
epoch loop of `fit`, call `post_fit`.  Reads nothing of `self` but `params`. -/
def fitFrom (E : Ext X Wt P C α) (H : Hooks X Wt P) (lab0 : List Int) (self : SelfZ Wt P) (Xs : List X) (is_none : Bool)
    (reset : X → Wt → Nat → P → C → Bool) (max_iter : Nat) (mt : MT) (eps : α) (v : Bool) : SelfZ Wt P × Unit :=
  match forEach (Art.Gen.FitGif.fit_loop2_body E H Xs mt eps v is_none reset) (List.range max_iter)
      ([], [], 0, self.params, lab0, true) with
  | .ret r => r
  | .next (W, cnt, n, p, lab, hw) => (H.post_fit { W := W, cnt := cnt, n := n, params := p, labels := lab, hasW := hw } Xs, ())

/-- **`fit_gif` is the training loop of `fit`, started from `labels_ = [-1, …, -1]`** — same resets of `W`, the
per-category counters and the sample counter, same epochs, `post_fit` once after the last epoch — for every hooks. -/
theorem fit_gif_eq_fitFrom (E : Ext X Wt P C α) (H : Hooks X Wt P) (self : SelfZ Wt P) (Xs : List X) (is_none : Bool)
    (reset : X → Wt → Nat → P → C → Bool) (max_iter : Nat) (mt : MT) (eps : α) (v : Bool) :
    Art.Gen.FitGif.fit_gif E H self Xs is_none reset max_iter mt eps v =
      fitFrom E H (List.replicate Xs.length (-1)) self Xs is_none reset max_iter mt eps v :=
  rfl

/-- `fit` is the same loop, started from `labels_ = [0, …, 0]` -/
theorem fit_eq_fitFrom (E : Ext X Wt P C α) (H : Hooks X Wt P) (self : SelfZ Wt P) (Xs : List X) (is_none : Bool)
    (reset : X → Wt → Nat → P → C → Bool) (max_iter : Nat) (mt : MT) (eps : α) (v : Bool) :
    Art.Gen.FitGif.fit E H self Xs is_none reset max_iter mt eps v =
      fitFrom E H (List.replicate Xs.length 0) self Xs is_none reset max_iter mt eps v :=
  rfl

/-- **`fit_gif` forgets the earlier model** (C06 / F45, for every hooks and without any contract): the result depends
on the estimator it is called on only through its hyper-parameters — in particular not on its old per-category
counters or its old sample counter. -/
theorem fit_gif_history_independent (E : Ext X Wt P C α) (H : Hooks X Wt P) (self₁ self₂ : SelfZ Wt P)
    (hp : self₁.params = self₂.params) (Xs : List X) (is_none : Bool) (reset : X → Wt → Nat → P → C → Bool) (max_iter : Nat)
    (mt : MT) (eps : α) (v₁ v₂ : Bool) :
    Art.Gen.FitGif.fit_gif E H self₁ Xs is_none reset max_iter mt eps v₁ =
      Art.Gen.FitGif.fit_gif E H self₂ Xs is_none reset max_iter mt eps v₂ := by
  rw [fit_gif_eq_fitFrom, fit_gif_eq_fitFrom]
  unfold fitFrom
  rw [hp]
  cases v₁ <;> cases v₂ <;> rfl

omit [Inhabited Wt] in
/-- BaseART's own hooks, as translated from their bodies, do nothing -/
theorem base_hooks_id (s : SelfZ Wt P) (Xs : List X) :
    (Art.Gen.FitGif.base_hooks (Xt := X)).pre_step_fit s Xs = s ∧
    (Art.Gen.FitGif.base_hooks (Xt := X)).post_step_fit s Xs = s ∧
    (Art.Gen.FitGif.base_hooks (Xt := X)).post_fit s Xs = s :=
  ⟨rfl, rfl, rfl⟩

end Skeleton

/-! ### 2. BaseART's hooks: `fit` here is `fit` of ArtGen/Control.lean; `fit_gif` (at least one epoch) equals it -/

/-- `lz` (integers) and `ln` (naturals) have length `N` and agree on the first `K` positions -/
def LabRel (K N : Nat) (lz : List Int) (ln : List Nat) : Prop :=
  lz.length = N ∧ ln.length = N ∧ ∀ j, j < K → lz[j]? = ln[j]?.map Int.ofNat

theorem labRel_set_of {K K' N : Nat} {lz : List Int} {ln : List Nat} (h : LabRel K N lz ln) (i c : Nat)
    (hK : ∀ j, j < K' → j < K ∨ j = i) : LabRel K' N (lz.set i (Int.ofNat c)) (ln.set i c) := by
  obtain ⟨h1, h2, h3⟩ := h
  refine ⟨List.length_set.trans h1, List.length_set.trans h2, fun j hj => ?_⟩
  rw [List.getElem?_set, List.getElem?_set, h1, h2]
  by_cases hij : i = j
  · rw [if_pos hij, if_pos hij]; split <;> rfl
  · rw [if_neg hij, if_neg hij]; exact h3 j ((hK j hj).resolve_right (Ne.symm hij))

theorem labRel_set {K N : Nat} {lz : List Int} {ln : List Nat} (h : LabRel K N lz ln) (i c : Nat) :
    LabRel K N (lz.set i (Int.ofNat c)) (ln.set i c) :=
  labRel_set_of h i c fun _ hj => Or.inl hj

theorem labRel_set_succ {K N : Nat} {lz : List Int} {ln : List Nat} (h : LabRel K N lz ln) (c : Nat) :
    LabRel (K + 1) N (lz.set K (Int.ofNat c)) (ln.set K c) :=
  labRel_set_of h K c fun _ hj => Nat.lt_succ_iff_lt_or_eq.mp hj

theorem labRel_full {K N : Nat} {lz : List Int} {ln : List Nat} (h : LabRel K N lz ln) (hK : N ≤ K) :
    lz = ln.map Int.ofNat := by
  obtain ⟨h1, h2, h3⟩ := h
  apply List.ext_getElem?
  intro j
  rw [List.getElem?_map]
  by_cases hj : j < K
  · exact h3 j hj
  · have hN : N ≤ j := Nat.le_trans hK (Nat.le_of_not_lt hj)
    rw [List.getElem?_eq_none (h1 ▸ hN), List.getElem?_eq_none (h2 ▸ hN)]
    rfl
theorem labRel_mono {K K' N : Nat} {lz : List Int} {ln : List Nat} (h : LabRel K N lz ln) (hK : K' ≤ K) :
    LabRel K' N lz ln :=
  ⟨h.1, h.2.1, fun j hj => h.2.2 j (by omega)⟩

section Base
variable {X Wt P C α : Type} [LT α] [DecidableRel (α := α) (· < ·)] [Inhabited Wt] [Inhabited C]

/-- one row of an epoch, generic in how the label vector stores a label: `step_fit` (which does not see the labels),
then `labels_[i] = c` -/
def row {L : Type} (setL : L → Nat → Nat → L) (E : Ext X Wt P C α) (mt : MT) (eps : α) (is_none : Bool)
    (reset : X → Wt → Nat → P → C → Bool) :
    List Wt × List Nat × Nat × P × L × Bool → X × Nat → List Wt × List Nat × Nat × P × L × Bool :=
  fun (W, cnt, n, p, l, hw) (x, i) =>
    let r := Art.Gen.BaseART.step_fit E W.length { W := W, cnt := cnt, n := n, params := p, labels := [], hasW := hw } x
      is_none reset mt eps
    (r.1.W, r.1.cnt, r.1.n, r.1.params, setL l i r.2, r.1.hasW)

/-- the store into an integer label vector / into a natural one -/
def setZ (l : List Int) (i c : Nat) : List Int := l.set i (Int.ofNat c)
def setN (l : List Nat) (i c : Nat) : List Nat := l.set i c

/-- the two estimators agree on everything but the label type; the labels agree on the first `K` positions -/
def Sim (K N : Nat) (z : List Wt × List Nat × Nat × P × List Int × Bool) (s : List Wt × List Nat × Nat × P × List Nat × Bool) :
    Prop :=
  ∃ W cnt n p hw lz ln, z = (W, cnt, n, p, lz, hw) ∧ s = (W, cnt, n, p, ln, hw) ∧ LabRel K N lz ln

variable (E : Ext X Wt P C α) (Xs : List X) (mt : MT) (eps : α) (v : Bool) (is_none : Bool)
  (reset : X → Wt → Nat → P → C → Bool)

/-- with BaseART's hooks, the row body generated here is `row` over the integers -/
theorem fitgif_row (z : List Wt × List Nat × Nat × P × List Int × Bool) (xi : X × Nat) :
    Art.Gen.FitGif.fit_loop1_body E Art.Gen.FitGif.base_hooks Xs mt eps is_none reset z xi =
      .next (row setZ E mt eps is_none reset z xi) :=
  rfl

/-- the row body of ArtGen/Control.lean is `row` over the naturals (`step_fit` does not see the labels) -/
theorem control_row (s : List Wt × List Nat × Nat × P × List Nat × Bool) (xi : X × Nat) :
    Art.Gen.BaseART.fit_loop1_body E Xs mt eps is_none reset s xi = .next (row setN E mt eps is_none reset s xi) := by
  obtain ⟨W, cnt, n, p, l, hw⟩ := s
  obtain ⟨x, i⟩ := xi
  have h := step_fit_labels_frame E W.length { W := W, cnt := cnt, n := n, params := p, labels := [], hasW := hw } l x
    is_none reset mt eps
  simp only at h
  unfold Art.Gen.BaseART.fit_loop1_body
  simp only [h]
  rfl

/-- one row keeps the agreement, and a row at position `K` extends it -/
theorem row_sim {K N : Nat} {z : List Wt × List Nat × Nat × P × List Int × Bool} {s : List Wt × List Nat × Nat × P × List Nat × Bool}
    (h : Sim K N z s) (x : X) (i : Nat) :
    Sim K N (row setZ E mt eps is_none reset z (x, i)) (row setN E mt eps is_none reset s (x, i)) ∧
    (i = K → Sim (K + 1) N (row setZ E mt eps is_none reset z (x, i)) (row setN E mt eps is_none reset s (x, i))) := by
  obtain ⟨W, cnt, n, p, hw, lz, ln, rfl, rfl, hl⟩ := h
  refine ⟨⟨_, _, _, _, _, _, _, rfl, rfl, labRel_set hl i _⟩, ?_⟩
  rintro rfl
  exact ⟨_, _, _, _, _, _, _, rfl, rfl, labRel_set_succ hl _⟩

/-- **One pass over the rows (induction over the rows)**: the two estimators stay in agreement, and a pass that starts
at row `k` with the labels agreeing on the first `k` positions ends with agreement on the first `k + len` positions —
every entry the pass has visited has been overwritten with the label `step_fit` returned. -/
theorem epoch_sim (E : Ext X Wt P C α) (mt : MT) (eps : α) (is_none : Bool) (reset : X → Wt → Nat → P → C → Bool) (N : Nat) :
    ∀ (xs : List X) (k K : Nat) (z : List Wt × List Nat × Nat × P × List Int × Bool)
      (s : List Wt × List Nat × Nat × P × List Nat × Bool), Sim K N z s →
      Sim K N ((xs.zipIdx k).foldl (row setZ E mt eps is_none reset) z) ((xs.zipIdx k).foldl (row setN E mt eps is_none reset) s) ∧
      (K = k → Sim (k + xs.length) N ((xs.zipIdx k).foldl (row setZ E mt eps is_none reset) z)
                ((xs.zipIdx k).foldl (row setN E mt eps is_none reset) s)) := by
  intro xs
  induction xs with
  | nil => intro k K z s h; exact ⟨h, fun hk => hk ▸ h⟩
  | cons x xs ih =>
    intro k K z s h
    rw [List.zipIdx_cons, List.foldl_cons, List.foldl_cons]
    obtain ⟨h1, h2⟩ := row_sim E mt eps is_none reset h x k
    exact ⟨(ih (k + 1) K _ _ h1).1, fun hk =>
      Nat.add_right_comm k 1 xs.length ▸ (ih (k + 1) (K + 1) _ _ (h2 hk.symm)).2 (congrArg (· + 1) hk)⟩

/-- one epoch, as a fold of rows -/
def epoch {L : Type} (setL : L → Nat → Nat → L) (E : Ext X Wt P C α) (Xs : List X) (mt : MT) (eps : α) (is_none : Bool)
    (reset : X → Wt → Nat → P → C → Bool) (s : List Wt × List Nat × Nat × P × L × Bool) :
    List Wt × List Nat × Nat × P × L × Bool :=
  (Xs.zipIdx).foldl (row setL E mt eps is_none reset) s

theorem fitgif_epoch (z : List Wt × List Nat × Nat × P × List Int × Bool) (e : Nat) :
    Art.Gen.FitGif.fit_loop2_body E Art.Gen.FitGif.base_hooks Xs mt eps v is_none reset z e =
      .next (epoch setZ E Xs mt eps is_none reset z) := by
  unfold Art.Gen.FitGif.fit_loop2_body epoch
  have h := forEach_next (R := SelfZ Wt P × Unit) (row setZ E mt eps is_none reset)
    (Art.Gen.FitGif.fit_loop1_body E Art.Gen.FitGif.base_hooks Xs mt eps is_none reset)
    (fitgif_row E Xs mt eps is_none reset) Xs.zipIdx z
  cases v <;> simp only [if_true, Bool.false_eq_true, if_false, h]

theorem control_epoch (s : List Wt × List Nat × Nat × P × List Nat × Bool) (e : Nat) :
    Art.Gen.BaseART.fit_loop2_body E Xs mt eps v is_none reset s e = .next (epoch setN E Xs mt eps is_none reset s) := by
  unfold Art.Gen.BaseART.fit_loop2_body epoch
  have h := forEach_next (R := Self Wt P × Unit) (row setN E mt eps is_none reset)
    (Art.Gen.BaseART.fit_loop1_body E Xs mt eps is_none reset)
    (control_row E Xs mt eps is_none reset) Xs.zipIdx s
  cases v <;> simp only [if_true, Bool.false_eq_true, if_false, h]

/-- all epochs: the two estimators stay in agreement; if there is at least one epoch, the labels agree everywhere
afterwards, whatever the initial fill was -/
theorem loops_sim :
    ∀ (es : List Nat) (K : Nat) (z : List Wt × List Nat × Nat × P × List Int × Bool)
      (s : List Wt × List Nat × Nat × P × List Nat × Bool), Sim K Xs.length z s →
      ∃ z' s', forEach (Art.Gen.FitGif.fit_loop2_body E Art.Gen.FitGif.base_hooks Xs mt eps v is_none reset) es z = .next z' ∧
        forEach (Art.Gen.BaseART.fit_loop2_body E Xs mt eps v is_none reset) es s = .next s' ∧
        Sim K Xs.length z' s' ∧ (es ≠ [] → K = 0 → Sim Xs.length Xs.length z' s') := by
  intro es
  induction es with
  | nil => intro K z s h; exact ⟨z, s, rfl, rfl, h, fun hne => absurd rfl hne⟩
  | cons e es ih =>
    intro K z s h
    simp only [forEach, fitgif_epoch, control_epoch]
    obtain ⟨h1, h2⟩ := epoch_sim E mt eps is_none reset Xs.length Xs 0 K z s h
    obtain ⟨z', s', hz, hs, h3, _⟩ := ih K _ _ h1
    refine ⟨z', s', hz, hs, h3, ?_⟩
    intro _ hK
    have h4 := h2 hK
    rw [Nat.zero_add] at h4
    obtain ⟨z'', s'', hz', hs', h5, _⟩ := ih Xs.length _ _ h4
    rw [hz] at hz'; rw [hs] at hs'
    cases hz'; cases hs'
    exact h5

/-- an estimator of ArtGen/Control.lean with its labels read as integers -/
def liftZ (s : Self Wt P) : SelfZ Wt P :=
  { W := s.W, cnt := s.cnt, n := s.n, params := s.params, labels := s.labels.map Int.ofNat, hasW := s.hasW }

/-- **The two training calls side by side**: `fitFrom` over the integers from the label vector `lab0`, and the
generated `BaseART.fit` of ArtGen/Control.lean (over the naturals, from zeros), end in the same weights, counters and
`params`; their labels agree where `lab0` agreed with the zeros, and everywhere once there has been an epoch. -/
theorem fitFrom_sim (E : Ext X Wt P C α) (lab0 : List Int) (self : SelfZ Wt P) (sN : Self Wt P)
    (hp : self.params = sN.params) (Xs : List X) (K : Nat)
    (h0 : LabRel K Xs.length lab0 (List.replicate Xs.length 0)) (is_none : Bool)
    (reset : X → Wt → Nat → P → C → Bool) (m : Nat) (mt : MT) (eps : α) (v : Bool) :
    ∃ W cnt n p hw lz ln,
      fitFrom E Art.Gen.FitGif.base_hooks lab0 self Xs is_none reset m mt eps v = (⟨W, cnt, n, p, lz, hw⟩, ()) ∧
      Art.Gen.BaseART.fit E sN Xs is_none reset m mt eps v = (⟨W, cnt, n, p, ln, hw⟩, ()) ∧
      LabRel K Xs.length lz ln ∧ (m ≠ 0 → K = 0 → LabRel Xs.length Xs.length lz ln) := by
  unfold fitFrom Art.Gen.BaseART.fit
  obtain ⟨z', s', hz, hs, h1, h2⟩ := loops_sim E Xs mt eps v is_none reset (List.range m) K
    ([], [], 0, sN.params, lab0, true) ([], [], 0, sN.params, List.replicate Xs.length 0, true)
    ⟨_, _, _, _, _, _, _, rfl, rfl, h0⟩
  obtain ⟨W, cnt, n, p, hw, lz, ln, rfl, rfl, hl⟩ := h1
  dsimp only
  rw [hp, hz, hs]
  refine ⟨W, cnt, n, p, hw, lz, ln, rfl, rfl, hl, fun hm hK => ?_⟩
  obtain ⟨_, _, _, _, _, _, _, e1, e2, hl'⟩ := h2 (fun e => hm (List.range_eq_nil.mp e)) hK
  cases e1; cases e2
  exact hl'

/-- **The initial fill of `labels_` is irrelevant once there is an epoch**: started from ANY label vector of the
right length, at least one epoch of the generated training loop (BaseART's hooks) returns exactly what the generated
`BaseART.fit` of ArtGen/Control.lean returns — every entry has been overwritten. -/
theorem labels_overwritten (E : Ext X Wt P C α) (lab0 : List Int) (self : SelfZ Wt P) (sN : Self Wt P)
    (hp : self.params = sN.params) (Xs : List X) (hlen : lab0.length = Xs.length) (is_none : Bool)
    (reset : X → Wt → Nat → P → C → Bool) (m : Nat) (mt : MT) (eps : α) (v : Bool) :
    fitFrom E Art.Gen.FitGif.base_hooks lab0 self Xs is_none reset (m + 1) mt eps v =
      (liftZ (Art.Gen.BaseART.fit E sN Xs is_none reset (m + 1) mt eps v).1, ()) := by
  obtain ⟨W, cnt, n, p, hw, lz, ln, hz, hs, -, hl⟩ := fitFrom_sim E lab0 self sN hp Xs 0
    ⟨hlen, List.length_replicate, fun j hj => absurd hj (Nat.not_lt_zero j)⟩ is_none reset (m + 1) mt eps v
  rw [hz, hs, labRel_full (hl (Nat.succ_ne_zero m) rfl) (Nat.le_refl _)]
  rfl

/-- **`BaseART.fit` as generated here (labels over the integers, hooks through `self.`, `step_fit` through the view)
is `BaseART.fit` as generated by ctrans (ArtGen/Control.lean)**, for every number of epochs — which ControlFit.lean
proves equal to the model's `fitEpochs`. -/
theorem fit_eq_control_fit (E : Ext X Wt P C α) (self : SelfZ Wt P) (sN : Self Wt P) (hp : self.params = sN.params)
    (Xs : List X) (is_none : Bool) (reset : X → Wt → Nat → P → C → Bool) (m : Nat) (mt : MT) (eps : α) (v : Bool) :
    Art.Gen.FitGif.fit E Art.Gen.FitGif.base_hooks self Xs is_none reset m mt eps v =
      (liftZ (Art.Gen.BaseART.fit E sN Xs is_none reset m mt eps v).1, ()) := by
  obtain ⟨W, cnt, n, p, hw, lz, ln, hz, hs, hl, -⟩ := fitFrom_sim E (List.replicate Xs.length 0) self sN hp Xs
    Xs.length ⟨List.length_replicate, List.length_replicate, fun j hj => by
      rw [List.getElem?_replicate, List.getElem?_replicate, if_pos hj, if_pos hj]; rfl⟩ is_none reset m mt eps v
  rw [fit_eq_fitFrom, hz, hs, labRel_full hl (Nat.le_refl _)]
  rfl

/-- **`fit_gif` with at least one epoch returns exactly what `fit` returns** (weights, per-category counters, sample
counter, `params`, labels): `BaseART.fit_gif`, translated from its source with the drawing removed, against
`BaseART.fit` as translated by ctrans — for all externals, data sets, reset functions, modes, epsilons,
`max_iter = m + 1`, with or without progress bar, and whatever the two estimators held before (same `params`). -/
theorem fit_gif_eq_fit (E : Ext X Wt P C α) (self : SelfZ Wt P) (sN : Self Wt P) (hp : self.params = sN.params)
    (Xs : List X) (is_none : Bool) (reset : X → Wt → Nat → P → C → Bool) (m : Nat) (mt : MT) (eps : α) (v : Bool) :
    Art.Gen.FitGif.fit_gif E Art.Gen.FitGif.base_hooks self Xs is_none reset (m + 1) mt eps v =
      (liftZ (Art.Gen.BaseART.fit E sN Xs is_none reset (m + 1) mt eps v).1, ()) := by
  rw [fit_gif_eq_fitFrom]
  exact labels_overwritten E _ self sN hp Xs (by simp) is_none reset m mt eps v

/-- the same, between the two definitions generated here -/
theorem fit_gif_eq_generated_fit (E : Ext X Wt P C α) (self₁ self₂ : SelfZ Wt P) (hp : self₁.params = self₂.params)
    (Xs : List X) (is_none : Bool) (reset : X → Wt → Nat → P → C → Bool) (m : Nat) (mt : MT) (eps : α) (v : Bool) :
    Art.Gen.FitGif.fit_gif E Art.Gen.FitGif.base_hooks self₁ Xs is_none reset (m + 1) mt eps v =
      Art.Gen.FitGif.fit E Art.Gen.FitGif.base_hooks self₂ Xs is_none reset (m + 1) mt eps v := by
  rw [fit_gif_eq_fit E self₁ self₂.toBase hp, fit_eq_control_fit E self₂ self₂.toBase rfl]

/-- **`max_iter = 0`**: no row is presented; both calls empty `W`, the counters and the sample counter, and differ in
`labels_` only — `fit_gif` leaves `-1` in every position, `fit` leaves `0`. -/
theorem fit_gif_zero_epochs (E : Ext X Wt P C α) (H : Hooks X Wt P) (self : SelfZ Wt P) (sN : Self Wt P) (Xs : List X)
    (is_none : Bool) (reset : X → Wt → Nat → P → C → Bool) (mt : MT) (eps : α) (v : Bool) :
    Art.Gen.FitGif.fit_gif E H self Xs is_none reset 0 mt eps v =
      (H.post_fit { W := [], cnt := [], n := 0, params := self.params, labels := List.replicate Xs.length (-1), hasW := true } Xs, ()) ∧
    Art.Gen.FitGif.fit E H self Xs is_none reset 0 mt eps v =
      (H.post_fit { W := [], cnt := [], n := 0, params := self.params, labels := List.replicate Xs.length 0, hasW := true } Xs, ()) ∧
    Art.Gen.BaseART.fit E sN Xs is_none reset 0 mt eps v =
      ({ W := [], cnt := [], n := 0, params := sN.params, labels := List.replicate Xs.length 0, hasW := true }, ()) :=
  ⟨rfl, rfl, rfl⟩

/-- `labels_` keeps the length it is given, for every number of epochs -/
theorem fitFrom_labels_length (E : Ext X Wt P C α) (lab0 : List Int) (self : SelfZ Wt P) (Xs : List X)
    (hlen : lab0.length = Xs.length) (is_none : Bool) (reset : X → Wt → Nat → P → C → Bool) (m : Nat) (mt : MT) (eps : α)
    (v : Bool) :
    (fitFrom E Art.Gen.FitGif.base_hooks lab0 self Xs is_none reset m mt eps v).1.labels.length = Xs.length := by
  obtain ⟨W, cnt, n, p, hw, lz, ln, hz, -, hl, -⟩ := fitFrom_sim E lab0 self self.toBase rfl Xs 0
    ⟨hlen, List.length_replicate, fun j hj => absurd hj (Nat.not_lt_zero j)⟩ is_none reset m mt eps v
  rw [hz]
  exact hl.1

/-- after `fit_gif` with at least one epoch `labels_` has one entry per row and no `-1` is left in it -/
theorem fit_gif_labels_nonneg (E : Ext X Wt P C α) (self : SelfZ Wt P) (Xs : List X) (is_none : Bool)
    (reset : X → Wt → Nat → P → C → Bool) (m : Nat) (mt : MT) (eps : α) (v : Bool) :
    (Art.Gen.FitGif.fit_gif E Art.Gen.FitGif.base_hooks self Xs is_none reset (m + 1) mt eps v).1.labels.length = Xs.length ∧
    ∀ l ∈ (Art.Gen.FitGif.fit_gif E Art.Gen.FitGif.base_hooks self Xs is_none reset (m + 1) mt eps v).1.labels, 0 ≤ l := by
  constructor
  · rw [fit_gif_eq_fitFrom]
    exact fitFrom_labels_length E _ self Xs (by simp) is_none reset (m + 1) mt eps v
  · rw [fit_gif_eq_fit E self self.toBase rfl]
    intro l hl
    simp only [liftZ, List.mem_map] at hl
    obtain ⟨k, _, rfl⟩ := hl
    exact Int.natCast_nonneg k

end Base

/-! ### 3. Transport: `fit_gif` is the model's `fitEpochs`, with the C05 / C07 corollaries -/

section Model
variable {X Wt P C α μ θ : Type} [LinearOrder α] [Inhabited Wt] [Inhabited C]

/-- **`fit_gif(X, max_iter = m + 1)` is the model's `fitEpochs`** (the theorem ControlFit.lean proves for `fit`,
transported): weights, per-category counters, sample counter and labels; `params` is handed back untouched. -/
theorem fit_gif_spec (K : Kernel X Wt α μ) (cfg : SearchCfg μ θ) (E : Ext X Wt P C α) (th : P → θ)
    (is_none : Bool) (reset : X → Wt → Nat → P → C → Bool) (vetoF : X → Nat → Bool) (mt : MT) (eps : α)
    (hG : Control.GContract K cfg E th is_none reset vetoF mt eps) (self : SelfZ Wt P) (Xs : List X) (m : Nat) (v : Bool) :
    Art.Gen.FitGif.fit_gif E Art.Gen.FitGif.base_hooks self Xs is_none reset (m + 1) mt eps v =
      (let r := fitEpochs K cfg (th self.params) (fun _ x c => vetoF x c) (m + 1) Xs
       ({ W := r.W, cnt := r.cnt, n := r.n, params := self.params, labels := r.labels.map Int.ofNat, hasW := true }, ())) := by
  rw [fit_gif_eq_fit E self self.toBase rfl,
      Control.fit_spec K cfg E th is_none reset vetoF mt eps hG self.toBase Xs (m + 1) v]
  rfl

/-- **After `fit_gif` (one epoch) labels, cluster count and per-category counters are mutually consistent** (C05's
`Consistent`, transported: one counter per category, every label indexes a category, counters = label histogram,
sample counter = number of labels, no empty category, categories numbered in order of creation) — the statement the
seeded fault F45 (`fit_gif` kept the previous model's counters) violated. -/
theorem fit_gif_one_consistent (K : Kernel X Wt α μ) (cfg : SearchCfg μ θ) (E : Ext X Wt P C α) (th : P → θ)
    (is_none : Bool) (reset : X → Wt → Nat → P → C → Bool) (vetoF : X → Nat → Bool) (mt : MT) (eps : α)
    (hG : Control.GContract K cfg E th is_none reset vetoF mt eps) (self : SelfZ Wt P) (Xs : List X) (v : Bool) :
    ∃ s : ArtState Wt, Consistent s ∧ s.labels.length = Xs.length ∧
      Art.Gen.FitGif.fit_gif E Art.Gen.FitGif.base_hooks self Xs is_none reset 1 mt eps v =
        ({ W := s.W, cnt := s.cnt, n := s.n, params := self.params, labels := s.labels.map Int.ofNat, hasW := true }, ()) := by
  refine ⟨fit K cfg (th self.params) (fun _ x c => vetoF x c) {} Xs, fit_consistent K cfg _ _ {} Xs, ?_, ?_⟩
  · have := partialFit_labels_length K cfg (th self.params) (fun _ x c => vetoF x c) ({} : ArtState Wt) Xs
    simpa [fit] using this
  · rw [fit_gif_spec K cfg E th is_none reset vetoF mt eps hG self Xs 0 v]
    simp only [Nat.zero_add]
    rw [Control.fitEpochs_one K cfg (th self.params) vetoF {} Xs]

/-- **`fit_gif` changes no hyper-parameter** (C07, transported) -/
theorem fit_gif_restores_params (K : Kernel X Wt α μ) (cfg : SearchCfg μ θ) (E : Ext X Wt P C α) (th : P → θ)
    (is_none : Bool) (reset : X → Wt → Nat → P → C → Bool) (vetoF : X → Nat → Bool) (mt : MT) (eps : α)
    (hG : Control.GContract K cfg E th is_none reset vetoF mt eps) (self : SelfZ Wt P) (Xs : List X) (m : Nat) (v : Bool) :
    (Art.Gen.FitGif.fit_gif E Art.Gen.FitGif.base_hooks self Xs is_none reset m mt eps v).1.params = self.params := by
  cases m with
  | zero => rfl
  | succ m => rw [fit_gif_spec K cfg E th is_none reset vetoF mt eps hG self Xs m v]

end Model

section ScalarFitGif
variable {X Wt β : Type} [Field β] [LinearOrder β] [IsStrictOrderedRing β]

/-- **`BaseART.fit_gif`, statements and decision tables all translated from the source, is the model's `fitEpochs`
under the scalar configuration** (every elementary module with a scalar, non-inverted vigilance). -/
theorem scalar_fit_gif [Inhabited Wt] (K : Kernel X Wt β β) (inf eps : β) (mt : MT) (is_none : Bool) (vetoF : X → Nat → Bool)
    (hv : is_none = true → ∀ x c, vetoF x c = false) (self : SelfZ Wt β) (Xs : List X) (m : Nat) (v : Bool) :
    letI : Inhabited β := ⟨0⟩
    Art.Gen.FitGif.fit_gif (Control.scalarExt K inf) Art.Gen.FitGif.base_hooks self Xs is_none (fun x _ c _ _ => !vetoF x c)
        (m + 1) mt eps v =
      (let r := fitEpochs K (scalarCfg mt false (· + eps) (· - eps) inf) self.params (fun _ x c => vetoF x c) (m + 1) Xs
       ({ W := r.W, cnt := r.cnt, n := r.n, params := self.params, labels := r.labels.map Int.ofNat, hasW := true }, ())) := by
  let _ : Inhabited β := ⟨0⟩
  exact fit_gif_spec K _ (Control.scalarExt K inf) id is_none _ vetoF mt eps
    (Control.scalar_gcontract K inf eps mt is_none vetoF hv) self Xs m v

end ScalarFitGif

/-! ### Non-vacuity: the generated `fit_gif`, run on a concrete Fuzzy ART over ℚ -/

private def exSelf : SelfZ (List ℚ) ℚ :=
  { W := [[1, 1, 1, 1]], cnt := [7], n := 7, params := 3/4, labels := [5] }

private def exX : List (List ℚ) := [[3/4, 1/4, 1/4, 3/4], [1/4, 3/4, 3/4, 1/4], [3/4, 1/4, 1/4, 3/4]]

/-- one epoch: two categories, the old counters (7) are gone, no `-1` is left -/
example :
    letI : Inhabited ℚ := ⟨0⟩
    (Art.Gen.FitGif.fit_gif (Control.scalarExt (fuzzyKernel (1/100 : ℚ) 1 2) 1000) Art.Gen.FitGif.base_hooks exSelf exX
      true (fun _ _ _ _ _ => true) 1 MT.plus (1/1000) false).1.labels = [0, 1, 0] := by
  decide +kernel

example :
    letI : Inhabited ℚ := ⟨0⟩
    (Art.Gen.FitGif.fit_gif (Control.scalarExt (fuzzyKernel (1/100 : ℚ) 1 2) 1000) Art.Gen.FitGif.base_hooks exSelf exX
      true (fun _ _ _ _ _ => true) 1 MT.plus (1/1000) false).1.cnt = [2, 1] := by
  decide +kernel

/-- no epoch: `-1` everywhere (where `fit` leaves `0`) -/
example :
    letI : Inhabited ℚ := ⟨0⟩
    (Art.Gen.FitGif.fit_gif (Control.scalarExt (fuzzyKernel (1/100 : ℚ) 1 2) 1000) Art.Gen.FitGif.base_hooks exSelf exX
      true (fun _ _ _ _ _ => true) 0 MT.plus (1/1000) false).1.labels = [-1, -1, -1] := by
  decide +kernel

end Art.GenSpec.FitGif
