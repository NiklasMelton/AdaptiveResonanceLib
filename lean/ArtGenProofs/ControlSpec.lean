/-
ArtGenProofs.ControlSpec — the search loop of `BaseART.step_fit`, as translated from the Python source by
`harness/artv/ctrans.py` (ArtGen/Control.lean), computes the model's `Art.stepFit` — for every state, sample,
reset function, match-tracking mode and epsilon, under the kernel contract stated as hypotheses.
-/
import Mathlib.Order.Basic
import Mathlib.Order.Defs.LinearOrder
import ArtGen.Control
import ArtProofs.Order
import ArtProofs.Search
import ArtProofs.Fit
import ArtProofs.Imp
import ArtGenProofs.GenSpec
import Mathlib.Algebra.Order.Field.Rat

namespace Art.GenSpec.Control

open Art Art.Imp

section Kernel
variable {X Wt P C α μ θ : Type} [LinearOrder α]

/-- `any(~isnan(T))` is the guard under which `nanargmax` is defined -/
theorem any_isSome_iff (T : List (Option α)) : T.any Option.isSome = true ↔ ∃ c, nanargmax T = some c := by
  constructor
  · intro h
    cases hn : nanargmax T with
    | some c => exact ⟨c, rfl⟩
    | none =>
      have := nanargmax_eq_none_iff.mp hn
      simp only [List.any_eq_true] at h
      obtain ⟨t, ht, hs⟩ := h
      rw [this t ht] at hs
      simp at hs
  · rintro ⟨c, hc⟩
    obtain ⟨v, hv⟩ := nanargmax_isSome_at hc
    simp only [List.any_eq_true]
    exact ⟨some v, List.mem_of_getElem? hv, rfl⟩

theorem any_isSome_eq_false {T : List (Option α)} (h : nanargmax T = none) : T.any Option.isSome = false := by
  cases hany : T.any Option.isSome with
  | false => rfl
  | true =>
    obtain ⟨c, hc⟩ := (any_isSome_iff T).mp hany
    rw [h] at hc; cases hc

/-- what one iteration of the loop body does, in the model's vocabulary -/
structure BodySpec {R S : Type} (cfg : SearchCfg μ θ) (M : Nat → μ) (veto : Nat → Bool) (th : P → θ)
    (pack : P → List (Option α) → S) (res : Nat → R) (body : S → Flow R S) (L : Nat) : Prop where
  step : ∀ (p : P) (T : List (Option α)) (c : Nat), T.length = L → nanargmax T = some c →
    let m := cfg.passes (th p) (M c)
    let ok := cfg.tilde || !veto c
    if m && ok then body (pack p T) = .ret (res c)
    else if m && !ok then
      ∃ p1, th p1 = cfg.track (th p) (M c) ∧
        body (pack p T) = .next (pack p1 (if cfg.keep then T.set c none else (T.set c none).map (fun _ => none)))
    else body (pack p T) = .next (pack p (T.set c none))

theorem all_none_nanargmax (T : List (Option α)) : nanargmax (T.map (fun _ => (none : Option α))) = none := by
  rw [nanargmax_eq_none_iff]
  intro t ht
  simp only [List.mem_map] at ht
  obtain ⟨_, _, rfl⟩ := ht
  rfl

/-- the translated `while` loop follows the model's `search` -/
theorem loop_follows_search {R S : Type} (cfg : SearchCfg μ θ) (M : Nat → μ) (veto : Nat → Bool) (th : P → θ)
    (pack : P → List (Option α) → S) (res : Nat → R) (cond : S → Bool) (body : S → Flow R S)
    (hcond : ∀ p T, cond (pack p T) = T.any Option.isSome)
    (L : Nat) (hbody : BodySpec cfg M veto th pack res body L) :
    ∀ (fuel : Nat) (p : P) (T : List (Option α)), T.length = L →
      match (search cfg M veto fuel T (th p)).winner with
      | some c => whileFuel cond body fuel (pack p T) = .ret (res c)
      | none => ∃ p' T', whileFuel cond body fuel (pack p T) = .next (pack p' T') := by
  intro fuel
  induction fuel with
  | zero => intro p T _; exact ⟨p, T, rfl⟩
  | succ n ih =>
    intro p T hL
    rw [search_succ]
    cases hn : nanargmax T with
    | none => exact ⟨p, T, whileFuel_stop _ ((hcond p T).trans (any_isSome_eq_false hn))⟩
    | some c =>
      have hc : cond (pack p T) = true := (hcond p T).trans ((any_isSome_iff T).mpr ⟨c, hn⟩)
      have hs := hbody.step p T c hL hn
      have hlen : (T.set c none).length = L := by rw [List.length_set, hL]
      dsimp only at hs ⊢
      generalize cfg.passes (th p) (M c) = m at hs ⊢
      generalize (cfg.tilde || !veto c) = ok at hs ⊢
      cases m <;> cases ok
      · rw [whileFuel_next n hc hs]; exact ih p _ hlen
      · rw [whileFuel_next n hc hs]; exact ih p _ hlen
      · obtain ⟨p1, hp1, hb⟩ := hs
        rw [whileFuel_next n hc hb]
        cases hk : cfg.keep
        · -- the model stops; the code blanks `T` and the next guard fails
          exact ⟨p1, _, whileFuel_stop n ((hcond _ _).trans (any_isSome_eq_false (all_none_nanargmax _)))⟩
        · have := ih p1 _ hlen
          rw [hp1] at this
          exact this
      · exact whileFuel_ret n hc hs

/-- The kernel contract: how the abstract methods called by `step_fit` (fields of `E`) relate to the model's
kernel `K` and search configuration `cfg`.  `th` reads the vigilance state out of a `params` dictionary. -/
structure Contract (K : Kernel X Wt α μ) (cfg : SearchCfg μ θ) (E : Ext X Wt P C α) (th : P → θ)
    (W : List Wt) (x : X) (p0 : P) (is_none : Bool) (reset : X → Wt → Nat → P → C → Bool)
    (veto : Nat → Bool) (mt : MT) (eps : α) : Prop where
  /-- activations are computed with the configured parameters -/
  choice : ∀ w, (E.category_choice W x w p0).1 = K.choice W x w
  /-- the binary match test depends on `params` only through the vigilance state -/
  passes : ∀ w p c, (E.match_criterion_bin x w p c (E.operator mt)).1 = cfg.passes (th p) (K.matchv x w)
  /-- `_match_tracking` reads the match value from the cache `match_criterion_bin` returned -/
  track : ∀ w p c, th (E.match_tracking (E.match_criterion_bin x w p c (E.operator mt)).2 eps p mt).2
            = cfg.track (th p) (K.matchv x w)
  keep : ∀ c p, (E.match_tracking c eps p mt).1 = cfg.keep
  /-- learning does not depend on the vigilance state or the cache contents beyond the kernel's own rule -/
  update : ∀ w p c, E.update x w p c = K.update x w
  newW : ∀ p, E.new_weight x p = K.newW x
  /-- `cfg.tilde` says the mode is MT~ (without a reset function nothing is vetoed, so it is then irrelevant) -/
  tilde : cfg.tilde = [MT.tilde].contains mt
  veto_none : is_none = true → ∀ c, veto c = false
  /-- the reset function's answer for category `c` does not depend on `params` / `cache` -/
  veto_some : is_none = false → ∀ c w p ch, W[c]? = some w → reset x w c p ch = !veto c

variable [Inhabited Wt] [Inhabited C]

/-- one iteration of the translated loop body, in the model's vocabulary -/
theorem body_spec (K : Kernel X Wt α μ) (cfg : SearchCfg μ θ) (E : Ext X Wt P C α) (th : P → θ)
    (W : List Wt) (cnt : List Nat) (n : Nat) (lab : List Nat) (hw : Bool) (p0 : P) (x : X) (is_none : Bool)
    (reset : X → Wt → Nat → P → C → Bool) (veto : Nat → Bool) (mt : MT) (eps : α) (Tc : List C)
    (hC : Contract K cfg E th W x p0 is_none reset veto mt eps) :
    BodySpec cfg (matchAt K W x) veto th (fun p T => (cnt, W, p, T))
      (fun c => (({ W := W.set c (K.update x W[c]!), cnt := cnt.set c (cnt[c]! + 1), n := n, params := p0,
                    labels := lab, hasW := hw } : Self Wt P), c))
      (Art.Gen.BaseART.step_fit_loop1_body E n lab hw x mt eps p0 (E.operator mt) Tc is_none reset) W.length := by
  constructor
  intro p T c hL hn
  have hc : c < W.length := hL ▸ nanargmax_lt_length hn
  have hWc : W[c]? = some W[c] := List.getElem?_eq_getElem hc
  have hget : W[c]! = W[c] := getElem!_pos W c hc
  have hM : matchAt K W x c = K.matchv x W[c] := by rw [matchAt, hWc]
  -- the veto, as the model names it (whatever cache the reset function is shown)
  have hok : ∀ ch : C, (if ([MT.tilde].contains mt && !is_none) = true then true
              else (is_none || reset x W[c] c p ch)) = (cfg.tilde || !veto c) := by
    intro ch
    rw [hC.tilde]
    cases hn' : is_none with
    | true => rw [hC.veto_none hn' c]; cases [MT.tilde].contains mt <;> rfl
    | false => rw [hC.veto_some hn' c W[c] p ch hWc]; cases [MT.tilde].contains mt <;> rfl
  unfold Art.Gen.BaseART.step_fit_loop1_body
  simp only [hn, Option.getD_some, hget, hM, hC.passes, hC.update, hC.keep, hok]
  cases hm : cfg.passes (th p) (K.matchv x W[c]) <;> cases ho : (cfg.tilde || !veto c)
  · rfl
  · rfl
  · refine ⟨_, hC.track W[c] p Tc[c]!, ?_⟩
    cases cfg.keep <;> rfl
  · rfl
omit [Inhabited Wt] [Inhabited C] in
/-- the activation vector computed before the loop (with the MT~ pre-pass) is the model's -/
theorem activations_spec (K : Kernel X Wt α μ) (cfg : SearchCfg μ θ) (E : Ext X Wt P C α) (th : P → θ)
    (W : List Wt) (p0 : P) (x : X) (is_none : Bool) (reset : X → Wt → Nat → P → C → Bool) (veto : Nat → Bool)
    (mt : MT) (eps : α) (hC : Contract K cfg E th W x p0 is_none reset veto mt eps) :
    (if ([MT.tilde].contains mt && !is_none) = true then
        ((List.zipIdx W).map (fun wc => if reset x wc.1 wc.2 p0 E.noneC then E.category_choice W x wc.1 p0 else (none, E.noneC))).map Prod.fst
      else (W.map (fun w => E.category_choice W x w p0)).map Prod.fst)
    = strikeVetoed cfg.tilde veto (activations K W x) := by
  apply List.ext_getElem?
  intro j
  rw [strikeVetoed_getElem?, hC.tilde, activations, List.getElem?_map]
  have plain : ((W.map (fun w => E.category_choice W x w p0)).map Prod.fst)[j]? = (W[j]?).map (K.choice W x) := by
    rw [List.map_map, List.getElem?_map]
    cases W[j]? with
    | none => rfl
    | some w => exact congrArg some (hC.choice w)
  cases hn' : is_none with
  | true =>
    rw [hC.veto_none hn' j, Bool.not_true, Bool.and_false, if_neg Bool.false_ne_true, plain]
    cases W[j]? <;> rfl
  | false =>
    cases [MT.tilde].contains mt with
    | false =>
      rw [Bool.false_and, if_neg Bool.false_ne_true, plain]
      cases W[j]? <;> rfl
    | true =>
      rw [Bool.not_false, Bool.and_true, if_pos rfl, List.getElem?_map, List.getElem?_map, List.getElem?_zipIdx]
      cases hj : W[j]? with
      | none => rfl
      | some w =>
        simp only [Option.map_some, Nat.zero_add, Bool.true_and, hC.veto_some hn' j w p0 E.noneC hj]
        cases veto j
        · exact congrArg some (hC.choice w)
        · rfl
/-- **The translated `BaseART.step_fit` computes the model's `stepFit`** — weights, counters, sample counter,
returned label — and leaves `params` exactly as it found them, for every state, sample, reset function, mode
and epsilon that satisfy the kernel contract.  `fuel = len(W)` iterations suffice. -/
theorem step_fit_refines (K : Kernel X Wt α μ) (cfg : SearchCfg μ θ) (E : Ext X Wt P C α) (th : P → θ)
    (self : Self Wt P) (x : X) (is_none : Bool) (reset : X → Wt → Nat → P → C → Bool)
    (veto : Nat → Bool) (mt : MT) (eps : α)
    (hC : Contract K cfg E th self.W x self.params is_none reset veto mt eps) :
    Art.Gen.BaseART.step_fit E self.W.length self x is_none reset mt eps =
      (let r := stepFit K cfg (th self.params) veto ⟨self.W, self.cnt, self.n, self.labels⟩ x
       (⟨r.1.W, r.1.cnt, r.1.n, self.params, self.labels, self.hasW⟩, r.2)) := by
  unfold Art.Gen.BaseART.step_fit stepFit
  by_cases hW : self.W = []
  · simp [hW, applyWinner, hC.newW]
  · have hlen : (self.W.length == 0) = false := by simp [hW]
    have hemp : self.W.isEmpty = false := by simp [hW]
    simp only [hlen, hemp, Bool.false_eq_true, if_false, apply_ite Prod.fst,
      activations_spec K cfg E th self.W self.params x is_none reset veto mt eps hC]
    have hTlen : (strikeVetoed cfg.tilde veto (activations K self.W x)).length = self.W.length := by
      rw [strikeVetoed_length, activations_length]
    have hloop := fun Tc => loop_follows_search cfg (matchAt K self.W x) veto th
      (fun p T => (self.cnt, self.W, p, T))
      (fun c => (({ W := self.W.set c (K.update x self.W[c]!), cnt := self.cnt.set c (self.cnt[c]! + 1),
                    n := self.n + 1, params := self.params, labels := self.labels, hasW := self.hasW } : Self Wt P), c))
      (Art.Gen.BaseART.step_fit_loop1_cond E)
      (Art.Gen.BaseART.step_fit_loop1_body E (self.n + 1) self.labels self.hasW x mt eps self.params (E.operator mt) Tc is_none reset)
      (fun _ _ => rfl) self.W.length
      (body_spec K cfg E th self.W self.cnt (self.n + 1) self.labels self.hasW self.params x is_none reset veto mt eps Tc hC)
      self.W.length self.params (strikeVetoed cfg.tilde veto (activations K self.W x)) hTlen
    have hlt := stepSearch_winner_lt K cfg (th self.params) veto self.W x
    rw [stepSearch_eq] at hlt ⊢
    generalize (search cfg (matchAt K self.W x) veto self.W.length
        (strikeVetoed cfg.tilde veto (activations K self.W x)) (th self.params)).winner = o at hloop hlt ⊢
    cases o with
    | none =>
      obtain ⟨p', T', h2⟩ := hloop _
      rw [h2]
      simp only [hC.newW, applyWinner_none]
    | some c =>
      rw [hloop _, applyWinner_some K _ x (hlt c rfl)]
      simp [hlt c rfl]
/-- **Hyper-parameters are invariant under one training step** (C07 for the generic loop): whatever match tracking
did to `params` during the search, the translated `step_fit` hands back the dictionary it was given. -/
theorem step_fit_restores_params (K : Kernel X Wt α μ) (cfg : SearchCfg μ θ) (E : Ext X Wt P C α) (th : P → θ)
    (self : Self Wt P) (x : X) (is_none : Bool) (reset : X → Wt → Nat → P → C → Bool)
    (veto : Nat → Bool) (mt : MT) (eps : α)
    (hC : Contract K cfg E th self.W x self.params is_none reset veto mt eps) :
    (Art.Gen.BaseART.step_fit E self.W.length self x is_none reset mt eps).1.params = self.params := by
  rw [step_fit_refines K cfg E th self x is_none reset veto mt eps hC]

/-- `sample_counter_` advances by one -/
theorem step_fit_counts (K : Kernel X Wt α μ) (cfg : SearchCfg μ θ) (E : Ext X Wt P C α) (th : P → θ)
    (self : Self Wt P) (x : X) (is_none : Bool) (reset : X → Wt → Nat → P → C → Bool)
    (veto : Nat → Bool) (mt : MT) (eps : α)
    (hC : Contract K cfg E th self.W x self.params is_none reset veto mt eps) :
    (Art.Gen.BaseART.step_fit E self.W.length self x is_none reset mt eps).1.n = self.n + 1 := by
  rw [step_fit_refines K cfg E th self x is_none reset veto mt eps hC]
  exact (stepFit_frame K cfg (th self.params) veto _ x).1

end Kernel

/-! ### The contract is met by every module with a scalar vigilance, with the decision tables taken from the
GENERATED `_match_tracking`, `_match_tracking_operator` and `match_criterion_bin` (ArtGen/Kernels.lean) -/

section Scalar
variable {X Wt β : Type} [Field β] [LinearOrder β] [IsStrictOrderedRing β]

/-- externals of an elementary module: the numeric kernel `K`, and for the decisions the generated tables.
`params` is abstracted to the vigilance value, a cache to the match value it carries. -/
def scalarExt (K : Kernel X Wt β β) (inf : β) : Ext X Wt β β β where
  category_choice := fun W x w _ => (K.choice W x w, K.matchv x w)
  match_criterion_bin := fun x w rho _ strict =>
    (Gen.BaseART.match_bin (fun a b => if strict then decide (b < a) else decide (b ≤ a)) (K.matchv x w) rho, K.matchv x w)
  update := fun x w _ _ => K.update x w
  new_weight := fun x _ => K.newW x
  match_tracking := fun M eps rho mt =>
    ((Gen.BaseART.match_tracking inf mt M eps rho).2, (Gen.BaseART.match_tracking inf mt M eps rho).1)
  operator := Gen.BaseART.strict
  noneC := 0

theorem scalar_contract (K : Kernel X Wt β β) (W : List Wt) (inf rho eps : β) (x : X) (mt : MT)
    (is_none : Bool) (veto : Nat → Bool) (hv : is_none = true → ∀ c, veto c = false) :
    Contract K (scalarCfg mt false (· + eps) (· - eps) inf) (scalarExt K inf) id W x rho is_none
      (fun _ _ c _ _ => !veto c) veto mt eps where
  choice := fun _ => rfl
  passes := fun w p _ => by
    simp only [scalarExt, id]
    exact base_match_bin mt (K.matchv x w) p
  track := fun w p _ => by
    simp only [scalarExt, id, base_match_tracking]
  keep := fun _ p => by
    simp only [scalarExt, base_match_tracking]
  update := fun _ _ _ => rfl
  newW := fun _ => rfl
  tilde := by cases mt <;> rfl
  veto_none := hv
  veto_some := fun _ _ _ _ _ _ => rfl

/-- **`BaseART.step_fit`, as translated from the source and with the decision tables as translated from the source,
is the model's `stepFit` under the scalar configuration** — for every elementary module with a scalar,
non-inverted vigilance, every state, sample, veto pattern, mode and epsilon. -/
theorem scalar_step_fit [Inhabited Wt] (K : Kernel X Wt β β) (inf eps : β) (self : Self Wt β) (x : X) (mt : MT)
    (is_none : Bool) (veto : Nat → Bool) (hv : is_none = true → ∀ c, veto c = false) :
    letI : Inhabited β := ⟨0⟩
    Art.Gen.BaseART.step_fit (scalarExt K inf) self.W.length self x is_none (fun _ _ c _ _ => !veto c) mt eps =
      (let r := stepFit K (scalarCfg mt false (· + eps) (· - eps) inf) self.params veto ⟨self.W, self.cnt, self.n, self.labels⟩ x
       (⟨r.1.W, r.1.cnt, r.1.n, self.params, self.labels, self.hasW⟩, r.2)) := by
  letI : Inhabited β := ⟨0⟩
  exact step_fit_refines K _ (scalarExt K inf) id self x is_none _ veto mt eps
    (scalar_contract K self.W inf self.params eps x mt is_none veto hv)

end Scalar

/-! ### The hypotheses are satisfiable: a concrete Fuzzy ART state over ℚ, a vetoing reset function, MT+ -/

private def exSelf : Self (List ℚ) ℚ :=
  { W := [[1/2, 1/2, 1/2, 1/2], [1, 0, 0, 1]], cnt := [1, 1], n := 2, params := 1/2 }

/-- the translated code, run on that state: category 1 is vetoed, category 0 resonates and learns -/
example :
    letI : Inhabited ℚ := ⟨0⟩
    (Art.Gen.BaseART.step_fit (scalarExt (fuzzyKernel (1/100 : ℚ) 1 2) 1000) 2 exSelf
      [3/4, 1/4, 1/4, 3/4] false (fun _ _ c _ _ => !(c == 1)) MT.plus (1/1000)).2 = 0 := by
  decide +kernel

/-- and the contract holds for it (so `scalar_step_fit` applies) -/
example : Contract (fuzzyKernel (1/100 : ℚ) 1 2) (scalarCfg MT.plus false (· + 1/1000) (· - 1/1000) 1000)
    (scalarExt (fuzzyKernel (1/100 : ℚ) 1 2) 1000) id exSelf.W [3/4, 1/4, 1/4, 3/4] exSelf.params false
    (fun _ _ c _ _ => !(c == 1)) (fun c => c == 1) MT.plus (1/1000) :=
  scalar_contract _ _ _ _ _ _ _ _ _ (by simp)

end Art.GenSpec.Control
