/-
ArtGenProofs.FalconSpec — FALCON / TD-FALCON (`artlib/reinforcement/FALCON.py`) and the complement-coding helpers of
`artlib/common/utils.py`, as translated from the Python source by `harness/artv/rtrans.py` (ArtGen/Falcon.lean),
compute the definitions of `ArtModel/Falcon.lean` that the C16 property theorems are stated about — for all array
lengths, all states of the nested estimator, all action spaces.  The nested FusionART is an abstract object
(`FusionOps`); what is assumed of it is the structure `Tie` (its `join_channel_data` / `fit` / `partial_fit` /
`predict` / `get_channel_centers` / `modules[k].prepare_data` are the FusionART model's, with three channels);
`exTie` shows the assumptions satisfiable and the section `Example` runs the generated code over ℚ.

  npArgmax_eq / npArgmin_eq        the numpy scans of ImpFalcon = the model's argmaxFirst / argminFirst
  compliment_code_col              compliment_code of an (n,1) array = rows [t, 1 - t]  (ccScalar)
  de_compliment_code_eq            de_compliment_code of width-2 rows = the (n,1) array of deccScalar
  falcon_fit_spec / falcon_partial_fit_spec     fit / partial_fit = falconFit / falconPartialFit
  get_rewards_spec                 get_rewards = allSome (getRewards …)
  get_actions_and_rewards_spec     = (actionSpace …, allSome (actionRewards …))
  get_action_spec                  get_action … optimality = getAction … (optimality == "max")
  calculate_SARSA_spec             calculate_SARSA = calcSarsa, for any scalar Q that get_rewards returns as (n,1) array
  calculate_SARSA_model            … with Q = qValue of the FusionART model (scalar reward centres)
  td_partial_fit_spec              TD_FALCON.partial_fit = tdPartialFit
  gen_sarsa_target_formula / gen_sarsa_target_valid / gen_get_action_greedy    C16 transported to the generated code
Hypotheses that restrict the domain (outside them the generated code returns `none` = numpy raises, where the model
truncates): equal numbers of states / actions / rewards; reward rows of width 2; reward centres of width 1.
-/
import ArtGen.Falcon
import ArtProofs.Imp
import ArtProps.C16

set_option linter.unusedSectionVars false

namespace Art.GenSpec.Falcon
open Art Art.Fusion Art.Falcon Art.ImpFalcon Art.Gen.FALCON

section Arg

variable {α : Type} [LinearOrder α]

/-- `np.argmax` (left-to-right scan, first occurrence) = the model's `argmaxFirst` -/
theorem npArgmax_eq (l : List α) : npArgmax l = argmaxFirst l := npArgmax_eq_argmaxFirst l

/-- `np.argmin` = the model's `argminFirst` -/
theorem npArgmin_eq (l : List α) : npArgmin l = argminFirst l := npArgmin_eq_argminFirst l

end Arg

section Basics
variable {β γ : Type}

theorem allSome_bind_mapM {δ : Type} (g : β → Option γ) (h : γ → Option δ) (l : List β) :
    (allSome (l.map g)).bind (fun C => allSome (C.map h)) = allSome (l.map (fun x => (g x).bind h)) := by
  induction l with
  | nil => rfl
  | cons a l ih =>
    rw [List.map_cons, List.map_cons]
    cases g a with
    | none => rfl
    | some c =>
      show ((allSome (l.map g)).map (c :: ·)).bind (fun C => allSome (C.map h))
        = allSome (h c :: l.map (fun x => (g x).bind h))
      cases hC : allSome (l.map g) with
      | none =>
        rw [hC] at ih
        cases h c with
        | none => rfl
        | some d => rw [allSome, ← ih]; rfl
      | some C =>
        rw [hC, Option.bind_some] at ih
        show allSome (h c :: C.map h) = _
        cases h c with
        | none => rfl
        | some d => rw [allSome, allSome, ih]

/-- a loop that appends one answer per element is a `mapM` -/
theorem foldlM_append (f : β → Option γ) (l : List β) (acc : List γ) :
    l.foldlM (fun acc a => (f a).bind (fun c => some (acc ++ [c]))) acc
      = (allSome (l.map f)).map (acc ++ ·) := by
  induction l generalizing acc with
  | nil => exact congrArg some (List.append_nil acc).symm
  | cons a l ih =>
    rw [List.foldlM_cons, List.map_cons]
    cases f a with
    | none => rfl
    | some c =>
      rw [Option.bind_some, Option.bind_eq_bind, Option.bind_some, ih, allSome]
      cases allSome (l.map f) with
      | none => rfl
      | some C => exact congrArg some (List.append_cons acc c C).symm

end Basics

section Col
variable {α : Type}

/-- a list of numbers as an `(n, 1)` array -/
def col (xs : List α) : List (List α) := xs.map (fun x => [x])

theorem zipSame_eq {β γ δ : Type} (f : β → γ → δ) :
    ∀ (as : List β) (bs : List γ), as.length = bs.length → zipSame f as bs = some (List.zipWith f as bs)
  | [], [], _ => rfl
  | a :: as, b :: bs, h => by rw [zipSame, zipSame_eq f as bs (Nat.succ.inj h)]; rfl
  | [], _ :: _, h => nomatch h
  | _ :: _, [], h => nomatch h

theorem npZip2_col (f : α → α → α) :
    ∀ (xs ys : List α), xs.length = ys.length → npZip2 f (col xs) (col ys) = some (col (List.zipWith f xs ys))
  | [], [], _ => rfl
  | x :: xs, y :: ys, h => by
    have ih := npZip2_col f xs ys (Nat.succ.inj h)
    rw [col, col] at ih
    rw [col, col, List.map_cons, List.map_cons, npZip2, ih]
    rfl
  | [], _ :: _, h => nomatch h
  | _ :: _, [], h => nomatch h

theorem pyDropLast_one {β : Type} (v : List β) : pyDropLast v 1 = v.dropLast :=
  (List.dropLast_eq_take).symm

/-- an entrywise operation on an `(n, 1)` array -/
theorem map_map_col {β : Type} (g : α → β) (xs : List α) : (col xs).map (·.map g) = col (xs.map g) := by
  rw [col, col, List.map_map, List.map_map]
  rfl

theorem pyDropLast_col (xs : List α) : pyDropLast (col xs) 1 = col xs.dropLast := by
  rw [pyDropLast_one, col, col, List.map_dropLast]

theorem drop_col (xs : List α) (k : Nat) : (col xs).drop k = col (xs.drop k) :=
  (List.map_drop).symm

end Col

section CC
variable {α : Type} [Add α] [Sub α] [Mul α] [Div α] [Min α] [Max α] [Zero α] [One α]
  [LT α] [LE α] [DecidableRel (α := α) (· < ·)] [DecidableRel (α := α) (· ≤ ·)]

theorem npSMul_col (s : α) (xs : List α) : npSMul s (col xs) = col (xs.map (s * ·)) := map_map_col _ xs
theorem npSSub_col (s : α) (xs : List α) : npSSub s (col xs) = col (xs.map (s - ·)) := map_map_col _ xs
theorem npMinimumS_col (s : α) (xs : List α) : npMinimumS (col xs) s = col (xs.map (min · s)) := map_map_col _ xs
theorem npMaximumS_col (s : α) (xs : List α) : npMaximumS (col xs) s = col (xs.map (max · s)) := map_map_col _ xs
theorem npZerosLike_col (xs : List α) : npZerosLike (col xs) = col (xs.map (fun _ => (0 : α))) := map_map_col _ xs

/-- `compliment_code` of an `(n, 1)` array: the rows `[t, 1 - t]` -/
theorem compliment_code_col (ts : List α) : compliment_code (col ts) = some (ts.map ccScalar) := by
  unfold compliment_code
  simp only [npHstack, npSSub_col]
  rw [zipSame_eq _ _ _ (by rw [col, col, List.length_map, List.length_map, List.length_map])]
  simp only [Option.bind_eq_bind, Option.bind_some, pure]
  congr 1
  rw [col, col, List.map_map, List.zipWith_map_right, List.zipWith_map_left, List.zipWith_self]
  rfl

theorem decc_core (R : List (List α)) (h : ∀ r ∈ R, r.length = 2) :
    npAdd (npColsTo R 1) (npSSub 1 (npColsFrom R 1))
      = some (R.map (fun r => [r.getD 0 0 + (1 - r.getD 1 0)])) := by
  induction R with
  | nil => rfl
  | cons r R ih =>
    obtain ⟨a, b, rfl⟩ := List.length_eq_two.mp (h r List.mem_cons_self)
    have ih' := ih fun r' hr' => h r' (List.mem_cons_of_mem _ hr')
    simp only [npAdd, npColsTo, npSSub, npColsFrom, List.map_cons, npZip2] at ih' ⊢
    rw [ih']
    rfl

/-- `de_compliment_code` of width-2 rows: the `(n, 1)` array of `(r0 + (1 - r1)) / 2` -/
theorem de_compliment_code_eq (R : List (List α)) (h : ∀ r ∈ R, r.length = 2) :
    de_compliment_code R = some (col (R.map deccScalar)) := by
  cases R with
  | nil => rfl
  | cons r R =>
    simp only [de_compliment_code, npShape, List.head?_cons, Option.map_some, Option.getD_some,
      h r List.mem_cons_self, pyAssert, Nat.mod_self, decide_true, ↓reduceIte, Nat.div_self (by decide : 0 < 2),
      decc_core (r :: R) h, Option.bind_eq_bind, Option.bind_some, pure, npDivS, col, List.map_map]
    rfl

end CC

section Join
variable {α : Type}

/-- `join_channel_data` on whole arrays, row by row through the model's `joinRow`:
`n_samples = channel_data[0].shape[0]` (an empty list raises), and `np.hstack` needs every array to have that many rows -/
def joinMat (ws : List Nat) (skip : Nat → Bool) (filler : α) (data : List (List (List α))) :
    Option (List (List α)) :=
  match data with
  | [] => none
  | d0 :: _ =>
    if data.all (fun d => d.length == d0.length) then
      allSome ((List.range d0.length).map (fun i => joinRow ws skip filler (data.map (fun d => d.getD i []))))
    else none

theorem joinMat_eq_some {ws : List Nat} {skip : Nat → Bool} {filler : α} {d0 : List (List α)}
    {rest : List (List (List α))} {rows : List (List α)} (hlen : ∀ d ∈ rest, d.length = d0.length)
    (hrows : rows.length = d0.length)
    (hrow : ∀ (i : Nat) (h : i < rows.length),
      joinRow ws skip filler ((d0 :: rest).map (fun d => d.getD i [])) = some rows[i]) :
    joinMat ws skip filler (d0 :: rest) = some rows := by
  have hall : (d0 :: rest).all (fun d => d.length == d0.length) = true := by
    rw [List.all_cons, beq_self_eq_true, Bool.true_and, List.all_eq_true]
    exact fun d hd => beq_iff_eq.mpr (hlen d hd)
  rw [joinMat, if_pos hall, ← allSome_map_some rows]
  congr 1
  apply List.ext_getElem
  · rw [List.length_map, List.length_range, List.length_map, hrows]
  · intro i h₁ h₂
    rw [List.getElem_map, List.getElem_map, List.getElem_range]
    exact hrow i _

theorem joinMat_three (w0 w1 w2 : Nat) (skip : Nat → Bool) (hs : ∀ k, skip k = false) (filler : α)
    (S A R : List (List α)) (hA : A.length = S.length) (hR : R.length = S.length) :
    joinMat [w0, w1, w2] skip filler [S, A, R] = some (falconRows S A R) := by
  refine joinMat_eq_some (fun d hd => ?_) (falconRows_length S A R hA hR) (fun i h => ?_)
  · rcases List.mem_pair.mp hd with rfl | rfl
    exacts [hA, hR]
  · rw [falconRows_getElem]
    exact joinRow_three w0 w1 w2 skip hs filler _ _ _

end Join

section TieSec
variable {F α θ : Type} [Add α] [Sub α] [Mul α] [Div α] [Min α] [Max α] [Zero α] [One α]
  [LT α] [LE α] [DecidableRel (α := α) (· < ·)] [DecidableRel (α := α) (· ≤ ·)]

theorem joinMat_query (chans : List (Chan α)) (hn : chans.length = 3) (S A : List (List α))
    (hA : A.length = S.length) :
    joinMat (widths chans) skipReward (half : α) [S, A] = some (List.zipWith (queryRow chans) S A) := by
  have hlen : (List.zipWith (queryRow chans) S A).length = S.length := by
    rw [List.length_zipWith, hA, Nat.min_self]
  refine joinMat_eq_some (fun d hd => List.mem_singleton.mp hd ▸ hA) hlen (fun i h => ?_)
  have hS : i < S.length := hlen ▸ h
  have hA' : i < A.length := hA ▸ hS
  simp only [List.map_cons, List.map_nil, List.getD_eq_getElem?_getD, List.getElem?_eq_getElem, hS, hA',
    Option.getD_some, List.getElem_zipWith]
  exact joinRow_query chans hn _ _

/-- what ties the abstract nested estimator to the FusionART model: `st` reads the model state off the object;
`centre k` / `prep k` are module `k`'s weight-to-centre map and `prepare_data` (row by row) -/
structure Tie (ops : FusionOps F α) (chans : List (Chan α)) (centre prep : Nat → List α → List α)
    (st : F → ArtState (List α)) (cfg : SearchCfg (List α) θ) (th0 : θ) : Prop where
  nchan : chans.length = 3
  join : ∀ fa data skip, ops.join_channel_data fa data skip
      = joinMat (widths chans) (skipSet chans.length skip) (half : α) data
  fit : ∀ fa X, st (ops.fit fa X) = Art.fit (fusionKernel chans) cfg th0 noVeto (st fa) X
  partial_fit : ∀ fa X, st (ops.partial_fit fa X) = partialFit (fusionKernel chans) cfg th0 noVeto (st fa) X
  predict : ∀ fa X skip, ops.predict fa X skip = allSome (predictSkip chans skip (st fa).W X)
  centers : ∀ fa k, ops.get_channel_centers fa k = channelCentres chans centre (st fa).W k
  prepare : ∀ fa k X, ops.module_prepare_data fa k X = X.map (prep k)

variable {ops : FusionOps F α} {chans : List (Chan α)} {centre prep : Nat → List α → List α}
  {st : F → ArtState (List α)} {cfg : SearchCfg (List α) θ} {th0 : θ}

theorem Tie.join3 (T : Tie ops chans centre prep st cfg th0) (fa : F) (S A R : List (List α))
    (hA : A.length = S.length) (hR : R.length = S.length) :
    ops.join_channel_data fa [S, A, R] [] = some (falconRows S A R) := by
  rw [T.join]
  match chans, T.nchan with
  | [c0, c1, c2], _ =>
    exact joinMat_three _ _ _ _ (fun _ => rfl) _ S A R hA hR

theorem Tie.join2 (T : Tie ops chans centre prep st cfg th0) (fa : F) (S A : List (List α))
    (hA : A.length = S.length) :
    ops.join_channel_data fa [S, A] [2] = some (List.zipWith (queryRow chans) S A) := by
  rw [T.join, T.nchan]
  exact joinMat_query chans T.nchan S A hA

/-- **`FALCON.fit`** = the model's `falconFit` -/
theorem falcon_fit_spec (T : Tie ops chans centre prep st cfg th0) (fa : F) (S A R : List (List α))
    (hA : A.length = S.length) (hR : R.length = S.length) :
    (Art.Gen.FALCON.fit ops fa S A R).map st = some (falconFit chans cfg th0 (st fa) S A R) := by
  unfold Art.Gen.FALCON.fit
  rw [T.join3 fa S A R hA hR]
  dsimp only [Option.bind_eq_bind, Option.bind_some, Option.pure_def, Option.map_some]
  rw [T.fit]
  rfl

/-- **`FALCON.partial_fit`** = the model's `falconPartialFit` -/
theorem falcon_partial_fit_spec (T : Tie ops chans centre prep st cfg th0) (fa : F) (S A R : List (List α))
    (hA : A.length = S.length) (hR : R.length = S.length) :
    (Art.Gen.FALCON.partial_fit ops fa S A R).map st = some (falconPartialFit chans cfg th0 (st fa) S A R) := by
  unfold Art.Gen.FALCON.partial_fit
  rw [T.join3 fa S A R hA hR]
  dsimp only [Option.bind_eq_bind, Option.bind_some, Option.pure_def, Option.map_some]
  rw [T.partial_fit]
  rfl

theorem predict_rows (T : Tie ops chans centre prep st cfg th0) (fa : F) (X : List (List α)) :
    ops.predict fa X [2] = allSome (X.map (stepPredSkip chans skipReward (st fa).W)) := by
  rw [T.predict, predictSkip, T.nchan]
  rfl

/-- **`FALCON.get_rewards`** = the model's `getRewards` (all of them present, or the call raises) -/
theorem get_rewards_spec (T : Tie ops chans centre prep st cfg th0) (fa : F) (S A : List (List α))
    (hA : A.length = S.length) :
    get_rewards ops fa S A = allSome (getRewards chans (centre 2) (st fa).W S A) := by
  unfold get_rewards
  rw [T.join2 fa S A hA]
  simp only [Option.bind_eq_bind, Option.bind_some, predict_rows T, T.centers]
  have := allSome_bind_mapM (stepPredSkip chans skipReward (st fa).W)
    (fun c => (channelCentres chans centre (st fa).W 2)[c]?) (List.zipWith (queryRow chans) S A)
  simp only [mapM_eq_allSome] at this ⊢
  rw [this, List.map_zipWith]
  rfl

theorem actions_body (T : Tie ops chans centre prep st cfg th0) (fa : F) (state a : List α) (vc : List Nat) :
    ((ops.join_channel_data fa [[state], [a]] [2]).bind fun d =>
      (ops.predict fa d [2]).bind fun c => c[0]?.bind fun x => some (vc ++ [x]))
      = (rewardCategory chans (st fa).W state a).bind (fun c => some (vc ++ [c])) := by
  rw [T.join2 fa [state] [a] rfl]
  simp only [Option.bind_some, predict_rows T, List.zipWith, List.map, rewardCategory]
  cases stepPredSkip chans skipReward (st fa).W (queryRow chans state a) <;> rfl

/-- **`FALCON.get_actions_and_rewards`** = the model's `actionSpace` and `actionRewards` -/
theorem get_actions_and_rewards_spec (T : Tie ops chans centre prep st cfg th0) (fa : F) (state : List α)
    (space : Option (List (List α))) :
    get_actions_and_rewards ops fa state space
      = (allSome (actionRewards chans (centre 1) (centre 2) (prep 1) (st fa).W state space)).map
          (fun rs => (actionSpace chans (centre 1) (st fa).W space, rs)) := by
  unfold get_actions_and_rewards
  -- the loop appends one category per member of the action space; the centres are then read off in one `mapM`
  cases space <;>
  · simp only [Option.bind_eq_bind, Option.pure_def, Option.bind_some, T.prepare, T.centers, actions_body T,
      foldlM_append, List.nil_append, mapM_eq_allSome, List.map_map, Function.comp_def, Option.map_id']
    rw [← Option.bind_assoc, allSome_bind_mapM, Option.map_eq_bind]
    rfl

end TieSec

section Sarsa
variable {F α : Type} [Add α] [Sub α] [Mul α] [Div α] [Min α] [Max α] [Zero α] [One α]
  [LT α] [LE α] [DecidableRel (α := α) (· < ·)] [DecidableRel (α := α) (· ≤ ·)]

/-- the SARSA line of `calculate_SARSA` on whole lists, the way numpy evaluates it:
`clip(Q[:-1] + td_alpha * (r[:-1] + td_lambda * Q[1:] - Q[:-1]))` -/
def sarsaVec (al la : α) (Qs rs : List α) : List α :=
  ((List.zipWith (· + ·) Qs.dropLast
      ((List.zipWith (· - ·) (List.zipWith (· + ·) rs.dropLast ((Qs.drop 1).map (la * ·))) Qs.dropLast).map
        (al * ·))).map (min · 1)).map (max · 0)

theorem sarsaList_eq_vec (al la : α) : ∀ (Qs rs : List α), Qs.length = rs.length →
    sarsaList al la Qs rs = sarsaVec al la Qs rs
  | [], [], _ => rfl
  | [_], [_], _ => rfl
  | q :: q' :: Qs, r :: r' :: rs, h => by
    rw [sarsaList, sarsaList_eq_vec al la (q' :: Qs) (r' :: rs) (Nat.succ.inj h)]
    rfl
  | [], _ :: _, h => nomatch h
  | _ :: _, [], h => nomatch h
  | [_], _ :: _ :: _, h => nomatch h
  | _ :: _ :: _, [_], h => nomatch h

/-- the numpy arithmetic of the SARSA line on `(n, 1)` arrays, followed by any continuation `k` -/
theorem sarsa_chain {β : Type} (al la : α) (Qs rs : List α) (h : Qs.length = rs.length)
    (k : List (List α) → Option β) :
    ((npAdd (pyDropLast (col rs) 1) (npSMul la (List.drop 1 (col Qs)))).bind fun x1 =>
      (npSub x1 (pyDropLast (col Qs) 1)).bind fun x2 =>
        (npAdd (pyDropLast (col Qs) 1) (npSMul al x2)).bind fun x3 =>
          (compliment_code (npMaximumS (npMinimumS x3 1) 0)).bind k)
      = k ((sarsaList al la Qs rs).map ccScalar) := by
  rw [sarsaList_eq_vec al la Qs rs h]
  simp only [pyDropLast_col, drop_col, npSMul_col, npAdd, npSub, npZip2_col, npMinimumS_col, npMaximumS_col,
    compliment_code_col, Option.bind_some, List.length_dropLast, List.length_drop, List.length_map,
    List.length_zipWith, h, Nat.min_self]
  rfl

end Sarsa

section SarsaSpec
variable {F α : Type} [Add α] [Sub α] [Mul α] [Div α] [Min α] [Max α] [Zero α] [One α]
  [LT α] [LE α] [DecidableRel (α := α) (· < ·)] [DecidableRel (α := α) (· ≤ ·)]

/-- **`TD_FALCON.calculate_SARSA`** = the model's `calcSarsa`: for width-2 (complement-coded scalar) reward rows,
as many actions and rewards as states, and — when `modules[0]` has a `W` — a `get_rewards` that returns the scalar
reward centres `Q s a` as an `(n, 1)` array. -/
theorem calculate_SARSA_spec (ops : FusionOps F α) (fa : F) (al la : α) (S A R : List (List α)) (ssr : Option α)
    (Q : List α → List α → α) (hR2 : ∀ r ∈ R, r.length = 2) (hA : A.length = S.length) (hR : R.length = S.length)
    (hQ : ops.module_has_W fa 0 = true → get_rewards ops fa S A = some (col (List.zipWith Q S A))) :
    TD_FALCON.calculate_SARSA ops fa al la S A R ssr
      = some (calcSarsa al la (ops.module_has_W fa 0) Q S A R ssr) := by
  unfold TD_FALCON.calculate_SARSA
  rw [de_compliment_code_eq R hR2]
  by_cases hn : 1 < S.length
  · rw [calcSarsa_of_lt al la _ Q S A R ssr hn]
    cases htr : ops.module_has_W fa 0 with
    | true =>
      simp only [gt_iff_lt, hn, decide_true, ↓reduceIte, hQ htr, sarsaQs]
      dsimp only [Option.bind_eq_bind, Option.bind_some, Option.pure_def]
      rw [sarsa_chain al la _ _ (by rw [List.length_zipWith, hA, Nat.min_self, List.length_map, hR])]
      simp only [pyDropLast_one, Option.bind_some]
    | false =>
      simp only [gt_iff_lt, hn, decide_true, ↓reduceIte, Bool.false_eq_true, sarsaQs]
      dsimp only [Option.bind_eq_bind, Option.bind_some, Option.pure_def]
      rw [npZerosLike_col, sarsa_chain al la _ _ (by rw [List.length_map])]
      simp only [pyDropLast_one, Option.bind_some]
  · rw [calcSarsa_of_not_lt al la _ Q S A R ssr hn]
    simp only [gt_iff_lt, hn, decide_false, Bool.false_eq_true, ↓reduceIte, Option.bind_eq_bind, Option.bind_some]
    cases ssr with
    | none => rfl
    | some v => rfl

end SarsaSpec

section Greedy
variable {F α θ : Type} [Field α] [LinearOrder α] [IsStrictOrderedRing α]
variable {ops : FusionOps F α} {chans : List (Chan α)} {centre prep : Nat → List α → List α}
  {st : F → ArtState (List α)} {cfg : SearchCfg (List α) θ} {th0 : θ}

/-- **`FALCON.get_action`** = the model's `getAction` (`optimality == "max"` is the model's `maximize`) -/
theorem get_action_spec (T : Tie ops chans centre prep st cfg th0) (fa : F) (state : List α)
    (space : Option (List (List α))) (optimality : String) :
    get_action ops fa state space optimality
      = getAction chans (centre 1) (centre 2) (prep 1) (st fa).W state space (optimality == "max") := by
  unfold get_action getAction
  rw [get_actions_and_rewards_spec T]
  cases allSome (actionRewards chans (centre 1) (centre 2) (prep 1) (st fa).W state space) with
  | none => rfl
  | some rs =>
    dsimp only [Option.map_some, Option.bind_eq_bind, Option.bind_some]
    rw [npArgmax_eq, npArgmin_eq]
    cases (optimality == "max") with
    | true => cases argmaxFirst rs.flatten <;> rfl
    | false => cases argminFirst rs.flatten <;> rfl

end Greedy

section Model
variable {F α θ : Type} [Field α] [LinearOrder α] [IsStrictOrderedRing α]
variable {ops : FusionOps F α} {chans : List (Chan α)} {centre prep : Nat → List α → List α}
  {st : F → ArtState (List α)} {cfg : SearchCfg (List α) θ} {th0 : θ}

/-- scalar reward centres: `get_rewards` is the `(n, 1)` array of the model's `qValue` -/
theorem get_rewards_scalar (T : Tie ops chans centre prep st cfg th0) (fa : F) (S A : List (List α))
    (hA : A.length = S.length)
    (hsc : ∀ (i : Nat) (s a : List α), S[i]? = some s → A[i]? = some a →
      ∃ q, getReward chans (centre 2) (st fa).W s a = some [q]) :
    get_rewards ops fa S A = some (col (List.zipWith (qValue chans (centre 2) (st fa).W) S A)) := by
  rw [get_rewards_spec T fa S A hA, ← allSome_map_some (col _)]
  congr 1
  apply List.ext_getElem?
  intro i
  simp only [getRewards, col, List.getElem?_map, List.getElem?_zipWith]
  cases hs : S[i]? with
  | none => rfl
  | some s =>
    cases ha : A[i]? with
    | none => rfl
    | some a =>
      obtain ⟨q, hq⟩ := hsc i s a hs ha
      simp only [qValue, hq, Option.map_some, Option.getD_some, List.getD_cons_zero]

/-- **`TD_FALCON.calculate_SARSA`** on top of the FusionART model: `Q` = the model's `qValue` -/
theorem calculate_SARSA_model (T : Tie ops chans centre prep st cfg th0) (fa : F) (al la : α)
    (S A R : List (List α)) (ssr : Option α)
    (hR2 : ∀ r ∈ R, r.length = 2) (hA : A.length = S.length) (hR : R.length = S.length)
    (hsc : ops.module_has_W fa 0 = true → ∀ (i : Nat) (s a : List α), S[i]? = some s → A[i]? = some a →
      ∃ q, getReward chans (centre 2) (st fa).W s a = some [q]) :
    TD_FALCON.calculate_SARSA ops fa al la S A R ssr
      = some (calcSarsa al la (ops.module_has_W fa 0) (qValue chans (centre 2) (st fa).W) S A R ssr) :=
  calculate_SARSA_spec ops fa al la S A R ssr _ hR2 hA hR
    (fun htr => get_rewards_scalar T fa S A hA (hsc htr))

theorem calcSarsa_lengths (al la : α) (trained : Bool) (Q : List α → List α → α) (S A R : List (List α))
    (ssr : Option α) (hA : A.length = S.length) (hR : R.length = S.length) (h0 : 0 < S.length) :
    (calcSarsa al la trained Q S A R ssr).2.1.length = (calcSarsa al la trained Q S A R ssr).1.length ∧
    (calcSarsa al la trained Q S A R ssr).2.2.length = (calcSarsa al la trained Q S A R ssr).1.length := by
  by_cases hn : 1 < S.length
  · rw [calcSarsa_of_lt al la trained Q S A R ssr hn]
    simp only [List.length_dropLast, List.length_map, sarsaList_episode_length al la trained Q S A R hA hR, hA,
      true_and]
  · rw [calcSarsa_of_not_lt al la trained Q S A R ssr hn]
    refine ⟨hA, ?_⟩
    cases ssr with
    | none => exact hR
    | some v => exact (Nat.le_antisymm (Nat.not_lt.mp hn) h0).symm

/-- **`TD_FALCON.partial_fit`** = the model's `tdPartialFit` -/
theorem td_partial_fit_spec (T : Tie ops chans centre prep st cfg th0) (fa : F) (al la : α)
    (S A R : List (List α)) (ssr : Option α)
    (hR2 : ∀ r ∈ R, r.length = 2) (hA : A.length = S.length) (hR : R.length = S.length) (h0 : 0 < S.length)
    (hsc : ops.module_has_W fa 0 = true → ∀ (i : Nat) (s a : List α), S[i]? = some s → A[i]? = some a →
      ∃ q, getReward chans (centre 2) (st fa).W s a = some [q]) :
    (TD_FALCON.partial_fit ops fa al la S A R ssr).map st
      = some (tdPartialFit chans cfg th0 (centre 2) al la (ops.module_has_W fa 0) (st fa) S A R ssr) := by
  unfold TD_FALCON.partial_fit
  rw [calculate_SARSA_model T fa al la S A R ssr hR2 hA hR hsc]
  obtain ⟨h1, h2⟩ := calcSarsa_lengths al la (ops.module_has_W fa 0) (qValue chans (centre 2) (st fa).W) S A R ssr
    hA hR h0
  dsimp only [Option.bind_eq_bind, Option.bind_some]
  rw [T.join3 fa _ _ _ h1 h2]
  dsimp only [Option.bind_some, Option.pure_def, Option.map_some]
  rw [T.partial_fit]
  rfl

/-! ### the C16 property theorems, transported to the generated code -/

/-- **SARSA targets of the generated `calculate_SARSA`** (transport of `C16.sarsa_target_formula`): the call succeeds,
keeps all states and actions but the last, and its `i`-th target row (`i + 1 < n`) is the complement code of
`clip(Q_i + td_alpha (r_i + td_lambda Q_{i+1} - Q_i), 0, 1)`. -/
theorem gen_sarsa_target_formula (ops : FusionOps F α) (fa : F) (al la : α) (S A R : List (List α)) (ssr : Option α)
    (Q : List α → List α → α) (hR2 : ∀ r ∈ R, r.length = 2) (hA : A.length = S.length) (hR : R.length = S.length)
    (hQ : ops.module_has_W fa 0 = true → get_rewards ops fa S A = some (col (List.zipWith Q S A)))
    (hn : 1 < S.length) (i : Nat) (hi : i + 1 < S.length) :
    let Qs := if ops.module_has_W fa 0 then List.zipWith Q S A else (R.map deccScalar).map (fun _ => (0 : α))
    ∃ out, TD_FALCON.calculate_SARSA ops fa al la S A R ssr = some out ∧
      out.1 = S.dropLast ∧ out.2.1 = A.dropLast ∧
      out.2.2[i]? = some (ccScalar (clip01 (Qs.getD i 0 +
        al * (deccScalar (R.getD i []) + la * Qs.getD (i + 1) 0 - Qs.getD i 0)))) := by
  intro Qs
  refine ⟨_, calculate_SARSA_spec ops fa al la S A R ssr Q hR2 hA hR hQ, ?_⟩
  exact Art.C16.sarsa_target_formula al la (ops.module_has_W fa 0) Q S A R ssr hn hA hR i hi

/-- **targets of the generated `calculate_SARSA` are valid reward rows** (transport of `C16.sarsa_target_valid`) -/
theorem gen_sarsa_target_valid (ops : FusionOps F α) (fa : F) (tol al la : α) (htol : 0 ≤ tol)
    (S A R : List (List α)) (ssr : Option α)
    (Q : List α → List α → α) (hR2 : ∀ r ∈ R, r.length = 2) (hA : A.length = S.length) (hR : R.length = S.length)
    (hQ : ops.module_has_W fa 0 = true → get_rewards ops fa S A = some (col (List.zipWith Q S A)))
    (hn : 1 < S.length) :
    ∃ out, TD_FALCON.calculate_SARSA ops fa al la S A R ssr = some out ∧
      ∀ row ∈ out.2.2, validRewardRow tol row = true ∧ ∃ t, 0 ≤ t ∧ t ≤ 1 ∧ row = [t, 1 - t] :=
  ⟨_, calculate_SARSA_spec ops fa al la S A R ssr Q hR2 hA hR hQ,
    Art.C16.sarsa_target_valid tol al la htol (ops.module_has_W fa 0) Q S A R ssr hn⟩

/-- **the generated `get_action` is greedy, first on ties** (transport of `C16.get_action_greedy`) -/
theorem gen_get_action_greedy (T : Tie ops chans centre prep st cfg th0) (fa : F) (state : List α)
    (space : Option (List (List α))) (vs : List α)
    (hvs : actionRewards chans (centre 1) (centre 2) (prep 1) (st fa).W state space = vs.map (fun v => some [v]))
    (a : List α) :
    (get_action ops fa state space "max" = some a →
      ∃ i v, (actionSpace chans (centre 1) (st fa).W space)[i]? = some a ∧ IsFirstMax (vs.map some) i v) ∧
    (∀ opt : String, opt ≠ "max" → get_action ops fa state space opt = some a →
      ∃ i v, (actionSpace chans (centre 1) (st fa).W space)[i]? = some a ∧ IsFirstMin vs i v) := by
  have h := Art.C16.get_action_greedy chans (centre 1) (centre 2) (prep 1) (st fa).W state space vs hvs a
  refine ⟨fun hg => h.1 (by rw [get_action_spec T] at hg; simpa using hg), fun opt hopt hg => h.2 ?_⟩
  rw [get_action_spec T] at hg
  have : (opt == "max") = false := by simpa using hopt
  rwa [this] at hg

end Model
/-! ### the hypotheses are satisfiable, and the generated code runs: three FuzzyART channels over ℚ
(alpha = 1/4, beta = 1, rho = 3/4 each; identity bounds) — the nested estimator is the model state itself -/
section Example

def exCh : List (Chan ℚ) :=
  [⟨fuzzyKernel (1/4) 1 1, 2, 1/4, 2⟩, ⟨fuzzyKernel (1/4) 1 1, 2, 1/4, 2⟩, ⟨fuzzyKernel (1/4) 1 1, 2, 1/2, 2⟩]
def exCfg : SearchCfg (List ℚ) (List ℚ) := fusionCfg .plus (· + 0) (· - 0) 0
def exTh : List ℚ := [3/4, 3/4, 3/4]
/-- `prepare_data` of a FuzzyART with identity bounds: complement coding -/
def exCC (v : List ℚ) : List ℚ := v ++ vcompl v

/-- a FusionART as an object: its model state -/
def exOps : FusionOps (ArtState (List ℚ)) ℚ :=
  { join_channel_data := fun _ data skip => joinMat (widths exCh) (skipSet exCh.length skip) half data
    fit := fun s X => Art.fit (fusionKernel exCh) exCfg exTh noVeto s X
    partial_fit := fun s X => partialFit (fusionKernel exCh) exCfg exTh noVeto s X
    predict := fun s X skip => allSome (predictSkip exCh skip s.W X)
    get_channel_centers := fun s k => channelCentres exCh (fun _ => fuzzyCentre) s.W k
    module_prepare_data := fun _ _ X => X.map exCC
    module_has_W := fun s _ => !s.W.isEmpty }

theorem exTie : Tie exOps exCh (fun _ => fuzzyCentre) (fun _ => exCC) id exCfg exTh :=
  ⟨rfl, fun _ _ _ => rfl, fun _ _ => rfl, fun _ _ => rfl, fun _ _ _ => rfl, fun _ _ => rfl, fun _ _ _ => rfl⟩

def exS : List (List ℚ) := [[0, 1], [1, 0], [0, 1]]
def exA : List (List ℚ) := [[0, 1], [0, 1], [1, 0]]
def exR : List (List ℚ) := [[1/4, 3/4], [1, 0], [1/2, 1/2]]
/-- the generated `FALCON.fit` run on an untrained object -/
def exFa : ArtState (List ℚ) := (Art.Gen.FALCON.fit exOps {} exS exA exR).getD {}

example : exFa.labels = [0, 1, 2] := by decide +kernel
-- the generated get_rewards: the reward centres of the three training pairs
example : get_rewards exOps exFa exS exA = some [[1/4], [1], [1/2]] := by decide +kernel
-- greedy action in state [0,1] over the action space {0, 1}: action 1 pays 1/2 > 1/4; "min" picks action 0
example : get_action exOps exFa [0, 1] (some [[0], [1]]) "max" = some [1] := by decide +kernel
example : get_action exOps exFa [0, 1] (some [[0], [1]]) "min" = some [0] := by decide +kernel
-- ties go to the first member; default action space = the action-channel centres
example : get_actions_and_rewards exOps exFa [0, 1] (some [[1], [1], [0]])
    = some ([[1], [1], [0]], [[1/2], [1/2], [1/4]]) := by decide +kernel
example : get_action exOps exFa [1, 0] none "max" = some [0] := by decide +kernel
-- SARSA on the same episode with the trained object, td_alpha = td_lambda = 1/2 (second target clipped to 1)
example : TD_FALCON.calculate_SARSA exOps exFa (1/2) (1/2) exS exA exR none
    = some ([[0, 1], [1, 0]], [[0, 1], [0, 1]], [[1/2, 1/2], [1, 0]]) := by decide +kernel
-- untrained object: clip(alpha * r)
example : (TD_FALCON.calculate_SARSA exOps {} (1/2) 1 exS exA exR none).map (·.2.2)
    = some [[1/8, 7/8], [1/2, 1/2]] := by decide +kernel
-- single transition with single_sample_reward; a reward row of odd width makes de_compliment_code raise
example : TD_FALCON.calculate_SARSA exOps exFa 1 1 [[0, 1]] [[1, 0]] [[1/4, 3/4]] (some (1/3))
    = some ([[0, 1]], [[1, 0]], [[1/3, 2/3]]) := by decide +kernel
example : TD_FALCON.calculate_SARSA exOps exFa 1 1 [[0, 1]] [[1, 0]] [[1/4, 3/4, 0]] none = none := by decide +kernel
-- TD partial_fit on the trained object: the two SARSA rows resonate with categories 0 and 1
example : ((TD_FALCON.partial_fit exOps exFa (1/2) (1/2) exS exA exR none).map (·.labels)) = some [0, 1, 2, 0, 1] := by
  decide +kernel

end Example

end Art.GenSpec.Falcon
